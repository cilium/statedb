import SdbModel.Lemmas.Serial
import SdbModel.Lemmas.OMap
import SdbModel.Generated.Protocol

/-!
# C06 — Watch channels: no missed change, no early or spurious-abort wake-up

> A watch channel returned by a query is closed no later than the return of the
> Commit that changes that query's result (…; for table-wide watches, any change
> to the table).  It is never closed by an aborted transaction, is not already
> closed when handed out by a fresh snapshot query, and never closes before the
> change is visible: a read transaction taken after observing the channel closed
> sees a newer table revision than the snapshot the channel came from.

What is proved here is the ORDERING half, for every interleaving of any number
of transactions (Model.Serial): a table-level watch channel is identified with
the version `(table, revision)` of the table it was handed out with; the commit
of a transaction `t` closes the channels `(x, t.old x)` of the versions it
replaced, in its notify step, which the regenerated protocol places after the
root store and before the table locks are released and Commit returns.  Which
channels a commit must close per key / prefix is the subject of C12 (Model.Art)
and of the table-suite oracle.
-/
namespace Sdb
open Serial

/-- channels a transaction closes when it notifies: the versions of its tables
    that it replaced (nothing for an aborted transaction) -/
def Serial.closes (t : Txn) : List (Nat × Nat) :=
  if t.commit ∧ (t.phase = .stored ∨ t.phase = .done) then t.tabs.map fun x => (x, t.old x) else []

/-- the new versions of a committed transaction's tables are visible before it
    notifies and stay visible: the invariant behind "never closes early" -/
def Serial.Newer (s : State) : Prop :=
  ∀ (i : Nat) (t : Txn), s.txns[i]? = some t → (t.phase = .stored ∨ t.phase = .done) → t.commit = true →
    ∀ x ∈ t.tabs, t.old x < s.root x

private theorem newer_step (s s' : State) (inv : Inv s) (h : Newer s) (hst : Step s s') : Newer s' := by
  cases hst with
  | acquire i t k tb hi hp hk hfree => exact forall_setTxn hi _ _ (fun hph => by simp at hph) fun j u _ => h j u
  | load i t hi hp => exact forall_setTxn hi _ _ (fun hph => by simp at hph) fun j u _ => h j u
  | store i t hi hp hc' =>
    refine forall_setTxn hi _ _ (fun _ _ x hx => ?_) fun j u _ hj hph hc x hx => ?_
    · show t.old x < if x ∈ t.tabs then t.old x + 1 else s.root x
      rw [if_pos hx]; exact Nat.lt_succ_self _
    · show u.old x < if x ∈ t.tabs then t.old x + 1 else s.root x
      have := h j u hj hph hc x hx
      split
      · rename_i hxt; rw [inv.sees i t hi hp x hxt]; omega
      · exact this
  | abort i t hi hp hc' => exact forall_setTxn hi _ _ (fun _ hc => by simp [hc'] at hc) fun j u _ => h j u
  | release i t tb hi hp hk => exact forall_setTxn hi _ _ (h i t hi) fun j u _ => h j u
  | finish i t hi hp hk => exact forall_setTxn hi _ _ (fun _ => h i t hi (.inl hp)) fun j u _ => h j u
  | spawn t ha hp hr => exact LB.forall_concat t _ (fun hph => by simp [hp] at hph) h

private theorem newer_reachable (s : State) (hr : Reachable s) : Newer s := by
  induction hr with
  | init => intro i t hi; simp at hi
  | step s s' hr hst ih => exact newer_step s s' (inv_reachable s hr) ih hst

/-- **never closes before the change is visible**: whenever a channel
    `(x, r)` has been (or is being) closed by a commit, every read transaction
    taken from then on sees table `x` at a revision newer than `r` -/
theorem C06_closed_implies_newer_revision (s : State) (hr : Reachable s) (i : Nat) (t : Txn)
    (hi : s.txns[i]? = some t) (x r : Nat) (hc : (x, r) ∈ closes t) : r < s.root x := by
  unfold closes at hc
  split at hc
  · rename_i hcond
    simp only [List.mem_map, Prod.mk.injEq] at hc
    obtain ⟨y, hy, rfl, rfl⟩ := hc
    exact newer_reachable s hr i t hi hcond.2 hcond.1 y hy
  · simp at hc

/-- **not already closed when handed out by a fresh snapshot**: the channel of
    the current version of a table has not been closed by anybody -/
theorem C06_fresh_channel_open (s : State) (hr : Reachable s) (i : Nat) (t : Txn)
    (hi : s.txns[i]? = some t) (x : Nat) : (x, s.root x) ∉ closes t := by
  intro hc
  have := C06_closed_implies_newer_revision s hr i t hi x (s.root x) hc
  omega

/-- **never closed by an aborted transaction**: by the definition of `closes`, which gives a transaction with
    `commit = false` no channel (that Abort has no notify step in the source is the last-but-one clause of
    `C06_notify_between_store_and_return`) -/
theorem C06_abort_closes_nothing (t : Txn) (h : t.commit = false) : closes t = [] := by
  simp [closes, h]

/-- **closed no later than the return of Commit**, after the store, while the
    tables are still held; Abort has no notify step at all — read off the
    CURRENT source (regenerated protocol) -/
theorem C06_notify_between_store_and_return :
    Conc.idx Gen.protocol.commit .storeRoot < Conc.idx Gen.protocol.commit .notify ∧
    Conc.idx Gen.protocol.commit .notify < Conc.idx Gen.protocol.commit .unlockTables ∧
    Conc.idx Gen.protocol.commit .notify < Gen.protocol.commit.length ∧
    Gen.protocol.abort.contains .notify = false ∧ Gen.protocol.abort.contains .storeRoot = false := by decide

/-- the other half of the definition of `closes`: for a committing transaction past its store, `(x, t.old x)`
    is among its channels for each of its tables `x` -/
theorem C06_commit_closes_replaced_version (t : Txn) (hc : t.commit = true)
    (hp : t.phase = .stored ∨ t.phase = .done) (x : Nat) (hx : x ∈ t.tabs) : (x, t.old x) ∈ closes t := by
  simp only [closes, hc, hp, and_self, if_true, List.mem_map]
  exact ⟨x, hx, rfl⟩

/-! ## from "the query's result changed" to "a key under the query changed"

A table query through a part index hands out the watch channel of the radix-tree node
that covers its key / prefix (C12: that channel is closed by every transaction that
inserts, replaces or deletes a key under it).  What remains for C06's first clause is
that a CHANGED RESULT implies such a key: stated here over the abstract index maps of
`Model.Table` (sorted association lists), for the three query shapes. -/

open Tbl Tbl.OMap in
/-- Get: a changed answer for key `k` is a change at `k` — the hypothesis restated, listed with the other two query shapes -/
theorem C06_get_result_change_is_key_change {α : Type} (m m' : OMap α) (k : Key) (h : m.get k ≠ m'.get k) :
    ∃ k', k' = k ∧ m.get k' ≠ m'.get k' := ⟨k, rfl, h⟩

open Tbl Tbl.OMap in
/-- a query that keeps the entries whose key satisfies `pred`: two versions of an index with
    different answers differ at a key satisfying `pred` -/
private theorem result_change_is_key_change {α : Type} (q : OMap α → OMap α) (pred : Key → Prop)
    (hq : ∀ n, Sorted n → Sorted (q n) ∧ ∀ k v, (q n).get k = some v ↔ (n.get k = some v ∧ pred k))
    (m m' : OMap α) (hm : Sorted m) (hm' : Sorted m') (h : q m ≠ q m') : ∃ k, pred k ∧ m.get k ≠ m'.get k := by
  apply Classical.byContradiction
  intro hne
  refine h (ext_get _ _ (hq m hm).1 (hq m' hm').1 fun k => Option.ext fun v => ?_)
  rw [(hq m hm).2, (hq m' hm').2]
  by_cases hp : pred k
  · rw [show m.get k = m'.get k from Classical.byContradiction fun hk => hne ⟨k, hp, hk⟩]
  · simp [hp]

open Tbl Tbl.OMap in
/-- Prefix / List: if the entries under prefix `p` differ between two versions of an index,
    some key that starts with `p` was inserted, replaced or removed -/
theorem C06_prefix_result_change_is_key_change {α : Type} (m m' : OMap α) (hm : Sorted m) (hm' : Sorted m')
    (p : Key) (h : m.prefixQ p ≠ m'.prefixQ p) :
    ∃ k, p <+: k ∧ m.get k ≠ m'.get k :=
  result_change_is_key_change (·.prefixQ p) (p <+: ·) (fun n hn => ⟨sorted_prefixQ n hn p, fun k v => by
    rw [← mem_iff_get _ (sorted_prefixQ n hn p), mem_prefixQ, mem_iff_get _ hn]⟩) m m' hm hm' h

open Tbl Tbl.OMap in
/-- LowerBound / All: if the entries from bound `b` on differ, some key not below `b` changed
    (with the empty bound: any change of the index — the root watch) -/
theorem C06_lowerBound_result_change_is_key_change {α : Type} (m m' : OMap α) (hm : Sorted m) (hm' : Sorted m')
    (b : Key) (h : m.lowerBound b ≠ m'.lowerBound b) :
    ∃ k, cmpL k b ≠ .lt ∧ m.get k ≠ m'.get k :=
  result_change_is_key_change (·.lowerBound b) (cmpL · b ≠ .lt) (fun n hn => ⟨sorted_lowerBound n hn b, fun k v => by
    rw [← mem_iff_get _ (sorted_lowerBound n hn b), mem_lowerBound, mem_iff_get _ hn]⟩) m m' hm hm' h

/-! ## non-vacuity -/
example : ∃ s, Reachable s ∧ ∃ t, s.txns[0]? = some t ∧ (0, 0) ∈ closes t ∧ s.root 0 = 1 := by
  let t : Txn := { tabs := [0] }
  have s0 : Reachable ({} : State) := .init
  have s1 := Reachable.step _ _ s0 (Step.spawn {} t (by trivial) rfl rfl)
  have s2 := Reachable.step _ _ s1 (Step.acquire _ 0 t 0 0 (by rfl) rfl (by rfl) (by rfl))
  have s3 := Reachable.step _ _ s2 (Step.load _ 0 { t with phase := .acquiring 1 } (by rfl) (by rfl))
  have s4 := Reachable.step _ _ s3 (Step.store _ 0 _ (by rfl) rfl rfl)
  exact ⟨_, s4, _, by rfl, by simp [closes, t], by simp [t]⟩

end Sdb
