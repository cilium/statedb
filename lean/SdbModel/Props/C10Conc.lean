import SdbModel.Props.C05Sim

/-!
# C10 on the interleaving model — no deadlock, every transaction can be completed

> Write transactions never deadlock, whatever tables they request and in whatever
> order; a write transaction is delayed only by transactions that share a table
> with it; readers are never blocked.

`Props/C10.lean` proves this for the abstract protocol `Model.Serial`.  The model
that is compared step by step with the real goroutines is `Model.Conc`, which
interprets the protocol REGENERATED from the source and has the root mutex
(`db.mu`) besides the table mutexes.  The simulation of `Props/C05Sim.lean`
carries the wait-chain argument over; the statements below are those theorems
under the names the C10 audit collects.  `P.simShape` is decided for the
regenerated protocol (`C05_conc_protocol_shape`).
-/
namespace Sdb
open Conc

/-- **no deadlock in `Model.Conc`**: in every reachable state — any number of
    threads and tables, table lists in any order with duplicates, registrations,
    table mutexes AND the root mutex — if some thread is unfinished then some
    unfinished thread is enabled -/
theorem C10_conc_no_deadlock (P : Protocol) (hP : P.simShape = true) (n : Nat) (st : State) (cs : List Bool)
    (h : Reach P n st cs)
    (hex : ∃ (tid : Nat) (th : Thread), st.threads[tid]? = some th ∧ th.done = false) :
    ∃ (tid : Nat) (th : Thread), st.threads[tid]? = some th ∧ th.done = false ∧ th.enabled st = true :=
  C05_conc_no_deadlock P hP n st cs h hex

/-- … for the protocol generated from the current source -/
theorem C10_conc_no_deadlock_generated (n : Nat) (st : State) (cs : List Bool) (h : Reach Gen.protocol n st cs)
    (hex : ∃ (tid : Nat) (th : Thread), st.threads[tid]? = some th ∧ th.done = false) :
    ∃ (tid : Nat) (th : Thread), st.threads[tid]? = some th ∧ th.done = false ∧ th.enabled st = true :=
  C05_conc_no_deadlock _ C05_conc_protocol_shape n st cs h hex

/-- **progress**: a scheduler step of an enabled, unfinished thread strictly
    reduces the remaining work -/
theorem C10_conc_step_progress (st : State) (tid : Nat) (th : Thread) (hth : st.threads[tid]? = some th)
    (hd : th.done = false) (he : th.enabled st = true) : work (step st tid).1 < work st :=
  C05_conc_step_progress st tid th hth hd he

/-- **every transaction can be completed**: from every reachable state some
    schedule of at most `work st` steps finishes every thread -/
theorem C10_conc_can_always_finish (P : Protocol) (hP : P.simShape = true) (n : Nat) (w : Nat) (st : State)
    (cs : List Bool) (h : Reach P n st cs) (hw : work st ≤ w) :
    ∃ sched : List Nat, sched.length ≤ w ∧ Reach P n (runSchedule st sched) cs ∧
      ∀ (tid : Nat) (th : Thread), (runSchedule st sched).threads[tid]? = some th → th.done = true :=
  C05_conc_can_always_finish P hP n w st cs h hw

/-- **a thread waits only for a holder of a table it requested**, read off the owner: the owner of the
    mutex of table `i` is a thread between its acquire and its release of `i`, hence a transaction with `i`
    in its lock order (`C05_conc_owner_is_between`; the blocked thread itself does not occur in the statement) -/
theorem C10_conc_blocked_only_by_sharer (P : Protocol) (hP : P.simShape = true) (n : Nat) (st : State)
    (cs : List Bool) (h : Reach P n st cs) (tid i : Nat) (ho : st.lockOwner.getD i none = some tid) :
    ∃ th, st.threads[tid]? = some th ∧ Micro.release i ∈ th.prog ∧ Micro.acquire i ∉ th.prog :=
  C05_conc_owner_is_between P hP n st cs h tid i ho

end Sdb
