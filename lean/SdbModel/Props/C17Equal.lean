import SdbModel.Model.PMap
import SdbModel.Lemmas.PMap
/-!
  C17: "… Len, Get/Has and the equality predicates all consistent with it".
  `Map.equalWith` models the `switch` of `Map.EqualKeys` / `Map.SlowEqual` (part/map.go):
  lengths, the two-singletons case, the two-empty case and otherwise the loop over the two
  tree iterators, the first one driving.  For maps in canonical representation (every map
  the API builds: `C17_reachable_canonical`) the predicates say exactly "same keys" / "same
  entries".  For a NON-canonical map they do not (note N6): witness below.
-/
namespace Sdb
open Art PMap

/-- the loop over two iterators of equal length compares entry by entry; `f` is what the
    comparison of one pair of entries looks at (the key, or the whole entry) -/
private theorem eqLoop_iff {α : Type} (vals : Bool) (f : KV → α)
    (hf : ∀ k1 v1 k2 v2, (k1 == k2 && (!vals || v1 == v2)) = true ↔ f (k1, v1) = f (k2, v2))
    (l1 l2 : List KV) (h : l1.length = l2.length) : eqLoop vals l1 l2 = true ↔ l1.map f = l2.map f := by
  induction l1 generalizing l2 with
  | nil => cases l2 with
    | nil => simp [eqLoop]
    | cons b r => simp at h
  | cons a r ih =>
    cases l2 with
    | nil => simp at h
    | cons b r2 =>
      obtain ⟨k1, v1⟩ := a
      obtain ⟨k2, v2⟩ := b
      have hl : r.length = r2.length := by simpa using h
      rw [eqLoop, Bool.and_eq_true, hf, ih r2 hl, List.map_cons, List.map_cons, List.cons.injEq]

private theorem equalWith_iff {α : Type} (vals : Bool) (m o : PMap.Map) (hm : MapCanon m) (ho : MapCanon o) (f : KV → α)
    (hf : ∀ k1 v1 k2 v2, (k1 == k2 && (!vals || v1 == v2)) = true ↔ f (k1, v1) = f (k2, v2)) :
    m.equalWith vals o = true ↔ m.all.map f = o.all.map f := by
  have lm := len_length m hm.wf
  have lo := len_length o ho.wf
  unfold Map.equalWith
  by_cases hne : m.len = o.len
  · have hlen' : m.all.length = o.all.length := by rw [← lm, ← lo, hne]
    simp only [hne, bne_self_eq_false, Bool.false_eq_true, if_false]
    -- equal lengths: both maps are in the same representation state (0, 1, at least 2 entries)
    rcases hm.cases with rfl | ⟨⟨k1, v1⟩, rfl⟩ | ⟨t, rfl, _, h2⟩ <;>
      rcases ho.cases with rfl | ⟨⟨k2, v2⟩, rfl⟩ | ⟨t2, rfl, _, h2'⟩
    · exact iff_of_true rfl rfl
    · exact nomatch hlen'
    · exact absurd (Nat.le_trans h2' (Nat.le_of_eq hlen'.symm)) (by decide : ¬ 2 ≤ 0)
    · exact nomatch hlen'
    · exact (hf k1 v1 k2 v2).trans (by simp only [Map.all, List.map_cons, List.map_nil, List.cons.injEq, and_true])
    · exact absurd (Nat.le_trans h2' (Nat.le_of_eq hlen'.symm)) (by decide : ¬ 2 ≤ 1)
    · exact absurd (Nat.le_trans h2 (Nat.le_of_eq hlen')) (by decide : ¬ 2 ≤ 0)
    · exact absurd (Nat.le_trans h2 (Nat.le_of_eq hlen')) (by decide : ¬ 2 ≤ 1)
    · exact eqLoop_iff vals f hf _ _ hlen'
  · have hne' : (m.len != o.len) = true := by simpa using hne
    simp only [hne', if_true, Bool.false_eq_true, false_iff]
    intro hp
    apply hne
    rw [lm, lo]
    simpa using congrArg List.length hp

/-- **EqualKeys holds exactly when both maps have the same keys** (canonical maps) -/
theorem C17_map_equalKeys_iff (m o : PMap.Map) (hm : MapCanon m) (ho : MapCanon o) :
    m.equalKeys o = true ↔ m.all.map (·.1) = o.all.map (·.1) :=
  equalWith_iff false m o hm ho (·.1) (by simp)

/-- **SlowEqual holds exactly when both maps have the same entries** (canonical maps) -/
theorem C17_map_slowEqual_iff (m o : PMap.Map) (hm : MapCanon m) (ho : MapCanon o) :
    m.slowEqual o = true ↔ m.all = o.all :=
  (equalWith_iff true m o hm ho id (by simp)).trans (by rw [List.map_id, List.map_id])

/-- both predicates are reflexive and symmetric on canonical maps, SlowEqual implies EqualKeys -/
theorem C17_map_equal_laws (m o : PMap.Map) (hm : MapCanon m) (ho : MapCanon o) :
    m.slowEqual m = true ∧ m.equalKeys m = true ∧
    (m.slowEqual o = o.slowEqual m) ∧ (m.equalKeys o = o.equalKeys m) ∧
    (m.slowEqual o = true → m.equalKeys o = true) := by
  refine ⟨(C17_map_slowEqual_iff m m hm hm).2 rfl, (C17_map_equalKeys_iff m m hm hm).2 rfl, ?_, ?_, ?_⟩
  · rw [Bool.eq_iff_iff, C17_map_slowEqual_iff m o hm ho, C17_map_slowEqual_iff o m ho hm]; exact eq_comm
  · rw [Bool.eq_iff_iff, C17_map_equalKeys_iff m o hm ho, C17_map_equalKeys_iff o m ho hm]; exact eq_comm
  · intro h
    rw [C17_map_slowEqual_iff m o hm ho] at h
    rw [C17_map_equalKeys_iff m o hm ho, h]

/-- note N6: on a NON-canonical map (a one-entry tree, as decoding input with duplicate keys
    produces) the predicates are wrong — a singleton {a ↦ 1} is reported equal to the
    one-entry tree {b ↦ 2} -/
theorem C17_map_equal_noncanonical_refuted :
    let single : PMap.Map := { single := some ([97], 1) }
    let tree1 : PMap.Map := { tree := some (commitT (insT defaultParams (txnOf emptyTree) [98] 2)) }
    single.slowEqual tree1 = true ∧ single.all ≠ tree1.all := by decide +kernel

end Sdb
