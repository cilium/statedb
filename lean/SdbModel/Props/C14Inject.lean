import SdbModel.Props.C14
import SdbModel.Lemmas.ReconcilerInjectTimer

/-!
# C14 — Reconciler converges … with user writes landing WHILE an Update runs

> For any history of inserts, updates and deletes on the reconciled table and
> any pattern of failing Update/Delete operations, once operations stop failing
> and the table stops changing the reconciler reaches, within a bounded number
> of retry periods, a state where the target equals the table (…).  No object is
> forgotten, whatever the round size, rate limits, batch or single operations,
> or retry timing.

`Props/C14.lean` proves this over `Model.Reconciler` for runs in which the table
is written only BETWEEN rounds (`injects = []`).  Here the writes queued in
`R.injects` land from inside `Operations.Update`, i.e. between the reconciler's
snapshot and its status commit (single operations, `R.round`): any number of
`put` / `del` writes to any ids, queued for the Update of any object, and
`touch` writes (a foreign writer's own field) under the explicit hypothesis
`R.roundSafe`: a `touch` never lands on an object whose status is Error at that
moment (that is known finding K4, `C14_touch_on_error_refuted`).

* `WInv` itself is NOT preserved (`C14_inject_winv_refuted`, a benign finding: a
  retry that was popped, failed, and whose result was dropped because the user
  rewrote the object from inside an Update of the same round stays in the retry
  map OUTSIDE the time queue until the change stream clears it; `WInv` says every item is
  queued).  The invariant proved for every state reachable with such writes is
  `JWInv` = `WInv` with exactly this weakening, without `injects = []`, and with the
  freshness of status ids that the fallback of `commitStatus` onto a Pending object needs:
  `C14_inject_inv_initial` … `C14_inject_inv_round`, `C14_inject_inv_reachable`.
* nothing is forgotten: `C14_inject_inv_nothing_forgotten` (the statement of
  `C14_inv_nothing_forgotten`, verbatim), `C14_inject_idle_nothing_forgotten`.
* convergence once the user stopped writing, also during Updates
  (`failing = []`, `injects = []`): every triggered round decreases the measure of
  `Props/C14.lean` (`C14_inject_round_decreases_measure`), the loop goes idle with
  explicit fuel and the idle state satisfies `WInv` (`C14_inject_quiesce_goes_idle`),
  later than the maximal backoff target = table, from ANY reachable state
  (`C14_inject_converged_quiesce`, `C14_inject_converges_after_writes_stop`;
  through `advance`: `C14_inject_converged_when_idle`,
  `C14_inject_converged_advance_partial`).
* the hypothesis on `touch` is necessary also for writes from inside an Update:
  `C14_inject_touch_on_error_refuted`.
-/
namespace Sdb
open Rec

/-! ## the reachable states -/

/-- the states reachable from the initial one by the steps of `C14Reachable`
    (user writes and deletes, foreign status writes on non-Error objects,
    switching failures, running the loop, letting time pass) AND by queueing a
    write that will land from inside the Update of object `k` (`inject`).  A
    round may run with anything queued, provided no queued `touch` lands on an
    Error object (`roundSafe`, resp. `quiesceSafe` / `advanceSafe` for all the
    rounds `quiesce` / `advance` run: with no `touch` queued the first two hold
    outright, `C14_inject_no_touch_is_safe`, and the third under `JWInv`,
    whence `C14_inject_inv_quiesce_advance_put_del`). -/
inductive C14InjReachable : R → Prop
  | init (c : Cfg) : C14InjReachable { cfg := c }
  | put {r : R} (id data : Nat) : C14InjReachable r → C14InjReachable (r.userPut id data)
  | del {r : R} (id : Nat) : C14InjReachable r → C14InjReachable (r.delObj id)
  | touch {r : R} (id : Nat) : C14InjReachable r → (∀ o, r.get id = some o → o.kind ≠ .error) → C14InjReachable (r.touch id)
  | fail {r : R} (l : List Nat) : C14InjReachable r → C14InjReachable { r with failing := l }
  | inject {r : R} (k : Nat) (a : Inject) : C14InjReachable r → C14InjReachable { r with injects := r.injects ++ [(k, a)] }
  | round {r : R} : C14InjReachable r → r.roundSafe → C14InjReachable r.round
  | fire {r : R} : C14InjReachable r → C14InjReachable r.fireTimer
  | tick {r : R} (t : Nat) : C14InjReachable r → r.now ≤ t → C14InjReachable { r with now := t }
  | quiesce {r : R} (fuel : Nat) : C14InjReachable r → r.quiesceSafe fuel → C14InjReachable (r.quiesce fuel)
  | advance {r : R} (ms fuel : Nat) : C14InjReachable r → r.advanceSafe ms fuel → C14InjReachable (r.advance ms fuel)

/-- the invariant `JWInv` (bookkeeping `JInv`, iterator position `Sync`, retry
    timer and retry times `QInv`) holds in the initial state … -/
theorem C14_inject_inv_initial (c : Cfg) : JWInv { cfg := c } := JWInv.init c

/-- … is preserved by a user write, … -/
theorem C14_inject_inv_userPut (r : R) (id data : Nat) (h : JWInv r) : JWInv (r.userPut id data) := h.userPut id data

/-- … a user delete, … -/
theorem C14_inject_inv_delObj (r : R) (id : Nat) (h : JWInv r) : JWInv (r.delObj id) := h.delObj id

/-- … a foreign status write on an object that is not in Error state, … -/
theorem C14_inject_inv_touch_not_error (r : R) (id : Nat) (h : JWInv r) (hne : ∀ o, r.get id = some o → o.kind ≠ .error) :
    JWInv (r.touch id) := h.touch id hne

/-- … switching failures, … -/
theorem C14_inject_inv_set_failing (r : R) (l : List Nat) (h : JWInv r) : JWInv { r with failing := l } := h.setFailing l

/-- … queueing ANY write (`put`, `del`, `touch`, for any id) to land from inside the Update of object `k`, … -/
theorem C14_inject_inv_queue_inject (r : R) (k : Nat) (a : Inject) (h : JWInv r) :
    JWInv { r with injects := r.injects ++ [(k, a)] } := h.setInjects _

/-- … **one reconciliation round with arbitrary writes landing during its Updates**
    (`put` / `del`: any; `touch`: not on an Error object, `roundSafe`), … -/
theorem C14_inject_inv_round (r : R) (h : JWInv r) (hs : r.roundSafe) : JWInv r.round := h.round hs

/-- the hypothesis on `touch` holds outright when only `put` / `del` writes are queued;
    a round queues nothing new -/
theorem C14_inject_no_touch_is_safe (r : R) (hn : NoTouch r.injects) :
    r.roundSafe ∧ NoTouch r.round.injects ∧ (∀ fuel, r.quiesceSafe fuel) :=
  ⟨(round_safe_of_noTouch r hn).1, (round_safe_of_noTouch r hn).2.noTouch hn, fun fuel => quiesceSafe_of_noTouch fuel r hn⟩

/-- … one round with only `put` / `del` writes queued (no hypothesis at all), … -/
theorem C14_inject_inv_round_put_del (r : R) (h : JWInv r) (hn : NoTouch r.injects) : JWInv r.round :=
  h.round (round_safe_of_noTouch r hn).1

/-- … the timer firing, time passing, … -/
theorem C14_inject_inv_fire_tick (r : R) (h : JWInv r) (t : Nat) (ht : r.now ≤ t) :
    JWInv r.fireTimer ∧ JWInv { r with now := t } := ⟨h.fireTimer, h.setNow t ht⟩

/-- … running the loop until it goes idle or the fuel ends, … -/
theorem C14_inject_inv_quiesce (r : R) (fuel : Nat) (h : JWInv r) (hs : r.quiesceSafe fuel) : JWInv (r.quiesce fuel) :=
  h.quiesceS fuel hs

/-- … and letting time pass. -/
theorem C14_inject_inv_advance (r : R) (ms fuel : Nat) (h : JWInv r) (hs : r.advanceSafe ms fuel) : JWInv (r.advance ms fuel) :=
  h.advanceS ms fuel hs

/-- with only `put` / `del` writes queued `quiesce` and `advance` need no hypothesis -/
theorem C14_inject_inv_quiesce_advance_put_del (r : R) (h : JWInv r) (hn : NoTouch r.injects) (ms fuel : Nat) :
    JWInv (r.quiesce fuel) ∧ JWInv (r.advance ms fuel) := ⟨(h.quiesce hn fuel).1, (h.advance hn ms fuel).1⟩

/-- hence it holds in every state reachable with writes during Updates -/
theorem C14_inject_inv_reachable {r : R} (h : C14InjReachable r) : JWInv r := by
  induction h with
  | init c => exact JWInv.init c
  | put id data _ ih => exact ih.userPut id data
  | del id _ ih => exact ih.delObj id
  | touch id _ hne ih => exact ih.touch id hne
  | fail l _ ih => exact ih.setFailing l
  | inject k a _ ih => exact ih.setInjects _
  | round _ hs ih => exact ih.round hs
  | fire _ ih => exact ih.fireTimer
  | tick t _ ht ih => exact ih.setNow t ht
  | quiesce fuel _ hs ih => exact ih.quiesceS fuel hs
  | advance ms fuel _ hs ih => exact ih.advanceS ms fuel hs

/-- every state of `C14Reachable` is reachable here (nothing is queued there) -/
theorem C14_inject_reachable_of_reachable {r : R} (h : C14Reachable r) : C14InjReachable r ∧ r.injects = [] := by
  induction h with
  | init c => exact ⟨.init c, rfl⟩
  | put id data _ ih => exact ⟨.put id data ih.1, ih.2⟩
  | del id _ ih => exact ⟨.del id ih.1, (frameW_delObj _ id).injects.trans ih.2⟩
  | touch id _ hne ih => exact ⟨.touch id ih.1 hne, (frameW_touch _ id).injects.trans ih.2⟩
  | fail l _ ih => exact ⟨.fail l ih.1, ih.2⟩
  | @quiesce r0 fuel _ ih =>
    have hn : NoTouch r0.injects := noTouch_nil ih.2
    exact ⟨.quiesce fuel ih.1 (quiesceSafe_of_noTouch fuel _ hn), quiesce_injects_nil fuel _ ih.2⟩
  | @advance r0 ms fuel _ ih =>
    have hn : NoTouch r0.injects := noTouch_nil ih.2
    exact ⟨.advance ms fuel ih.1 (advanceSafe_of_noTouch fuel _ ms hn (C14_inject_inv_reachable ih.1)), advance_injects_nil fuel _ ms ih.2⟩

/-! ## nothing is forgotten -/

/-- **nothing is forgotten** (between any two rounds, whatever landed during the
    Updates): the statement of `C14_inv_nothing_forgotten`, verbatim, from the
    invariant of these runs.  Every live object is Done and the last call logged for it
    is a successful Update with its current data, or it still is to be delivered
    to the loop (Pending, revision beyond the iterator), or it is Error and a
    retry of exactly this version is queued, due within the maximal backoff;
    every retained deletion is still to be delivered, or its Delete is queued for
    a retry, or the last call logged for it is a successful Delete. -/
theorem C14_inject_inv_nothing_forgotten {r : R} (h : JWInv r) :
    (∀ o ∈ r.objs,
      (o.kind = .done ∧ lastCall r.log o.id = some ⟨"U", o.id, o.data, true⟩) ∨
      ((o.kind = .pending ∨ o.kind = .refreshing) ∧ o.rev > r.itRev) ∨
      (o.kind = .error ∧ ∃ it ∈ r.items, it.id = o.id ∧ it.delete = false ∧ it.rev = o.rev ∧ it.inQueue = true ∧
        it.retryAt ≤ r.now + r.cfg.maxB)) ∧
    (∀ d ∈ r.dels,
      d.2 > r.itDelRev ∨
      (∃ it ∈ r.items, it.id = d.1.id ∧ it.delete = true ∧ it.inQueue = true ∧ it.retryAt ≤ r.now + r.cfg.maxB) ∨
      (∃ c, lastCall r.log d.1.id = some c ∧ c.op = "D" ∧ c.ok = true)) :=
  accounted h.rinv.inv.objOK h.rinv.inv.delOK h.q.times

/-- what remains of `C14_inv_timer_armed_for_head`: the retry timer is armed
    exactly for the earliest QUEUED retry (or has fired for one that is due), no
    retry time lies later than the maximal backoff from now; an item outside the
    time queue belongs to an object whose newer version (or deletion) is still to
    be delivered to the loop, which will clear it -/
theorem C14_inject_inv_timer_armed_for_head {r : R} (h : JWInv r) :
    (∀ hd, r.head = some hd → r.timer = .armed hd.retryAt ∨ (r.timer = .fired ∧ hd.retryAt ≤ r.now)) ∧
    (r.head = none → r.timer = .none ∨ r.timer = .stopped) ∧
    (∀ it ∈ r.items, it.retryAt ≤ r.now + r.cfg.maxB ∧
      (it.inQueue = false →
        (∃ o ∈ r.objs, o.id = it.id ∧ o.rev > r.itRev ∧ (o.kind = .pending ∨ o.kind = .refreshing)) ∨
        (∃ d ∈ r.dels, d.1.id = it.id ∧ d.2 > r.itDelRev))) := by
  refine ⟨h.q.tmSome, h.q.tmNone, fun it hit => ⟨h.q.times it hit, fun hq => ?_⟩⟩
  rcases (h.rinv.inv.itemOK it hit).popped hq with a | ⟨_, _, res, hres, _⟩
  · exact a
  · cases hres

/-- in an IDLE state every retry item is queued and nothing is left to be
    delivered: every live object is Done with the target or Error with a queued
    retry, every retained deletion was applied or has a queued retry -/
theorem C14_inject_idle_nothing_forgotten {r : R} (h : JWInv r) (hidle : r.triggered = false) :
    (∀ it ∈ r.items, it.inQueue = true) ∧
    (∀ o ∈ r.objs,
      (o.kind = .done ∧ lastCall r.log o.id = some ⟨"U", o.id, o.data, true⟩) ∨
      (o.kind = .error ∧ ∃ it ∈ r.items, it.id = o.id ∧ it.delete = false ∧ it.rev = o.rev ∧ it.inQueue = true)) ∧
    (∀ d ∈ r.dels,
      (∃ c, lastCall r.log d.1.id = some c ∧ c.op = "D" ∧ c.ok = true) ∨
      (∃ it ∈ r.items, it.id = d.1.id ∧ it.delete = true ∧ it.inQueue = true)) :=
  ⟨h.rinv.idle_items_queued hidle, idle_accounted h.rinv.inv.tinv h.rinv.sync h.rinv.inv.objOK h.rinv.inv.delOK hidle⟩

/-! ## finding: `WInv` as stated is not preserved by a `put` landing during an Update -/

/-- object 1 is put, its Update fails: Error, a retry is queued (due at 200) -/
def c14jA : R := ({ (({} : R).userPut 1 7) with failing := [1] } : R).quiesce 10

/-- object 2 is put; the test's Update(2) will Insert a new version of object 1; time passes (the retry of 1 is due) -/
def c14jB : R := { ({ (c14jA.userPut 2 5) with injects := (c14jA.userPut 2 5).injects ++ [(2, Inject.put 1 99)] } : R) with now := 500 }

/-- one round: Update(2) runs and rewrites object 1; then the due retry of object 1
    runs with the OLD object, fails, its result is dropped -/
def c14jC : R := c14jB.fireTimer.round

theorem c14jC_reachable : C14InjReachable c14jC :=
  .round (.fire (.tick 500 (.inject 2 (.put 1 99) (.put 2 5 (.quiesce 10 (.fail [1] (.put 1 7 (.init {})))
    (quiesceSafe_of_noTouch 10 _ (by decide))))) (by decide +kernel)))
    (round_safe_of_noTouch _ (by decide +kernel)).1

/-- **`WInv` refuted with a write during an Update** (put 1; Update(1) fails; put 2
    with the inject "Update(2) puts object 1"; 500 ms later one round): in the
    reachable between-round state `c14jC` nothing is queued to land any more, the
    retry item of object 1 is in the retry map but NOT in the time queue (the real
    `retries.Pop` / dropped `commitStatus` leave it exactly so), so `WInv` — which
    implies that every item is queued — fails.  Benign: object 1 is Pending beyond
    the iterator, the next round's change clears the item. -/
theorem C14_inject_winv_refuted :
    C14InjReachable c14jC ∧ c14jC.injects = [] ∧ c14jC.items.map (fun i => (i.id, i.inQueue)) = [(1, false)] ∧
    c14jC.objs.map (fun o => (o.id, o.data, o.kind, o.rev)) = [(1, 99, .pending, 4), (2, 5, .done, 5)] ∧ c14jC.itRev = 3 ∧
    ¬ WInv c14jC := by
  refine ⟨c14jC_reachable, by decide +kernel, by decide +kernel, by decide +kernel, by decide +kernel, fun hw => ?_⟩
  have hq := hw.rinv.items_queued
  have hi : c14jC.items.map (fun i => i.inQueue) = [false] := by decide +kernel
  generalize c14jC.items = l at hq hi
  cases l with
  | nil => simp at hi
  | cons it tl =>
    have := hq it (List.mem_cons_self ..)
    simp only [List.map_cons, List.cons.injEq] at hi
    rw [hi.1] at this; cases this

/-! ## convergence once the user stopped writing -/

/-- where nothing is queued to land and every retry item is in the time queue
    (every idle state: `C14_inject_idle_nothing_forgotten`), `JWInv` IS `WInv` -/
theorem C14_inject_winv_when_items_queued {r : R} (h : JWInv r) (hinj : r.injects = [])
    (hq : ∀ it ∈ r.items, it.inQueue = true) : WInv r := h.toWInv hinj hq

/-- **progress.**  Once nothing fails and nothing is queued to land during an
    Update any more, every triggered round strictly decreases the measure `Mz`
    of `C14_round_decreases_measure` — from any state satisfying `JWInv`, i.e.
    also with retry items left outside the time queue by earlier writes -/
theorem C14_inject_round_decreases_measure {r : R} (h : JWInv r) (hf : r.failing = []) (hinj : r.injects = [])
    (hrs : 1 ≤ r.cfg.roundSize) (htr : r.triggered = true) : Mz r.round < Mz r :=
  mz_roundJ h.rinv h.q hf hinj hrs htr

/-- hence `quiesce` reaches an idle state when its fuel exceeds
    3·(2·#objects + #retained deletions + 2·#retry items) + 2, whatever the round size;
    the idle state satisfies `WInv` -/
theorem C14_inject_quiesce_goes_idle {r : R} (h : JWInv r) (hf : r.failing = []) (hinj : r.injects = [])
    (hrs : 1 ≤ r.cfg.roundSize) (fuel : Nat)
    (hfuel : 3 * (2 * r.objs.length + r.dels.length + 2 * r.items.length) + 2 < fuel) :
    (r.quiesce fuel).triggered = false ∧ WInv (r.quiesce fuel) := by
  have hidle := (h.toJSInv hf hinj).quiesce_idle hrs fuel (by have := mz_le_sizes r; omega)
  have hn := noTouch_nil hinj
  exact ⟨hidle, ((h.quiesce hn fuel).1).toWInv_of_idle (quiesce_injects_nil fuel r hinj) hidle⟩

/-- **convergence once the user stopped writing, also during Updates.**  From ANY
    state satisfying the invariant of the runs with writes during Updates in
    which nothing fails (`failing = []`) and nothing is queued to land
    (`injects = []`): at any time `T` later than the maximal backoff from now,
    running the loop with fuel beyond 3·(2·#objects + #deletions + 2·#retries) + 2
    ends idle with target = table: every live object is Done and its last logged
    call is a successful Update with its current data, the last logged call of
    every retained deletion is a successful Delete, no retry is left, the retry
    low-watermark is 0; and the final state satisfies `WInv`, so every theorem
    of `Props/C14.lean` applies from there on.  Any round size ≥ 1, any backoff. -/
theorem C14_inject_converged_quiesce {r : R} (h : JWInv r) (hf : r.failing = []) (hinj : r.injects = [])
    (hrs : 1 ≤ r.cfg.roundSize) (T fuel : Nat) (hT : r.now + r.cfg.maxB < T)
    (hfuel : 3 * (2 * r.objs.length + r.dels.length + 2 * r.items.length) + 2 < fuel) :
    let f := ({ r with now := T } : R).quiesce fuel
    f.triggered = false ∧
    (∀ o ∈ f.objs, o.kind = .done ∧ lastCall f.log o.id = some ⟨"U", o.id, o.data, true⟩) ∧
    (∀ d ∈ f.dels, ∃ c, lastCall f.log d.1.id = some c ∧ c.op = "D" ∧ c.ok = true) ∧
    f.items = [] ∧ f.lowWatermark = 0 ∧ WInv f := by
  intro f
  have h0 : JSInv (r.now + r.cfg.maxB) ({ r with now := T } : R) := (h.toJSInv hf hinj).setNow T (by omega)
  have hidle := h0.quiesce_idle (r := { r with now := T }) hrs fuel (by have := mz_le_sizes r; exact Nat.lt_of_le_of_lt this hfuel)
  obtain ⟨h1, e1, _⟩ := h0.quiesce fuel
  obtain ⟨c1, c2, c3, c4⟩ := h1.idle_converged (by rw [e1]; exact hT) hidle
  have hw : JWInv ({ r with now := T } : R) := h.setNow T (by omega)
  have hW : WInv f := ((hw.quiesce (noTouch_nil hinj) fuel).1).toWInv_of_idle (quiesce_injects_nil fuel _ hinj) hidle
  exact ⟨hidle, c1, c2, c3, c4, hW⟩

/-- **the corollary for the reachable states**: once `failing = []` and
    `injects = []`, the convergence theorem applies from every state reachable
    with writes during Updates -/
theorem C14_inject_converges_after_writes_stop {r : R} (h : C14InjReachable r) (hf : r.failing = []) (hinj : r.injects = [])
    (hrs : 1 ≤ r.cfg.roundSize) (T fuel : Nat) (hT : r.now + r.cfg.maxB < T)
    (hfuel : 3 * (2 * r.objs.length + r.dels.length + 2 * r.items.length) + 2 < fuel) :
    let f := ({ r with now := T } : R).quiesce fuel
    f.triggered = false ∧
    (∀ o ∈ f.objs, o.kind = .done ∧ lastCall f.log o.id = some ⟨"U", o.id, o.data, true⟩) ∧
    (∀ d ∈ f.dels, ∃ c, lastCall f.log d.1.id = some c ∧ c.op = "D" ∧ c.ok = true) ∧
    f.items = [] ∧ f.lowWatermark = 0 ∧ WInv f :=
  C14_inject_converged_quiesce (C14_inject_inv_reachable h) hf hinj hrs T fuel hT hfuel

/-- the same through `advance`, given the final state is idle (as `C14_converged_when_idle`) -/
theorem C14_inject_converged_when_idle {r : R} (h : JWInv r) (hf : r.failing = []) (hinj : r.injects = [])
    (ms fuel : Nat) (hms : r.cfg.maxB < ms) (hidle : (r.advance ms fuel).triggered = false) :
    (∀ o ∈ (r.advance ms fuel).objs, o.kind = .done ∧
      lastCall (r.advance ms fuel).log o.id = some ⟨"U", o.id, o.data, true⟩) ∧
    (∀ d ∈ (r.advance ms fuel).dels, ∃ c, lastCall (r.advance ms fuel).log d.1.id = some c ∧ c.op = "D" ∧ c.ok = true) ∧
    (r.advance ms fuel).items = [] ∧ (r.advance ms fuel).lowWatermark = 0 := by
  have hq : ∀ x, JSInv (r.now + r.cfg.maxB) x →
      JSInv (r.now + r.cfg.maxB) (quiesceW R.round x 64) ∧ (quiesceW R.round x 64).now = x.now :=
    fun x hx => quiesce_eq x 64 ▸ ⟨(hx.quiesce 64).1, (hx.quiesce 64).2.1⟩
  obtain ⟨hs, hnow⟩ := advance_eq r ms fuel ▸ advanceW_now (fun _ t hx ht => JSInv.setNow hx t ht) hq r ms fuel (h.toJSInv hf hinj)
  exact hs.idle_converged (by rw [hnow]; omega) hidle

/-- from an IDLE state reachable with writes during Updates in which nothing fails and
    nothing is queued, the `advance` theorems of `Props/C14.lean` apply verbatim
    (`WInv` holds there): the loop is idle after more than the maximal backoff and
    target = table (PARTIAL in the sense of `C14_converged_advance_partial`: at most
    10 queued retries, because of the inner fuel 64 of `Model.Reconciler.advance`) -/
theorem C14_inject_converged_advance_partial {r : R} (h : JWInv r) (hf : r.failing = []) (hinj : r.injects = [])
    (hrs : 1 ≤ r.cfg.roundSize) (hidle : r.triggered = false) (ms fuel : Nat) (hms : r.cfg.maxB < ms)
    (h64 : 6 * r.items.length < 64) (hfuel : 6 * r.items.length < fuel) :
    (r.advance ms fuel).triggered = false ∧
    (∀ o ∈ (r.advance ms fuel).objs, o.kind = .done ∧
      lastCall (r.advance ms fuel).log o.id = some ⟨"U", o.id, o.data, true⟩) ∧
    (∀ d ∈ (r.advance ms fuel).dels, ∃ c, lastCall (r.advance ms fuel).log d.1.id = some c ∧ c.op = "D" ∧ c.ok = true) ∧
    (r.advance ms fuel).items = [] ∧ (r.advance ms fuel).lowWatermark = 0 :=
  C14_converged_advance_partial (h.toWInv_of_idle hinj hidle) hf hrs hidle ms fuel hms h64 hfuel

/-! ## the hypothesis on `touch` is necessary (known finding K4, from inside an Update) -/

/-- object 1 is Error with a queued retry (`c14jA`); object 2 is put, and the test's
    Update(2) lets a foreign writer touch object 1; failures stop -/
def c14jK4 : R := { ({ (c14jA.userPut 2 5) with injects := (c14jA.userPut 2 5).injects ++ [(2, Inject.touch 1)] } : R) with failing := [] }

/-- **refuted without `roundSafe`**: the state is reachable, the hypothesis fails
    for its round, and after that round (the `touch` landed on the Error object
    during Update(2)), with nothing failing and nothing queued any more, the loop
    run far beyond the maximal backoff is idle with NO retry left and object 1
    Error for ever — so no invariant implying convergence survives that round -/
theorem C14_inject_touch_on_error_refuted :
    C14InjReachable c14jK4 ∧ ¬ c14jK4.fireTimer.roundSafe ∧
    (let f := ({ c14jK4.fireTimer.round with now := 5000 } : R).quiesce 30
     f.triggered = false ∧ f.failing = [] ∧ f.injects = [] ∧ f.items.length = 0 ∧ f.objs.map (·.kind) = [.error, .done]) ∧
    ¬ (∀ r : R, JWInv r → JWInv r.round) := by
  have hr : C14InjReachable c14jK4 :=
    .fail [] (.inject 2 (.touch 1) (.put 2 5 (.quiesce 10 (.fail [1] (.put 1 7 (.init {}))) (quiesceSafe_of_noTouch 10 _ (by decide)))))
  refine ⟨hr, by decide +kernel, by decide +kernel, fun hall => ?_⟩
  have h1 : JWInv c14jK4.fireTimer.round := hall _ (C14_inject_inv_reachable hr).fireTimer
  have hc := C14_inject_converged_quiesce h1 (by decide +kernel) (by decide +kernel) (by decide +kernel) 5000 30
    (by decide +kernel) (by decide +kernel)
  have hk := hc.2.1
  have hl : (({ c14jK4.fireTimer.round with now := 5000 } : R).quiesce 30).objs.map (·.kind) = [.error, .done] := by decide +kernel
  generalize (({ c14jK4.fireTimer.round with now := 5000 } : R).quiesce 30).objs = l at hk hl
  cases l with
  | nil => simp at hl
  | cons o tl =>
    have := (hk o (List.mem_cons_self ..)).1
    simp only [List.map_cons, List.cons.injEq] at hl
    rw [hl.1] at this; cases this

/-! ## non-vacuity -/

/-- a reachable, non-trivial state with writes that landed during Updates: object 1
    was rewritten from inside Update(2) while Error, object 3 was deleted from
    inside its own Update, a `touch` of object 2 landed during Update(2) itself -/
def c14jEx : R :=
  let r : R := { (c14jA.userPut 2 5).userPut 3 6 with injects := [(2, Inject.put 1 99), (3, Inject.del 3), (2, Inject.touch 2)], now := 500 }
  r.fireTimer.round

example : c14jEx.objs.map (fun o => (o.id, o.data, o.kind, o.other)) = [(1, 99, .pending, 0), (2, 5, .done, 1)] ∧
    c14jEx.dels.map (fun d => d.1.id) = [3] ∧ c14jEx.injects = [] := by decide +kernel

/-- the hypothesis `roundSafe` is satisfiable with a `touch` queued (here it lands on a Pending object) -/
example : ({ (c14jA.userPut 2 5).userPut 3 6 with injects := [(2, Inject.put 1 99), (3, Inject.del 3), (2, Inject.touch 2)], now := 500 } : R).fireTimer.roundSafe := by
  decide +kernel

/-- the hypotheses of `C14_inject_converges_after_writes_stop` are satisfiable on the state of the finding -/
example : C14InjReachable ({ c14jC with failing := [] } : R) ∧ ({ c14jC with failing := [] } : R).failing = [] ∧
    ({ c14jC with failing := [] } : R).injects = [] ∧ 1 ≤ ({ c14jC with failing := [] } : R).cfg.roundSize ∧
    ({ c14jC with failing := [] } : R).now + ({ c14jC with failing := [] } : R).cfg.maxB < 2000 ∧
    3 * (2 * ({ c14jC with failing := [] } : R).objs.length + ({ c14jC with failing := [] } : R).dels.length +
      2 * ({ c14jC with failing := [] } : R).items.length) + 2 < 30 :=
  ⟨.fail [] c14jC_reachable, rfl, by decide +kernel, by decide +kernel, by decide +kernel, by decide +kernel⟩

/-- … and its conclusion, computed: target = table -/
example : ((({ c14jC with failing := [], now := 2000 } : R).quiesce 30).objs.map fun o => (o.id, o.data, o.kind)) = [(1, 99, .done), (2, 5, .done)] := by
  decide +kernel

/-- the structural facts about reconciler/incremental.go and reconciler/retries.go that the model
    builds in — the order of a round's phases (changes, status commit, due retries, status commit) and the
    processing conditions that `R.round` builds in — hold of the source as it is today (regenerated by `tools/extract` on every run) -/
theorem C14_inject_source_facts : Gen.recFacts = Rec.expectedFacts := by decide

end Sdb
