import SdbModel.Props.C14Inject
import SdbModel.Props.C15Inject
import SdbModel.Props.C14Batch
import SdbModel.Lemmas.ReconcilerInjectBatch

/-!
# C14 / C15 (batch mode) — with user writes landing WHILE `UpdateBatch` runs

> For any history of inserts, updates and deletes on the reconciled table and
> any pattern of failing Update/Delete operations, once operations stop failing
> and the table stops changing the reconciler reaches, within a bounded number
> of retry periods, a state where the target equals the table (…).  No object is
> forgotten, whatever the round size, rate limits, batch or single operations,
> or retry timing.

> The reconciler marks an object Done or Error only for the version it
> actually passed to Update: if the object was changed or deleted while the
> operation ran, the stale result is dropped (…).  Its writes change
> nothing but the status of the object (…).

The batch counterparts of `Props/C14Inject.lean` and `Props/C15Inject.lean`,
over `Model.ReconcilerBatch` (`roundB`: the changes of a round are collected,
`DeleteBatch` runs, then `UpdateBatch`, during which the writes queued in
`R.injects` land; retries run through the single operations), with the SAME
invariant `JWInv` and the same hypothesis on `touch` writes (`roundSafeB`):
`C14_inject_batch_update_batch_is_loop` (the update batch with landing writes is
the loop of the single `processSingle`), `C14_inject_batch_inv_round` …
`C14_inject_batch_inv_reachable` (single and batch rounds mixed at will),
`C14_inject_batch_nothing_forgotten`, `C14_inject_batch_converges_after_writes_stop`,
`C15_inject_batch_no_status_for_unprocessed_version`,
`C15_inject_batch_only_status_written`, `C15_inject_batch_deleted_stays_deleted`.
-/
namespace Sdb
open Rec

/-- `UpdateBatch` with writes landing during the Updates, followed by the loop that
    records the results, is the loop of the single-operation `processSingle` over
    the collected entries -/
theorem C14_inject_batch_update_batch_is_loop (x : R) (us : List BEntry) :
    x.updateBatch us = us.foldl (fun (x : R) (e : BEntry) => x.processSingle e.1 e.2 false) x := updateBatch_eq_processSingle x us

/-! ## the reachable states -/

/-- the states reachable with single and batch rounds mixed at will and writes queued
    to land from inside Updates (the steps of `C14InjReachable` and their batch counterparts) -/
inductive C14InjBatchReachable : R → Prop
  | init (c : Cfg) : C14InjBatchReachable { cfg := c }
  | put {r : R} (id data : Nat) : C14InjBatchReachable r → C14InjBatchReachable (r.userPut id data)
  | del {r : R} (id : Nat) : C14InjBatchReachable r → C14InjBatchReachable (r.delObj id)
  | touch {r : R} (id : Nat) : C14InjBatchReachable r → (∀ o, r.get id = some o → o.kind ≠ .error) → C14InjBatchReachable (r.touch id)
  | fail {r : R} (l : List Nat) : C14InjBatchReachable r → C14InjBatchReachable { r with failing := l }
  | inject {r : R} (k : Nat) (a : Inject) : C14InjBatchReachable r → C14InjBatchReachable { r with injects := r.injects ++ [(k, a)] }
  | round {r : R} : C14InjBatchReachable r → r.roundSafe → C14InjBatchReachable r.round
  | roundB {r : R} : C14InjBatchReachable r → r.roundSafeB → C14InjBatchReachable r.roundB
  | fire {r : R} : C14InjBatchReachable r → C14InjBatchReachable r.fireTimer
  | tick {r : R} (t : Nat) : C14InjBatchReachable r → r.now ≤ t → C14InjBatchReachable { r with now := t }
  | quiesce {r : R} (fuel : Nat) : C14InjBatchReachable r → r.quiesceSafe fuel → C14InjBatchReachable (r.quiesce fuel)
  | advance {r : R} (ms fuel : Nat) : C14InjBatchReachable r → r.advanceSafe ms fuel → C14InjBatchReachable (r.advance ms fuel)
  | quiesceB {r : R} (fuel : Nat) : C14InjBatchReachable r → r.quiesceSafeB fuel → C14InjBatchReachable (r.quiesceB fuel)
  | advanceB {r : R} (ms fuel : Nat) : C14InjBatchReachable r → r.advanceSafeB ms fuel → C14InjBatchReachable (r.advanceB ms fuel)

/-- the invariant `JWInv` of single mode (`Props/C14Inject.lean`) is preserved by **one batch round
    with arbitrary writes landing during its update batch and its retries**
    (`put` / `del`: any; `touch`: not on an Error object, `roundSafeB`), … -/
theorem C14_inject_batch_inv_round (r : R) (h : JWInv r) (hs : r.roundSafeB) : JWInv r.roundB := h.roundB hs

/-- the hypothesis holds outright when only `put` / `del` writes are queued; a batch round queues nothing new -/
theorem C14_inject_batch_no_touch_is_safe (r : R) (hn : NoTouch r.injects) :
    r.roundSafeB ∧ NoTouch r.roundB.injects ∧ (∀ fuel, r.quiesceSafeB fuel) :=
  ⟨(roundB_safe_of_noTouch r hn).1, (roundB_safe_of_noTouch r hn).2.noTouch hn, fun fuel => quiesceSafeB_of_noTouch fuel r hn⟩

/-- … by one batch round with only `put` / `del` writes queued (no hypothesis at all), … -/
theorem C14_inject_batch_inv_round_put_del (r : R) (h : JWInv r) (hn : NoTouch r.injects) : JWInv r.roundB :=
  h.roundB (roundB_safe_of_noTouch r hn).1

/-- … by running the batch loop until it goes idle or the fuel ends, … -/
theorem C14_inject_batch_inv_quiesce (r : R) (fuel : Nat) (h : JWInv r) (hs : r.quiesceSafeB fuel) : JWInv (r.quiesceB fuel) :=
  h.quiesceBS fuel hs

/-- … and by letting time pass. -/
theorem C14_inject_batch_inv_advance (r : R) (ms fuel : Nat) (h : JWInv r) (hs : r.advanceSafeB ms fuel) :
    JWInv (r.advanceB ms fuel) := h.advanceBS ms fuel hs

/-- with only `put` / `del` writes queued `quiesceB` and `advanceB` need no hypothesis -/
theorem C14_inject_batch_inv_quiesce_advance_put_del (r : R) (h : JWInv r) (hn : NoTouch r.injects) (ms fuel : Nat) :
    JWInv (r.quiesceB fuel) ∧ JWInv (r.advanceB ms fuel) := ⟨(h.quiesceB hn fuel).1, (h.advanceB hn ms fuel).1⟩

/-- hence it holds in every state reachable with single and batch rounds and writes during Updates -/
theorem C14_inject_batch_inv_reachable {r : R} (h : C14InjBatchReachable r) : JWInv r := by
  induction h with
  | init c => exact JWInv.init c
  | put id data _ ih => exact ih.userPut id data
  | del id _ ih => exact ih.delObj id
  | touch id _ hne ih => exact ih.touch id hne
  | fail l _ ih => exact ih.setFailing l
  | inject k a _ ih => exact ih.setInjects _
  | round _ hs ih => exact ih.round hs
  | roundB _ hs ih => exact ih.roundB hs
  | fire _ ih => exact ih.fireTimer
  | tick t _ ht ih => exact ih.setNow t ht
  | quiesce fuel _ hs ih => exact ih.quiesceS fuel hs
  | advance ms fuel _ hs ih => exact ih.advanceS ms fuel hs
  | quiesceB fuel _ hs ih => exact ih.quiesceBS fuel hs
  | advanceB ms fuel _ hs ih => exact ih.advanceBS ms fuel hs

/-- **nothing is forgotten** between any two (single or batch) rounds, whatever landed
    during the Updates: the statement of `C14_inv_nothing_forgotten` -/
theorem C14_inject_batch_nothing_forgotten {r : R} (h : C14InjBatchReachable r) :
    (∀ o ∈ r.objs,
      (o.kind = .done ∧ lastCall r.log o.id = some ⟨"U", o.id, o.data, true⟩) ∨
      ((o.kind = .pending ∨ o.kind = .refreshing) ∧ o.rev > r.itRev) ∨
      (o.kind = .error ∧ ∃ it ∈ r.items, it.id = o.id ∧ it.delete = false ∧ it.rev = o.rev ∧ it.inQueue = true ∧
        it.retryAt ≤ r.now + r.cfg.maxB)) ∧
    (∀ d ∈ r.dels,
      d.2 > r.itDelRev ∨
      (∃ it ∈ r.items, it.id = d.1.id ∧ it.delete = true ∧ it.inQueue = true ∧ it.retryAt ≤ r.now + r.cfg.maxB) ∨
      (∃ c, lastCall r.log d.1.id = some c ∧ c.op = "D" ∧ c.ok = true)) :=
  C14_inject_inv_nothing_forgotten (C14_inject_batch_inv_reachable h)

/-! ## convergence once the user stopped writing -/

/-- **progress** of the batch loop once nothing fails and nothing is queued to land -/
theorem C14_inject_batch_round_decreases_measure {r : R} (h : JWInv r) (hf : r.failing = []) (hinj : r.injects = [])
    (hrs : 1 ≤ r.cfg.roundSize) (htr : r.triggered = true) : Mz r.roundB < Mz r :=
  mz_roundBJ h.rinv h.q hf hinj hrs htr

/-- **convergence of the batch loop once the user stopped writing, also during Updates**:
    the statement of `C14_inject_converged_quiesce` for `quiesceB`; the final state satisfies
    `WInv`, so every theorem of `Props/C14Batch.lean` applies from there on -/
theorem C14_inject_batch_converged_quiesce {r : R} (h : JWInv r) (hf : r.failing = []) (hinj : r.injects = [])
    (hrs : 1 ≤ r.cfg.roundSize) (T fuel : Nat) (hT : r.now + r.cfg.maxB < T)
    (hfuel : 3 * (2 * r.objs.length + r.dels.length + 2 * r.items.length) + 2 < fuel) :
    let f := ({ r with now := T } : R).quiesceB fuel
    f.triggered = false ∧
    (∀ o ∈ f.objs, o.kind = .done ∧ lastCall f.log o.id = some ⟨"U", o.id, o.data, true⟩) ∧
    (∀ d ∈ f.dels, ∃ c, lastCall f.log d.1.id = some c ∧ c.op = "D" ∧ c.ok = true) ∧
    f.items = [] ∧ f.lowWatermark = 0 ∧ WInv f := by
  intro f
  have h0 : JSInv (r.now + r.cfg.maxB) ({ r with now := T } : R) := (h.toJSInv hf hinj).setNow T (by omega)
  have hidle := h0.quiesceB_idle (r := { r with now := T }) hrs fuel (by have := mz_le_sizes r; exact Nat.lt_of_le_of_lt this hfuel)
  obtain ⟨h1, e1, _⟩ := h0.quiesceB fuel
  have c := h1.idle_converged (by rw [e1]; exact hT) hidle
  have hw : JWInv ({ r with now := T } : R) := h.setNow T (by omega)
  have hW : WInv f := ((hw.quiesceB (noTouch_nil hinj) fuel).1).toWInv_of_idle (quiesceB_injects_nil fuel _ hinj) hidle
  exact ⟨hidle, c.done, c.deleted, c.items, c.lowWatermark, hW⟩

/-- the corollary for the reachable states -/
theorem C14_inject_batch_converges_after_writes_stop {r : R} (h : C14InjBatchReachable r) (hf : r.failing = [])
    (hinj : r.injects = []) (hrs : 1 ≤ r.cfg.roundSize) (T fuel : Nat) (hT : r.now + r.cfg.maxB < T)
    (hfuel : 3 * (2 * r.objs.length + r.dels.length + 2 * r.items.length) + 2 < fuel) :
    let f := ({ r with now := T } : R).quiesceB fuel
    f.triggered = false ∧
    (∀ o ∈ f.objs, o.kind = .done ∧ lastCall f.log o.id = some ⟨"U", o.id, o.data, true⟩) ∧
    (∀ d ∈ f.dels, ∃ c, lastCall f.log d.1.id = some c ∧ c.op = "D" ∧ c.ok = true) ∧
    f.items = [] ∧ f.lowWatermark = 0 ∧ WInv f :=
  C14_inject_batch_converged_quiesce (C14_inject_batch_inv_reachable h) hf hinj hrs T fuel hT hfuel

/-! ## C15 in batch mode -/

/-- **no status for a version that was not processed**, in every state reachable with
    single and batch rounds and writes during Updates -/
theorem C15_inject_batch_no_status_for_unprocessed_version {r : R} (h : C14InjBatchReachable r) :
    ∀ o ∈ r.objs,
      (o.kind = .done → lastCall r.log o.id = some ⟨"U", o.id, o.data, true⟩ ∧ ∀ it ∈ r.items, it.id ≠ o.id) ∧
      (o.kind = .error → ∃ it ∈ r.items, it.id = o.id ∧ it.delete = false ∧ it.rev = o.rev ∧ it.inQueue = true ∧
        it.obj.id = o.id ∧ it.obj.data = o.data ∧ it.obj.other = o.other) ∧
      ((o.kind = .pending ∨ o.kind = .refreshing) → o.rev > r.itRev) :=
  (C14_inject_batch_inv_reachable h).rinv.inv.status_processed

/-- **nothing but the status is written by a batch round**: the statement of
    `C15_inject_only_status_written` for `roundB` -/
theorem C15_inject_batch_only_status_written {r : R} (h : C14InjBatchReachable r) (hs : r.roundSafeB) :
    ∃ lp : List (Nat × Inject),
      (lp ++ r.roundB.injects).Perm r.injects ∧
      (∀ k, lp.filter (fun (a : Nat × Inject) => a.1 = k) ++ r.roundB.injects.filter (fun (a : Nat × Inject) => a.1 = k) =
        r.injects.filter (fun (a : Nat × Inject) => a.1 = k)) ∧
      r.roundB.objs.map (fun o => (o.id, o.data, o.other)) =
        (lp.foldl (fun (x : R) (a : Nat × Inject) => x.applyInject a.2) r).objs.map (fun o => (o.id, o.data, o.other)) ∧
      r.roundB.dels.map (fun d => (d.1.id, d.1.data, d.1.other)) =
        (lp.foldl (fun (x : R) (a : Nat × Inject) => x.applyInject a.2) r).dels.map (fun d => (d.1.id, d.1.data, d.1.other)) := by
  obtain ⟨lp, hp, ht, ho⟩ := (C14_inject_batch_inv_reachable h).rinv.roundB_sim hs
  exact ⟨lp, hp, ho, ht.1, ht.2⟩

/-- **a deleted object is not re-created by the status commit of a batch round** -/
theorem C15_inject_batch_deleted_stays_deleted {r : R} (h : C14InjBatchReachable r) (hs : r.roundSafeB) :
    ∃ lp : List (Nat × Inject), (lp ++ r.roundB.injects).Perm r.injects ∧
      ∀ id, (∀ o ∈ (lp.foldl (fun (x : R) (a : Nat × Inject) => x.applyInject a.2) r).objs, o.id ≠ id) →
        r.roundB.get id = none :=
  have ⟨lp, hp, ht, _⟩ := (C14_inject_batch_inv_reachable h).rinv.roundB_sim hs
  ⟨lp, hp, fun _ hid => ht.get_none hid⟩

/-! ## non-vacuity -/

/-- objects 1, 2, 3 are put; the test's UpdateBatch Inserts a new version of object 3 during
    Update(1), Deletes object 2 during Update(2) itself, and a foreign writer touches object 1
    during Update(2) -/
def c14jbEx : R :=
  { (((({} : R).userPut 1 7).userPut 2 8).userPut 3 9) with
    injects := [(1, Inject.put 3 99), (2, Inject.del 2), (2, Inject.touch 1)] }

example : C14InjBatchReachable c14jbEx :=
  .inject 2 (.touch 1) (.inject 2 (.del 2) (.inject 1 (.put 3 99) (.put 3 9 (.put 2 8 (.put 1 7 (.init {}))))))

example : c14jbEx.roundSafeB := by decide +kernel

/-- after the batch round: object 1 is Done for the data it was updated with and keeps the
    foreign write, object 2 stays deleted, object 3 carries the user's data and is Pending
    (its Update ran with the old data 9; the result was dropped) -/
example : c14jbEx.roundB.objs.map (fun o => (o.id, o.data, o.kind, o.other)) = [(1, 7, .done, 1), (3, 99, .pending, 0)] ∧
    c14jbEx.roundB.dels.map (fun d => d.1.id) = [2] ∧ c14jbEx.roundB.injects = [] ∧
    c14jbEx.roundB.log = [⟨"U", 1, 7, true⟩, ⟨"U", 2, 8, true⟩, ⟨"U", 3, 9, true⟩] := by decide +kernel

/-- … and the batch loop converges from there: target = table -/
example : ((({ c14jbEx.roundB with now := 2000 } : R).quiesceB 30).objs.map fun o => (o.id, o.data, o.kind)) = [(1, 7, .done), (3, 99, .done)] ∧
    c14jbEx.roundB.failing = [] ∧ c14jbEx.roundB.injects = [] ∧
    3 * (2 * c14jbEx.roundB.objs.length + c14jbEx.roundB.dels.length + 2 * c14jbEx.roundB.items.length) + 2 < 30 := by
  decide +kernel

end Sdb
