import SdbModel.Lemmas.ConcInitExact

/-!
# C06 (interleaving model) — table watch channels close only after the new revision is visible

> A watch channel returned by a query is closed no later than the return of the
> Commit that changes that query's result (…; for table-wide watches, any change
> to the table).  It is never closed by an aborted transaction, is not already
> closed when handed out by a fresh snapshot query, and never closes before the
> change is visible: a read transaction taken after observing the channel closed
> sees a newer table revision than the snapshot the channel came from.

`Props/C06.lean` proves the ordering half on the abstract protocol `Model.Serial`.
Here it is proved on `Model.Conc`, the interleaving model that is compared step by
step with the real goroutines, for EVERY schedule: every state `Reach P n st cs`
(any number of writers, committing or aborting, with any table lists and
initializer registrations / marks, table registrations, any scheduler steps) of
every protocol of the shape `Protocol.initShape` — decided for the protocol
regenerated from the source, `Gen.protocol`; the shape fixes where `notify` sits
relative to `storeRoot` / `unlockTables` and tolerates further hooks.  The table
watch channel of the committed version of a table is never closed (a fresh
snapshot hands out an open channel); a closed channel is the watch channel of a
version that a COMMITTED writer replaced, and the committed revision of that table
is strictly larger (or it is an init channel, C19); only the `notify` of a committing writer, after its `storeRoot`
and while it still holds all its table locks, closes table channels; aborting
writers close nothing; the revision equals the number of committed writes and never
decreases.  The invariants behind this are `Conc.CI`, `Conc.ClosedOK` and `Conc.TableHist` (`Lemmas/ConcInit*.lean`).
-/
namespace Sdb
open Conc

/-- the protocol read off db.go / write_txn.go today has the shape the channel
    invariant is proved for -/
theorem C06_conc_protocol_shape : Gen.protocol.initShape = true := by decide

/-- further hooks (anywhere except between choosing the watch channel of a new
    table and storing the root in `registerTable`) keep the shape -/
example : ({ Gen.protocol with
    commit := .hook "extra" :: Gen.protocol.commit ++ [.hook "late"],
    writeTxn := [.dedupTables, .lockTables, .loadRoot, .hook "x", .cloneRoot, .hook "y", .cloneEntries],
    register := [.lockRoot, .hook "z", .loadCurrentRoot, .appendTable, .storeRoot, .hook "w", .unlockRoot] } :
      Protocol).initShape = true := by decide

/-- **fresh channels are open**: in every reachable state the table watch
    channel of the committed version of every table — what a fresh `ReadTxn`
    hands out — is not closed -/
theorem C06_conc_fresh_watch_open (P : Protocol) (hP : P.initShape = true) (n : Nat) (st : State) (cs : List Bool)
    (h : Reach P n st cs) (i : Nat) (hi : i < (readTxn st).length) :
    (getT (readTxn st) i).watch ∉ st.closed :=
  (reach_CI P hP n st cs h).RC _ ⟨i, hi, Or.inl rfl⟩

/-- distinct tables have distinct watch channels (so a closed channel identifies its table) -/
theorem C06_conc_watch_channels_distinct (P : Protocol) (hP : P.initShape = true) (n : Nat) (st : State)
    (cs : List Bool) (h : Reach P n st cs) (i j : Nat) (hi : i < st.root.length) (hj : j < st.root.length)
    (hw : (getT st.root i).watch = (getT st.root j).watch) : i = j := by
  exact Decidable.byContradiction fun hne => (reach_CI P hP n st cs h).RI i j hi hj hne _ (Or.inl rfl) (Or.inl hw)

/-- **closed ⇒ replaced, and a newer revision is visible**: every closed channel
    is either the watch channel of the version `oldRoot[x]` that a COMMITTED writer
    (flag `true`, past its `storeRoot` and its `notify`) loaded for one of its tables
    `x` and replaced — and the committed revision of `x` is strictly larger than the
    revision of that version — or an init channel collected by a committed writer
    (see C19) -/
theorem C06_conc_closed_is_replaced_version (P : Protocol) (hP : P.initShape = true) (n : Nat) (st : State)
    (cs : List Bool) (h : Reach P n st cs) (w : Nat) (hw : w ∈ st.closed) :
    (∃ (tid : Nat) (th : Thread) (x : Nat), st.threads[tid]? = some th ∧ cs[tid]? = some true ∧
      Micro.act .storeRoot ∉ th.prog ∧ Micro.act .notify ∉ th.prog ∧ x ∈ th.tables ∧ x < st.root.length ∧
      w = (getT th.oldRoot x).watch ∧ (getT th.oldRoot x).rev < (getT (readTxn st) x).rev) ∨
    (∃ (tid : Nat) (th : Thread) (x : Nat), st.threads[tid]? = some th ∧ cs[tid]? = some true ∧
      Micro.act .storeRoot ∉ th.prog ∧ Micro.act .closeInit ∉ th.prog ∧ x ∈ th.tables ∧
      w = (getT th.entries x).initWatch ∧ w ≠ 0) := by
  have hci := reach_CI P hP n st cs h
  obtain ⟨tid, th, hth, hc, hs, hor⟩ := hci.CO w hw
  have hrec := storedRec st cs _ hci tid th hth hc hs
  rcases hor with ⟨hn, hm⟩ | ⟨hn, hm⟩
  · left
    rw [hrec.wr.toNotify_eq, List.mem_map] at hm
    obtain ⟨x, hx, rfl⟩ := hm
    have hxl := mem_lockList_of_dedup th x hx
    exact ⟨tid, th, x, hth, hc, hs, hn, (mem_lockList th x).1 hxl, hrec.bound x hxl, rfl,
      (reach_hist P hP n st cs h x (hrec.bound x hxl)).RL _ (SW.comAt ⟨hth, hc, hs⟩ hxl)⟩
  · right
    rw [hrec.cii.collected, mem_toClose] at hm
    obtain ⟨x, hx, hcol, rfl⟩ := hm
    exact ⟨tid, th, x, hth, hc, hs, hn, (mem_dedup x _).1 hx, rfl, hcol.1⟩

/-- **only `notify` / `closeInit` of a committing writer close channels**: a
    scheduler step appends to the closed list only, and every appended channel was
    closed by the stepping thread, which is a COMMITTING writer past its `storeRoot`:
    by its `notify` (executed in this step; the channel is in its notify list) or by
    its `closeInit` (executed in this step) -/
theorem C06_conc_closed_only_by_committer (P : Protocol) (hP : P.initShape = true) (n : Nat) (st : State)
    (cs : List Bool) (h : Reach P n st cs) (tid : Nat) :
    ∃ l, (step st tid).1.closed = st.closed ++ l ∧ ∀ w, w ∈ l →
      ∃ th th', st.threads[tid]? = some th ∧ (step st tid).1.threads[tid]? = some th' ∧ cs[tid]? = some true ∧
        Micro.act .storeRoot ∉ th'.prog ∧
        ((Micro.act .notify ∈ th.prog ∧ Micro.act .notify ∉ th'.prog ∧ w ∈ th'.toNotify) ∨
         (Micro.act .closeInit ∈ th.prog ∧ Micro.act .closeInit ∉ th'.prog ∧ w ∈ th'.initToClose)) :=
  let ⟨l, hl, hby⟩ := step_closed_cases st cs tid (reach_sim P (initShape_simShape P hP) n st cs h)
    (reach_CI P hP n st cs h)
  ⟨l, hl, fun w hw => let ⟨th, th', hth, hth', by_⟩ := hby w hw; ⟨th, th', hth, hth', by_.flag, by_.stored, by_.action⟩⟩

/-- **aborting writers (and registrations) close nothing**: a scheduler step of
    a thread spawned with `commit = false` leaves the closed list as it is -/
theorem C06_conc_abort_closes_nothing (P : Protocol) (hP : P.initShape = true) (n : Nat) (st : State)
    (cs : List Bool) (h : Reach P n st cs) (tid : Nat) (hc : cs[tid]? = some false) :
    (step st tid).1.closed = st.closed :=
  step_closed_abort st cs tid (reach_sim P (initShape_simShape P hP) n st cs h) (reach_CI P hP n st cs h) hc

/-- **`notify` sits between `storeRoot` and the unlocking**: for a committing
    writer, `notify` done implies `storeRoot` done; and from its `storeRoot` until its
    `notify` it owns the mutex of every table it requested (so the channels are
    closed after the new root is visible and before `Commit` releases the tables) -/
theorem C06_conc_notify_after_store_before_unlock (P : Protocol) (hP : P.initShape = true) (n : Nat) (st : State)
    (cs : List Bool) (h : Reach P n st cs) (tid : Nat) (th : Thread) (hth : st.threads[tid]? = some th)
    (hc : cs[tid]? = some true) :
    (Micro.act .notify ∉ th.prog → Micro.act .storeRoot ∉ th.prog) ∧
    (Micro.act .storeRoot ∉ th.prog → Micro.act .notify ∈ th.prog →
      ∀ x ∈ th.tables, Micro.release x ∈ th.prog ∧ st.lockOwner.getD x none = some tid) := by
  have ord := commitOrder st cs _ (reach_CI P hP n st cs h) tid th hth hc
  refine ⟨ord.notify_after_store, fun hs hn x hx => ?_⟩
  obtain ⟨r, a⟩ := ord.locked_until_notified hs hn x hx
  exact ⟨r, holds_of_between st cs (reach_sim P (initShape_simShape P hP) n st cs h) tid th hth x r a⟩

/-- **the channels a committed writer notifies are those of the versions it
    replaced**: past its `storeRoot`, its notify list is the list of the watch
    channels of the versions it loaded for its (de-duplicated) tables, and none of
    them is a watch channel of the committed root any more -/
theorem C06_conc_notify_list (P : Protocol) (hP : P.initShape = true) (n : Nat) (st : State)
    (cs : List Bool) (h : Reach P n st cs) (tid : Nat) (th : Thread) (hth : st.threads[tid]? = some th)
    (hc : cs[tid]? = some true) (hs : Micro.act .storeRoot ∉ th.prog) :
    th.toNotify = (dedup th.tables).map (fun x => (getT th.oldRoot x).watch) ∧
    ∀ w ∈ th.toNotify, ∀ i, i < st.root.length → (getT st.root i).watch ≠ w := by
  have hci := reach_CI P hP n st cs h
  have hrec := storedRec st cs _ hci tid th hth hc hs
  refine ⟨hrec.wr.toNotify_eq, fun w hw i hi heq => ?_⟩
  by_cases hn : Micro.act .notify ∈ th.prog
  · exact hci.PR tid th true w hth hc (Or.inr (Or.inl ⟨rfl, hs, hn, hw⟩)) ⟨i, hi, Or.inl heq.symm⟩
  · exact hci.RC w ⟨i, hi, Or.inl heq.symm⟩ ((reach_closedOK P hP n st cs h).notified ⟨hth, hc, hs⟩ hn w hw)

/-- **closed no later than the return of Commit**: once a committing writer is past
    its `notify` (in particular when `Commit` has returned), the watch channel of
    every version it replaced is closed -/
theorem C06_conc_closed_by_commit_return (P : Protocol) (hP : P.initShape = true) (n : Nat) (st : State)
    (cs : List Bool) (h : Reach P n st cs) (tid : Nat) (th : Thread) (hth : st.threads[tid]? = some th)
    (hc : cs[tid]? = some true) (hn : Micro.act .notify ∉ th.prog) (x : Nat) (hx : x ∈ th.tables) :
    (getT th.oldRoot x).watch ∈ st.closed ∧ (getT th.oldRoot x).rev < (getT (readTxn st) x).rev := by
  have hci := reach_CI P hP n st cs h
  have hs := (commitOrder st cs _ hci tid th hth hc).notify_after_store hn
  have hrec := storedRec st cs _ hci tid th hth hc hs
  have hxl := (mem_lockList th x).2 hx
  refine ⟨(reach_closedOK P hP n st cs h).notified ⟨hth, hc, hs⟩ hn _ ?_,
    (reach_hist P hP n st cs h x (hrec.bound x hxl)).RL _ (SW.comAt ⟨hth, hc, hs⟩ hxl)⟩
  rw [hrec.wr.toNotify_eq, List.mem_map]
  exact ⟨x, (mem_dedup x _).2 hx, rfl⟩

/-- **never closes before the change is visible** (the last clause of C06, between
    two moments): let a snapshot taken in a reachable state `st0` hand out the watch
    channel `w` of table `x`; in every later state `st` (any further spawns and
    scheduler steps) in which `w` is closed, a read transaction sees a strictly newer
    revision of `x` than the snapshot -/
theorem C06_conc_closed_implies_newer_revision (P : Protocol) (hP : P.initShape = true) (n : Nat)
    (st0 : State) (cs0 : List Bool) (h0 : Reach P n st0 cs0) (st : State) (cs : List Bool)
    (h : ReachFrom P st0 cs0 st cs) (x : Nat) (hx : x < (readTxn st0).length)
    (hw : (getT (readTxn st0) x).watch ∈ st.closed) :
    (getT (readTxn st0) x).rev < (getT (readTxn st) x).rev := by
  obtain ⟨hxl, hor⟩ := version_same_or_newer P hP n st0 cs0 h0 st cs h x hx
  rcases hor with e | e
  · exfalso
    have hopen := C06_conc_fresh_watch_open P hP n st cs (reach_of_reachFrom P n st0 cs0 h0 st cs h) x hxl
    apply hopen
    show (getT st.root x).watch ∈ st.closed
    rw [e]; exact hw
  · exact e

/-- … and the closed list only grows: a channel closed in `st0` stays closed -/
theorem C06_conc_closed_stays_closed (P : Protocol) (hP : P.initShape = true) (n : Nat)
    (st0 : State) (cs0 : List Bool) (h0 : Reach P n st0 cs0) (st : State) (cs : List Bool)
    (h : ReachFrom P st0 cs0 st cs) (w : Nat) (hw : w ∈ st0.closed) : w ∈ st.closed := by
  induction h with
  | refl => exact hw
  | writer st cs tabs commit mi ri _ hb ih => exact ih
  | register st cs _ ih => exact ih
  | registerDup st cs _ ih => exact ih
  | step st cs tid hr ih =>
    obtain ⟨l, hl, _⟩ := C06_conc_closed_only_by_committer P hP n st cs (reach_of_reachFrom P n st0 cs0 h0 st cs hr) tid
    rw [hl]; exact List.mem_append_left _ ih

/-! ## revisions -/

/-- the committed revision of a table is its committed counter, i.e. the number of
    committing writers on the table whose `storeRoot` has happened -/
theorem C06_conc_rev_counts_commits (P : Protocol) (hP : P.initShape = true) (n : Nat) (st : State)
    (cs : List Bool) (h : Reach P n st cs) (x : Nat) (hx : x < st.root.length) :
    (getT st.root x).rev = (getT st.root x).cnt ∧ (getT st.root x).rev = committedWriters st cs x := by
  have h1 := (reach_CI P hP n st cs h).RV x hx
  exact ⟨h1, by rw [h1]; exact cnt_eq_committedWriters st cs (reach_sim P (initShape_simShape P hP) n st cs h) x hx⟩

/-- a scheduler step never decreases a committed revision; it increases exactly the
    revisions of the tables of the stepping writer when that writer's `storeRoot`
    happens in the step (by one: the new version), and registrations only append -/
theorem C06_conc_rev_monotone (P : Protocol) (hP : P.initShape = true) (n : Nat) (st : State)
    (cs : List Bool) (h : Reach P n st cs) (tid : Nat) (x : Nat) (hx : x < st.root.length) :
    x < (step st tid).1.root.length ∧
    ((getT (step st tid).1.root x).rev = (getT st.root x).rev ∨
     ((getT (step st tid).1.root x).rev = (getT st.root x).rev + 1 ∧ cs[tid]? = some true ∧
       ∃ th, st.threads[tid]? = some th ∧ x ∈ th.tables ∧ Micro.act .storeRoot ∈ th.prog)) := by
  obtain ⟨hl, e | ⟨hc, th, _, hth, _, hxt, hs, _, m, hm⟩⟩ := step_table_cases st cs tid
    (reach_sim P (initShape_simShape P hP) n st cs h) (reach_CI P hP n st cs h) x hx
  · exact ⟨hl, Or.inl (by rw [e])⟩
  · exact ⟨hl, Or.inr ⟨by rw [hm, clr_uwEntry_rev], hc, th, hth, hxt, hs⟩⟩

/-! ## non-vacuity -/

private def stepsOf (st : State) (tid : Nat) : Nat → State
  | 0 => st
  | k + 1 => stepsOf (step st tid).1 tid k

private theorem reach_stepsOf (P : Protocol) (n : Nat) (tid : Nat) : ∀ (k : Nat) (st : State) (cs : List Bool),
    Reach P n st cs → Reach P n (stepsOf st tid k) cs
  | 0, _, _, h => h
  | k + 1, st, cs, h => reach_stepsOf P n tid k _ cs (.step st cs tid h)

/-- a committing writer on tables `[1, 0, 1]` past its `notify`: the replaced watch
    channels `2` and `1` are closed, the committed ones (`4`, `3`) are open, revisions are 1 -/
example : ∃ st cs th, Reach Gen.protocol 2 st cs ∧ st.threads[0]? = some th ∧ cs[0]? = some true ∧
    Micro.act .notify ∉ th.prog ∧ st.closed = [2, 1] ∧ (getT st.root 0).watch = 4 ∧ (getT st.root 0).rev = 1 ∧
    (getT th.oldRoot 0).watch = 1 := by
  refine ⟨stepsOf (spawnWriter Gen.protocol (initState 2) [1, 0, 1] true [] []) 0 12, [true], _,
    reach_stepsOf _ _ _ _ _ _ (.writer _ _ _ _ _ _ .init (by decide)),
    List.getElem?_eq_getElem (by decide +kernel), by decide +kernel⟩

/-- the same writer between its `storeRoot` and its `notify`: the new revision is
    visible, nothing is closed yet, and it still owns its table mutexes -/
example : ∃ st cs th, Reach Gen.protocol 2 st cs ∧ st.threads[0]? = some th ∧ cs[0]? = some true ∧
    Micro.act .storeRoot ∉ th.prog ∧ Micro.act .notify ∈ th.prog ∧ st.closed = [] ∧ (getT st.root 0).rev = 1 := by
  refine ⟨stepsOf (spawnWriter Gen.protocol (initState 2) [1, 0, 1] true [] []) 0 10, [true], _,
    reach_stepsOf _ _ _ _ _ _ (.writer _ _ _ _ _ _ .init (by decide)),
    List.getElem?_eq_getElem (by decide +kernel), by decide +kernel⟩

/-! ## the shape condition on `registerTable` is needed

`Model.Conc` chooses the watch channel of a new table in `appendTable` (the current
value of the allocator `nextChan`) but advances the allocator only in the following
`storeRoot`.  `initShape` therefore asks that no hook separates the two; with a hook
in between (a protocol that still has `simShape`) a writer's `userWrites` can be
scheduled into the gap, gets the same channel id, and the clause "fresh channels are
open" fails.  (In the Go code the channel is a freshly made `chan struct{}`, so this
is a property of the model's id allocation, not of the library.) -/

private def gapProtocol : Protocol :=
  { Gen.protocol with register := [.hook "register-before-lock", .lockRoot, .hook "register-locked",
      .loadCurrentRoot, .appendTable, .hook "gap", .storeRoot, .hook "register-stored", .unlockRoot] }

private def runSched (st : State) : List Nat → State
  | [] => st
  | t :: r => runSched (step st t).1 r

private theorem reach_runSched (P : Protocol) (n : Nat) : ∀ (l : List Nat) (st : State) (cs : List Bool),
    Reach P n st cs → Reach P n (runSched st l) cs
  | [], _, _, h => h
  | t :: l, st, cs, h => reach_runSched P n l _ cs (.step st cs t h)

/-- with a hook between `appendTable` and `storeRoot` (shape `simShape` but not
    `initShape`) a reachable state has a committed table whose watch channel is closed -/
theorem C06_conc_fresh_watch_open_gap_refuted :
    ∃ (P : Protocol) (st : State) (cs : List Bool), P.simShape = true ∧ P.initShape = false ∧ Reach P 1 st cs ∧
      ∃ i, i < (readTxn st).length ∧ (getT (readTxn st) i).watch ∈ st.closed := by
  refine ⟨gapProtocol,
    runSched (spawnWriter gapProtocol (spawnWriter gapProtocol (spawnRegister gapProtocol (initState 1)) [0] true [] [])
      [0] true [] [])
      [0,0,0, 1,1,1,1,1,1, 0,0,0,0, 1,1,1,1,1,1,1,1,1,1, 2,2,2,2,2,2,2,2,2,2], [false, true, true],
    by decide, by decide, ?_, 1, by decide +kernel⟩
  exact reach_runSched _ _ _ _ _ (.writer _ _ _ _ _ _ (.writer _ _ _ _ _ _ (.register _ _ .init) (by decide)) (by decide))

end Sdb
