import SdbModel.Model.StatusSet
import SdbModel.Generated.SliceParams
/-!
  C15 with several reconcilers per object (`reconciler.StatusSet`): "Its writes change nothing
  but the status of the object" — a reconciler's status write must leave the statuses of all
  OTHER reconcilers as they are — and the id logic the status write-back relies on: after
  `Pending()` every reconciler, also one that has never reported, sees Pending with the same
  fresh id.
-/
namespace Sdb
open SSet

/-- names strictly ascending (hence distinct): the representation invariant -/
def SSet.Sorted : List (Nat × Status) → Prop
  | [] => True
  | [_] => True
  | a :: b :: rest => a.1 < b.1 ∧ SSet.Sorted (b :: rest)

/-! ### `lookup` after each of the two ways a status list is rewritten -/

private theorem lookup_isSome (n : Nat) (l : List (Nat × Status)) : (lookup n l).isSome = l.any (·.1 = n) := by
  induction l with
  | nil => rfl
  | cons p rest ih =>
    obtain ⟨k, s⟩ := p
    simp only [lookup, List.any_cons]
    split
    · rename_i h; simp [h]
    · rename_i h; simp [h, ih]

private theorem lookup_map_snd (g : Nat → Status → Status) (m : Nat) (l : List (Nat × Status)) :
    lookup m (l.map fun p => (p.1, g p.1 p.2)) = (lookup m l).map (g m) := by
  induction l with
  | nil => rfl
  | cons p rest ih =>
    obtain ⟨k, s⟩ := p
    simp only [List.map_cons, lookup]
    split
    · rename_i h; subst h; rfl
    · exact ih

private theorem lookup_insertSorted (n m : Nat) (st : Status) (l : List (Nat × Status))
    (hn : l.any (·.1 = n) = false) : lookup m (insertSorted n st l) = if n = m then some st else lookup m l := by
  induction l with
  | nil => rfl
  | cons p rest ih =>
    obtain ⟨k, s⟩ := p
    simp only [List.any_cons, Bool.or_eq_false_iff, decide_eq_false_iff_not] at hn
    unfold insertSorted
    split
    · rfl
    · simp only [lookup, ih hn.2]
      split
      · rename_i h; rw [if_neg (h ▸ Ne.symm hn.1)]
      · rfl

/-- `Set` on a name that is present, written on the components -/
private theorem set_replace_eq (n : Nat) (st : Status) :
    (fun p : Nat × Status => if p.1 = n then (n, st) else p) = fun p => (p.1, if p.1 = n then st else p.2) := by
  funext p
  split
  · rename_i h; rw [h]
  · rfl

/-- `Set` keeps the set's own id (the id that tells a data change from a status change) -/
theorem C15_statusset_set_keeps_id (s : SS) (n : Nat) (st : Status) : (s.set n st).id = s.id := by
  unfold SS.set; split <;> rfl

/-- what `Set` does to the list, as every reader sees it -/
theorem lookup_set (s : SS) (n m : Nat) (st : Status) :
    lookup m (s.set n st).statuses = if n = m then some st else lookup m s.statuses := by
  unfold SS.set
  split
  · rename_i h
    simp only
    rw [set_replace_eq, lookup_map_snd (fun a s => if a = n then st else s)]
    split
    · rename_i hm
      subst hm
      rw [← lookup_isSome] at h
      cases hl : lookup m s.statuses with
      | none => rw [hl] at h; exact nomatch h
      | some _ => rw [if_pos rfl]; rfl
    · rename_i hm
      simp only [Ne.symm hm, if_false]
      exact Option.map_id'
  · rename_i h
    exact lookup_insertSorted n m st _ (Bool.eq_false_iff.2 h)

/-- `Set` and `Get` as every reader sees them: the law the `Get` theorems below are instances of -/
theorem get_set (s : SS) (n m : Nat) (st : Status) : (s.set n st).get m = if n = m then st else s.get m := by
  unfold SS.get
  rw [lookup_set, C15_statusset_set_keeps_id]
  by_cases h : n = m
  · rw [if_pos h, if_pos h]
  · rw [if_neg h, if_neg h]

/-- **Set then Get**: a reconciler reads back the status it wrote -/
theorem C15_statusset_get_set_same (s : SS) (n : Nat) (st : Status) : (s.set n st).get n = st := by
  rw [get_set, if_pos rfl]

/-- **A reconciler's status write leaves every other reconciler's status untouched** — also
    the answer for reconcilers that have not reported yet -/
theorem C15_statusset_get_set_other (s : SS) (n m : Nat) (st : Status) (h : m ≠ n) : (s.set n st).get m = s.get m := by
  rw [get_set, if_neg (Ne.symm h)]

/-- **After `Pending()` every reconciler sees Pending with the one fresh id** — those that had
    reported (whatever they had reported) and those that never did.  This is what lets each
    reconciler's status commit recognise "only statuses changed since I read the object". -/
theorem C15_statusset_pending_get (s : SS) (i m : Nat) : (s.pending i).get m = { kind := .pending, id := i } := by
  unfold SS.pending SS.get
  simp only
  rw [lookup_map_snd (fun _ _ => { kind := .pending, id := i })]
  cases lookup m s.statuses <;> rfl

theorem C15_statusset_pending_keeps_names (s : SS) (i : Nat) : (s.pending i).names = s.names := by
  simp [SS.pending, SS.names, List.map_map, Function.comp_def]

private theorem sorted_map_snd (f : Nat × Status → Status) (l : List (Nat × Status)) (hs : SSet.Sorted l) :
    SSet.Sorted (l.map fun p => (p.1, f p)) := by
  induction l with
  | nil => trivial
  | cons a rest ih =>
    cases rest with
    | nil => trivial
    | cons b r => exact ⟨hs.1, ih hs.2⟩

/-- inserting an absent name keeps the list ascending, also below any head smaller than the name
    (the second clause is what the induction needs where the new entry goes further down) -/
private theorem sorted_insert (n : Nat) (st : Status) (l : List (Nat × Status)) (hs : SSet.Sorted l)
    (hn : l.any (·.1 = n) = false) :
    SSet.Sorted (insertSorted n st l) ∧
      ∀ a : Nat × Status, a.1 < n → SSet.Sorted (a :: l) → SSet.Sorted (a :: insertSorted n st l) := by
  induction l with
  | nil => exact ⟨trivial, fun a ha _ => ⟨ha, trivial⟩⟩
  | cons b rest ih =>
    simp only [List.any_cons, Bool.or_eq_false_iff, decide_eq_false_iff_not] at hn
    unfold insertSorted
    split
    · rename_i hlt
      exact ⟨⟨hlt, hs⟩, fun a ha _ => ⟨ha, hlt, hs⟩⟩
    · rename_i hge
      have hb : SSet.Sorted (b :: insertSorted n st rest) :=
        (ih (by cases rest with | nil => trivial | cons c r => exact hs.2) hn.2).2 b (Nat.lt_of_le_of_ne (Nat.le_of_not_lt hge) hn.1) hs
      exact ⟨hb, fun a _ ha => ⟨ha.1, hb⟩⟩

/-- the representation invariant (names strictly ascending, no name twice) is preserved by `Set` -/
theorem C15_statusset_set_sorted (s : SS) (n : Nat) (st : Status) (hs : SSet.Sorted s.statuses) :
    SSet.Sorted (s.set n st).statuses := by
  unfold SS.set
  split
  · simp only
    rw [set_replace_eq]
    exact sorted_map_snd _ _ hs
  · rename_i h
    exact (sorted_insert n st _ hs (Bool.eq_false_iff.2 h)).1

theorem C15_statusset_pending_sorted (s : SS) (i : Nat) (hs : SSet.Sorted s.statuses) : SSet.Sorted (s.pending i).statuses :=
  sorted_map_snd _ _ hs

/-- every value reachable from a new set by any sequence of `Set` / `Pending` keeps the invariant -/
theorem C15_statusset_reachable_sorted (id0 : Nat) (ops : List Op) :
    SSet.Sorted (ops.foldl SS.apply { id := id0 }).statuses := by
  suffices h : ∀ s : SS, SSet.Sorted s.statuses → SSet.Sorted (ops.foldl SS.apply s).statuses from h _ trivial
  induction ops with
  | nil => intro s hs; exact hs
  | cons op ops ih =>
    intro s hs
    refine ih _ ?_
    cases op with
    | set n st => exact C15_statusset_set_sorted s n st hs
    | pending i => exact C15_statusset_pending_sorted s i hs

/-- a later write by the same reconciler wins; writes by different reconcilers commute as far
    as any reader can tell -/
theorem C15_statusset_set_set_same (s : SS) (n m : Nat) (a b : Status) : ((s.set n a).set n b).get m = (s.set n b).get m := by
  simp only [get_set]
  split <;> rfl

theorem C15_statusset_set_commute (s : SS) (n k m : Nat) (a b : Status) (hnk : n ≠ k) :
    ((s.set n a).set k b).get m = ((s.set k b).set n a).get m := by
  by_cases h1 : n = m
  · have h2 : k ≠ m := fun h2 => hnk (h1.trans h2.symm)
    simp only [get_set, if_pos h1, if_neg h2]
  · simp only [get_set, if_neg h1]

/-- `Model.StatusSet` treats values as immutable; in the code a `StatusSet` value shares its
    `statuses` slice with every copy of the object it was read from.  Today's `Set` and `Pending`
    clone the slice — unconditionally, before the first write through it (regenerated) -/
theorem C15_statusset_value_semantics_source_fact : Gen.statusSetClonesBeforeWriting = true := by decide

/-! non-vacuity -/
example : (((({ id := 1 } : SS).set 5 ⟨.done, 2⟩).set 3 ⟨.error, 3⟩).set 5 ⟨.pending, 4⟩).statuses
    = [(3, ⟨.error, 3⟩), (5, ⟨.pending, 4⟩)] := by decide +kernel
example : ((({ id := 1 } : SS).set 5 ⟨.done, 2⟩).pending 9).get 7 = ⟨.pending, 9⟩ := by decide +kernel

end Sdb
