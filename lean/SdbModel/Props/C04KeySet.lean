import SdbModel.Model.KeySet
/-!
  C04, the glue between an indexer and the index: "none missing, none stale … for empty keys
  and keys containing any byte values".  The table layer indexes an object under exactly the
  keys `KeySet.Foreach` visits and finds stale entries with `KeySet.Exists`; F7 (repaired) was a
  `KeySet` that could not tell the empty set from the set holding the empty key.
-/
namespace Sdb
open KS

/-- **`Foreach` visits exactly the keys the set was made of, in order** — also when the first
    key, or any key, is empty -/
theorem C04_keyset_foreach_is_keys (ks : List (List Nat)) : (newKeySet ks).toList = ks := by
  cases ks <;> rfl

/-- `Exists` searches what `Foreach` visits, for every value of the representation (whatever `head` holds when
    the flag is off) -/
theorem keyset_exists_eq (s : KeySet) (k : List Nat) : s.exists k = s.toList.any (· == k) := by
  unfold KeySet.exists KeySet.toList
  cases s.nonEmpty
  · rfl
  · cases h : s.head == k <;> simp [h]

/-- **`Exists` is membership**, for every key including the empty one -/
theorem C04_keyset_exists_iff (ks : List (List Nat)) (k : List Nat) : (newKeySet ks).exists k = true ↔ k ∈ ks := by
  rw [keyset_exists_eq, C04_keyset_foreach_is_keys, List.any_eq_true]
  exact ⟨fun ⟨x, hx, e⟩ => eq_of_beq e ▸ hx, fun hk => ⟨k, hk, beq_self_eq_true k⟩⟩

/-- the empty set has no member — not even the empty key; the set holding only the empty key has it -/
theorem C04_keyset_empty_vs_empty_key :
    (newKeySet []).exists [] = false ∧ (newKeySet [[]]).exists [] = true ∧
    (newKeySet []).toList = [] ∧ (newKeySet [[]]).toList = [[]] := by decide

/-- every constructor yields one key per element, in order: an object is indexed under the key
    of each element of its collection, none dropped -/
theorem C04_keyset_constructors_complete {α : Type} (toKey : α → List Nat) (xs : List α) :
    (ofElems toKey xs).toList = xs.map toKey ∧ ∀ x ∈ xs, (ofElems toKey xs).exists (toKey x) = true := by
  refine ⟨C04_keyset_foreach_is_keys _, fun x hx => ?_⟩
  unfold ofElems
  rw [C04_keyset_exists_iff]
  exact List.mem_map.2 ⟨x, hx, rfl⟩

/-- `First` is the first key visited -/
theorem C04_keyset_first (k : List Nat) (ks : List (List Nat)) : (newKeySet (k :: ks)).first = k := rfl

end Sdb
