import SdbModel.Lemmas.ConcInitExact

/-!
# C19 (interleaving model) — initializer state is exact, monotone and signalled after visibility

> Initialized(snapshot) is true exactly when every initializer registered in
> transactions committed up to that snapshot has been marked done in a
> committed transaction, PendingInitializers lists exactly the others, and once
> true it stays true in all later snapshots unless a new initializer is
> registered.  The watch channel it returns closes only when the table becomes
> initialized and only after a snapshot showing it initialized can be obtained;
> registrations and marks made in aborted transactions have no effect on the
> committed state.

`Props/C19.lean` proves the sequential clauses on `Model.Table` and the ordering of
the protocol actions.  Here the clauses are proved on `Model.Conc`, the
interleaving model compared step by step with the real goroutines, for EVERY
schedule: every state `Reach P n st cs` of every protocol of the shape
`Protocol.initShape` (decided for `Gen.protocol`; it fixes where `collectInit` and
`closeInit` sit relative to `storeRoot` / `unlockRoot` / `unlockTables`).  In
`Model.Conc` a table version carries `initPending` (some registered initializer is
not marked done) and `initWatch` (the channel of `Initialized`, `0` = no record); a
writer spawned with `regInit` / `markInit` registers / marks an initializer on the
tables it holds.  Proved: the committed init state of a table changes only in the
`storeRoot` of a committing writer holding the table, to the value computed from
the committed version (exactness, step form); an initializer is pending exactly when a
committed writer registered one without marking it and no committed marker committed later
(exactness, history form: "later" is read off the revisions in the thread records); aborted
writers change nothing;
an initialized table stays initialized unless a committing writer registers;
an init channel is closed only by the `closeInit` of the committer that made the
table initialized, after its `storeRoot` and its unlocks, the table being
initialized in the committed root from that `storeRoot` on unless a LATER
committer registers a new initializer; channels handed out by a snapshot are open.
-/
namespace Sdb
open Conc

theorem C19_conc_protocol_shape : Gen.protocol.initShape = true := by decide

/-- the committed record is consistent: an initializer is pending iff the table has
    an init channel -/
theorem C19_conc_pending_iff_record (P : Protocol) (hP : P.initShape = true) (n : Nat) (st : State) (cs : List Bool)
    (h : Reach P n st cs) (i : Nat) (hi : i < (readTxn st).length) :
    (getT (readTxn st) i).initPending = true ↔ (getT (readTxn st) i).initWatch ≠ 0 :=
  (reach_CI P hP n st cs h).IP i hi

/-- **a handed-out init channel is open**: the init channel a snapshot returns
    for a table that is not initialized is not closed -/
theorem C19_conc_handed_out_init_channel_open (P : Protocol) (hP : P.initShape = true) (n : Nat) (st : State)
    (cs : List Bool) (h : Reach P n st cs) (i : Nat) (hi : i < (readTxn st).length)
    (hw : (getT (readTxn st) i).initWatch ≠ 0) :
    (getT (readTxn st) i).initWatch ∉ st.closed :=
  (reach_CI P hP n st cs h).RC _ ⟨i, hi, Or.inr ⟨rfl, hw⟩⟩

/-- init channels of different tables are different, and differ from all table watch channels -/
theorem C19_conc_init_channels_distinct (P : Protocol) (hP : P.initShape = true) (n : Nat) (st : State)
    (cs : List Bool) (h : Reach P n st cs) (i j : Nat) (hi : i < st.root.length) (hj : j < st.root.length)
    (hw : (getT st.root i).initWatch ≠ 0) :
    ((getT st.root i).initWatch = (getT st.root j).initWatch → i = j) ∧
    (getT st.root i).initWatch ≠ (getT st.root j).watch := by
  have hci := reach_CI P hP n st cs h
  constructor
  · intro he
    exact Decidable.byContradiction fun hne => hci.RI i j hi hj hne _ (Or.inr ⟨rfl, hw⟩) (Or.inr ⟨he, hw⟩)
  · intro he
    by_cases hij : i = j
    · subst hij; exact hci.RW i hi hw he.symm
    · exact hci.RI i j hi hj hij _ (Or.inr ⟨rfl, hw⟩) (Or.inl he)

/-- **exactness, step form**: a scheduler step leaves the committed version of
    table `x` — in particular its initializer state — as it is, unless the stepping
    thread is a COMMITTING writer that requested `x` and whose `storeRoot` happens in
    this step; then the new version is the one computed from the committed version:
    `initPending` becomes `false` if the writer marks, else `true` if it registers,
    else stays -/
theorem C19_conc_init_changes_only_at_commit (P : Protocol) (hP : P.initShape = true) (n : Nat) (st : State)
    (cs : List Bool) (h : Reach P n st cs) (tid : Nat) (x : Nat) (hx : x < st.root.length) :
    getT (step st tid).1.root x = getT st.root x ∨
    (cs[tid]? = some true ∧ ∃ th th', st.threads[tid]? = some th ∧ (step st tid).1.threads[tid]? = some th' ∧
      x ∈ th.tables ∧ Micro.act .storeRoot ∈ th.prog ∧ Micro.act .storeRoot ∉ th'.prog ∧
      (∃ m, getT (step st tid).1.root x =
        clr (uwEntry (th.regInit.contains x) (th.markInit.contains x) m (getT st.root x))) ∧
      (getT (step st tid).1.root x).initPending =
        (if th.markInit.contains x then false else if th.regInit.contains x then true
         else (getT st.root x).initPending)) := by
  refine (step_table_cases st cs tid (reach_sim P (initShape_simShape P hP) n st cs h) (reach_CI P hP n st cs h)
    x hx).2.imp id fun ⟨hc, th, th', hth, hth', hxt, hs, hs', m, hm⟩ =>
      ⟨hc, th, th', hth, hth', hxt, hs, hs', ⟨m, hm⟩, by rw [hm, clr_uwEntry_pending]⟩

/-- at its `storeRoot` the version a writer loaded is still the committed one
    (`C05_conc_writer_sees_latest` for the counters): a committing writer that has loaded
    the root and not yet stored sees, for each of its tables, exactly the committed
    version — counter, revision, channels AND initializer state -/
theorem C19_conc_writer_sees_committed_init (P : Protocol) (hP : P.initShape = true) (n : Nat) (st : State)
    (cs : List Bool) (h : Reach P n st cs) (tid : Nat) (th : Thread) (hth : st.threads[tid]? = some th)
    (hc : cs[tid]? = some true) (hld : Micro.act .loadRoot ∉ th.prog) (hs : Micro.act .storeRoot ∈ th.prog)
    (x : Nat) (hx : x ∈ th.tables) : getT th.oldRoot x = getT st.root x := by
  obtain ⟨p, hp, hl⟩ := ((reach_CI P hP n st cs h).thread hth hc).pos
  rw [mem_of_pos hp (.act .loadRoot)] at hld
  exact (Loc_seen _ _ th p hl hld ((tracked_of_pos th _ true p hp).storeRoot.1 hs) x ((mem_lockList th x).2 hx)).2

/-- **aborted writers have no effect**: a scheduler step of a thread spawned with
    `commit = false` leaves every committed table version (hence the init state seen
    by every later snapshot) and the closed channels as they are; if the thread is a
    writer (it requested a table) the committed root is literally unchanged -/
theorem C19_conc_abort_no_effect (P : Protocol) (hP : P.initShape = true) (n : Nat) (st : State)
    (cs : List Bool) (h : Reach P n st cs) (tid : Nat) (hc : cs[tid]? = some false) :
    (∀ x, x < st.root.length → getT (step st tid).1.root x = getT st.root x) ∧
    (step st tid).1.closed = st.closed ∧
    (∀ th, st.threads[tid]? = some th → th.tables ≠ [] → (step st tid).1.root = st.root) := by
  have hci := reach_CI P hP n st cs h
  have hsim := reach_sim P (initShape_simShape P hP) n st cs h
  refine ⟨fun x hx => ?_, ?_, fun th hth hne => ?_⟩
  · rcases C19_conc_init_changes_only_at_commit P hP n st cs h tid x hx with he | ⟨hc', _⟩
    · exact he
    · rw [hc] at hc'; simp at hc'
  · exact step_closed_abort st cs tid hsim hci hc
  · rcases step_root_cases st cs tid hsim hci with he | ⟨_, _, _, _, hc', _⟩ | ⟨th2, w, hth2, ht, _, _⟩
    · exact he
    · rw [hc] at hc'; simp at hc'
    · rw [hth] at hth2; simp only [Option.some.injEq] at hth2; subst hth2
      exact absurd ht hne

/-- **monotone**: if table `x` is initialized in the committed root (no pending
    initializer, no init record) and a scheduler step makes it not initialized, then
    the stepping thread is a committing writer that holds `x`, registers an
    initializer on `x` and does not mark it, and its `storeRoot` happens in this step -/
theorem C19_conc_initialized_monotone (P : Protocol) (hP : P.initShape = true) (n : Nat) (st : State)
    (cs : List Bool) (h : Reach P n st cs) (tid : Nat) (x : Nat) (hx : x < st.root.length)
    (hi : Initialized (getT (readTxn st) x)) (hni : ¬ Initialized (getT (readTxn (step st tid).1) x)) :
    cs[tid]? = some true ∧ ∃ th, st.threads[tid]? = some th ∧ x ∈ th.tables ∧ th.regInit.contains x = true ∧
      th.markInit.contains x = false ∧ Micro.act .storeRoot ∈ th.prog := by
  rcases C19_conc_init_changes_only_at_commit P hP n st cs h tid x hx with he | ⟨hc, th, th', hth, _, hxt, hs, _, ⟨m, hm⟩, _⟩
  · exfalso; apply hni; rw [readTxn_eq, he]; exact hi
  · refine ⟨hc, th, hth, hxt, ?_, ?_, hs⟩
    · cases hr : th.regInit.contains x with
      | true => rfl
      | false =>
        exfalso; apply hni
        rw [readTxn_eq, hm, hr]; exact clr_uwEntry_noreg _ _ _ hi
    · cases hmk : th.markInit.contains x with
      | false => rfl
      | true =>
        exfalso; apply hni
        rw [readTxn_eq, hm, clr_uwEntry_initialized _ _ _ _ ((reach_CI P hP n st cs h).IP x hx), hmk]
        exact Or.inl rfl

/-- … and conversely a commit makes `x` initialized exactly when the writer marks, or
    does not register and `x` was initialized -/
theorem C19_conc_commit_initialized_iff (P : Protocol) (hP : P.initShape = true) (n : Nat) (st : State)
    (cs : List Bool) (h : Reach P n st cs) (x : Nat) (hx : x < st.root.length) (reg mark : Bool) (m : Nat) :
    Initialized (clr (uwEntry reg mark m (getT st.root x))) ↔
      (mark = true ∨ (reg = false ∧ Initialized (getT st.root x))) :=
  clr_uwEntry_initialized reg mark m _ ((reach_CI P hP n st cs h).IP x hx)

/-- **closed only after visibility**: every closed channel is the watch channel
    of a replaced table version (C06), or the init channel `w` that a COMMITTED writer
    `th` (flag `true`, past its `storeRoot`, its unlocks and its `closeInit`) collected
    for one of its tables `x` — the version it stored for `x` was initialized — and
    `x` IS initialized in the committed root now, unless a writer that committed LATER
    (it loaded a revision of `x` at least as new as the stored one) registered a new
    initializer on `x` -/
theorem C19_conc_init_channel_closed_after_visible (P : Protocol) (hP : P.initShape = true) (n : Nat) (st : State)
    (cs : List Bool) (h : Reach P n st cs) (w : Nat) (hw : w ∈ st.closed) :
    (∃ (tid : Nat) (th : Thread), st.threads[tid]? = some th ∧ cs[tid]? = some true ∧
      Micro.act .notify ∉ th.prog ∧ w ∈ th.toNotify) ∨
    (∃ (tid : Nat) (th : Thread) (x : Nat), st.threads[tid]? = some th ∧ cs[tid]? = some true ∧
      Micro.act .storeRoot ∉ th.prog ∧ (∀ y, Micro.release y ∉ th.prog) ∧ Micro.act .closeInit ∉ th.prog ∧
      x ∈ th.tables ∧ w = (getT th.entries x).initWatch ∧ Collectable (getT th.entries x) ∧
      Initialized (clr (getT th.entries x)) ∧
      (Initialized (getT (readTxn st) x) ∨
        ∃ (k : Nat) (U : Thread), st.threads[k]? = some U ∧ cs[k]? = some true ∧ Micro.act .storeRoot ∉ U.prog ∧
          x ∈ U.tables ∧ U.regInit.contains x = true ∧ (getT th.entries x).rev ≤ (getT U.oldRoot x).rev)) := by
  have hci := reach_CI P hP n st cs h
  obtain ⟨tid, th, hth, hc, hs, hor⟩ := hci.CO w hw
  have hrec := storedRec st cs _ hci tid th hth hc hs
  have ord := commitOrder st cs _ hci tid th hth hc
  rcases hor with ⟨hn, hm⟩ | ⟨hn, hm⟩
  · exact Or.inl ⟨tid, th, hth, hc, hn, hm⟩
  · right
    rw [hrec.cii.collected, mem_toClose] at hm
    obtain ⟨x, hx, hcol, he⟩ := hm
    have hxl := mem_lockList_of_dedup th x hx
    refine ⟨tid, th, x, hth, hc, hs, ord.closeInit_after_unlock hn, hn, (mem_dedup x _).1 hx, he, hcol,
      clr_collectable _ hcol, ?_⟩
    exact ((reach_hist P hP n st cs h x (hrec.bound x hxl)).DI _ (SW.comAt ⟨hth, hc, hs⟩ hxl) hcol).imp id
      fun ⟨_, ⟨k, U, hU, hxU, rfl⟩, rest⟩ => ⟨k, U, hU.thread, hU.flag, hU.stored, (mem_lockList U x).1 hxU, rest⟩

/-- **visible before signalled**: from its `storeRoot` until it releases table
    `x`, the version a committed writer stored for `x` IS the committed one — so if it
    collected the init channel of `x`, a snapshot taken in that period shows `x`
    initialized; its `closeInit` comes only after that period -/
theorem C19_conc_initialized_while_held (P : Protocol) (hP : P.initShape = true) (n : Nat) (st : State)
    (cs : List Bool) (h : Reach P n st cs) (tid : Nat) (th : Thread) (hth : st.threads[tid]? = some th)
    (hc : cs[tid]? = some true) (hs : Micro.act .storeRoot ∉ th.prog) (x : Nat)
    (hrel : Micro.release x ∈ th.prog) :
    getT (readTxn st) x = clr (getT th.entries x) ∧ Micro.act .closeInit ∈ th.prog ∧
    (Collectable (getT th.entries x) → Initialized (getT (readTxn st) x)) := by
  have hci := reach_CI P hP n st cs h
  have hrec := storedRec st cs _ hci tid th hth hc hs
  have ord := commitOrder st cs _ hci tid th hth hc
  have he := hrec.held x hrel
  exact ⟨he, Decidable.byContradiction fun hn => ord.closeInit_after_unlock hn x hrel,
    fun hcol => by rw [readTxn_eq, he]; exact clr_collectable _ hcol⟩

/-- **no missed signal**: once a committing writer is past its `closeInit`, every
    init channel it collected (tables it made initialized) is closed -/
theorem C19_conc_collected_channels_closed (P : Protocol) (hP : P.initShape = true) (n : Nat) (st : State)
    (cs : List Bool) (h : Reach P n st cs) (tid : Nat) (th : Thread) (hth : st.threads[tid]? = some th)
    (hc : cs[tid]? = some true) (hn : Micro.act .closeInit ∉ th.prog) (x : Nat) (hx : x ∈ th.tables)
    (hcol : Collectable (getT th.entries x)) : (getT th.entries x).initWatch ∈ st.closed := by
  have hci := reach_CI P hP n st cs h
  have ord := commitOrder st cs _ hci tid th hth hc
  have hs := ord.notify_after_store (ord.closeInit_after_notify hn)
  have hrec := storedRec st cs _ hci tid th hth hc hs
  apply (reach_closedOK P hP n st cs h).collected ⟨hth, hc, hs⟩ hn
  rw [hrec.cii.collected, mem_toClose]
  exact ⟨x, (mem_dedup x _).2 hx, hcol, rfl⟩

/-- **only `closeInit` of the committer closes an init channel**: if a scheduler
    step closes a channel that is not in the stepping thread's notify list, the thread
    is a committing writer past its `storeRoot` whose `closeInit` happens in this step,
    after it released all its tables, and the channel is one it collected -/
theorem C19_conc_init_closed_by_closeInit (P : Protocol) (hP : P.initShape = true) (n : Nat) (st : State)
    (cs : List Bool) (h : Reach P n st cs) (tid : Nat) :
    ∃ l, (step st tid).1.closed = st.closed ++ l ∧ ∀ w, w ∈ l →
      ∃ th th', st.threads[tid]? = some th ∧ (step st tid).1.threads[tid]? = some th' ∧ cs[tid]? = some true ∧
        Micro.act .storeRoot ∉ th'.prog ∧
        (w ∈ th'.toNotify ∨
         (Micro.act .closeInit ∈ th.prog ∧ Micro.act .closeInit ∉ th'.prog ∧ (∀ y, Micro.release y ∉ th'.prog) ∧
           w ∈ th'.initToClose)) := by
  obtain ⟨l, h1, h2⟩ := step_closed_cases st cs tid (reach_sim P (initShape_simShape P hP) n st cs h)
    (reach_CI P hP n st cs h)
  refine ⟨l, h1, fun w hw => ?_⟩
  obtain ⟨th, th', hth, hth', hby⟩ := h2 w hw
  refine ⟨th, th', hth, hth', hby.flag, hby.stored, ?_⟩
  rcases hby.action with ⟨_, _, hmem⟩ | ⟨hahead, hgone, hmem⟩
  · exact Or.inl hmem
  · have ord := commitOrder _ cs _ (reach_CI P hP n _ cs (.step st cs tid h)) tid th' hth' hby.flag
    exact Or.inr ⟨hahead, hgone, ord.closeInit_after_unlock hgone, hmem⟩

/-- **monotone, between two moments**: if a snapshot taken in a reachable state
    `st0` shows table `x` initialized, then in EVERY later state (any further spawns and
    scheduler steps) `x` is initialized, unless a writer that committed after the
    snapshot (it produced a revision of `x` newer than the snapshot's) registered a new
    initializer on `x` -/
theorem C19_conc_initialized_stays (P : Protocol) (hP : P.initShape = true) (n : Nat)
    (st0 : State) (cs0 : List Bool) (h0 : Reach P n st0 cs0) (st : State) (cs : List Bool)
    (h : ReachFrom P st0 cs0 st cs) (x : Nat) (hx : x < (readTxn st0).length)
    (hi : Initialized (getT (readTxn st0) x)) :
    Initialized (getT (readTxn st) x) ∨
    ∃ (k : Nat) (U : Thread), st.threads[k]? = some U ∧ cs[k]? = some true ∧ Micro.act .storeRoot ∉ U.prog ∧
      x ∈ U.tables ∧ U.regInit.contains x = true ∧ (getT (readTxn st0) x).rev < (getT U.entries x).rev := by
  obtain ⟨hxl, hstays⟩ := stays_initialized P hP n st0 cs0 h0 st cs h x hx hi
  refine hstays.init_or_later.imp id fun ⟨_, ⟨k, U, hU, hxU, rfl⟩, hr, hle⟩ =>
    ⟨k, U, hU.thread, hU.flag, hU.stored, (mem_lockList U x).1 hxU, hr, ?_⟩
  have := ((reach_hist P hP n st cs (reach_of_reachFrom P n st0 cs0 h0 st cs h) x hxl).ent_rev
    (hU.comAt hxU)).1
  simp only [recAt] at this hle
  exact Nat.lt_of_le_of_lt hle (by rw [this]; exact Nat.lt_succ_self _)

/-- **exactness, history form**: in every reachable state an initializer is pending
    on table `x` of the committed root IF AND ONLY IF some committed writer `U` (flag
    `true`, past its `storeRoot`) that requested `x` registered an initializer on `x`
    without marking it, and no committed writer that marks `x` committed later than
    `U` — "later" read off the thread records: every committed writer `V` with
    `x ∈ markInit` produced a revision of `x` not newer than the one `U` produced
    (`V = U` is impossible since `U` does not mark).  Uncommitted (open or aborted)
    writers do not occur in the statement: they have no effect -/
theorem C19_conc_pending_exact (P : Protocol) (hP : P.initShape = true) (n : Nat) (st : State) (cs : List Bool)
    (h : Reach P n st cs) (x : Nat) (hx : x < (readTxn st).length) :
    (getT (readTxn st) x).initPending = true ↔
    ∃ (k : Nat) (U : Thread), st.threads[k]? = some U ∧ cs[k]? = some true ∧ Micro.act .storeRoot ∉ U.prog ∧
      x ∈ U.tables ∧ U.regInit.contains x = true ∧ U.markInit.contains x = false ∧
      ∀ (j : Nat) (V : Thread), st.threads[j]? = some V → cs[j]? = some true → Micro.act .storeRoot ∉ V.prog →
        x ∈ V.tables → V.markInit.contains x = true → (getT V.entries x).rev ≤ (getT U.entries x).rev := by
  have hh := reach_hist P hP n st cs h x hx
  constructor
  · intro hp
    obtain ⟨_, ⟨k, U, hU, hxU, rfl⟩, hr, hm, hall⟩ := hh.PI hp
    exact ⟨k, U, hU.thread, hU.flag, hU.stored, (mem_lockList U x).1 hxU, hr, hm, fun j V h1 h2 h3 hxV hmV =>
      hall _ (SW.comAt ⟨h1, h2, h3⟩ ((mem_lockList V x).2 hxV)) (.inr hmV)⟩
  · rintro ⟨k, U, h1, h2, h3, hxU, hr, hm, hall⟩
    cases hp : (getT (readTxn st) x).initPending with
    | true => rfl
    | false =>
      exfalso
      obtain ⟨_, ⟨j, V, hV, hxV, rfl⟩, hmV, hle⟩ :=
        hh.PD hp _ (SW.comAt ⟨h1, h2, h3⟩ ((mem_lockList U x).2 hxU)) hr hm
      have := hall j V hV.thread hV.flag hV.stored ((mem_lockList V x).1 hxV) hmV
      have e := (hh.ent_rev (hV.comAt hxV)).1
      simp only [recAt] at e hle
      omega

/-- … and a table is initialized iff none is pending -/
theorem C19_conc_initialized_iff_not_pending (P : Protocol) (hP : P.initShape = true) (n : Nat) (st : State)
    (cs : List Bool) (h : Reach P n st cs) (x : Nat) (hx : x < (readTxn st).length) :
    Initialized (getT (readTxn st) x) ↔ (getT (readTxn st) x).initPending = false := by
  have hip := (reach_CI P hP n st cs h).IP x hx
  exact ⟨fun hi => hi.1,
    fun hp => ⟨hp, Decidable.byContradiction fun hne => Bool.noConfusion (hp.symm.trans (hip.2 hne))⟩⟩

/-! ## non-vacuity -/

private def stepsOf (st : State) (tid : Nat) : Nat → State
  | 0 => st
  | k + 1 => stepsOf (step st tid).1 tid k

private theorem reach_stepsOf (P : Protocol) (n : Nat) (tid : Nat) : ∀ (k : Nat) (st : State) (cs : List Bool),
    Reach P n st cs → Reach P n (stepsOf st tid k) cs
  | 0, _, _, h => h
  | k + 1, st, cs, h => reach_stepsOf P n tid k _ cs (.step st cs tid h)

private def afterRegister : State :=
  stepsOf (spawnWriter Gen.protocol (initState 2) [1, 0, 1] true [] [0]) 0 16

private theorem reach_afterRegister : Reach Gen.protocol 2 afterRegister [true] :=
  reach_stepsOf _ _ _ _ _ _ (.writer _ _ _ _ _ _ .init (by decide))

/-- a committed writer registered an initializer on table 0: a snapshot shows it
    pending with the open init channel 5 -/
example : ∃ st cs, Reach Gen.protocol 2 st cs ∧ (getT (readTxn st) 0).initPending = true ∧
    (getT (readTxn st) 0).initWatch = 5 ∧ 5 ∉ st.closed ∧ ¬ Initialized (getT (readTxn st) 0) :=
  ⟨afterRegister, [true], reach_afterRegister, by decide +kernel⟩

/-- a second writer marks it done: between its `storeRoot` and its unlock the table is
    initialized in the committed root and channel 5 is still open (hypotheses of
    `C19_conc_initialized_while_held`) … -/
example : ∃ st cs th, Reach Gen.protocol 2 st cs ∧ st.threads[1]? = some th ∧ cs[1]? = some true ∧
    Micro.act .storeRoot ∉ th.prog ∧ Micro.release 0 ∈ th.prog ∧ Collectable (getT th.entries 0) ∧
    Initialized (getT (readTxn st) 0) ∧ 5 ∉ st.closed := by
  refine ⟨stepsOf (spawnWriter Gen.protocol afterRegister [0] true [0] []) 1 8, [true, true], _,
    reach_stepsOf _ _ _ _ _ _ (.writer _ _ _ _ _ _ reach_afterRegister (by decide +kernel)),
    List.getElem?_eq_getElem (by decide +kernel), by decide +kernel⟩

set_option maxRecDepth 4000 in
/-- … and after its `closeInit` channel 5 is closed (hypotheses of
    `C19_conc_init_channel_closed_after_visible`, second alternative) -/
example : ∃ st cs th, Reach Gen.protocol 2 st cs ∧ st.threads[1]? = some th ∧ cs[1]? = some true ∧
    Micro.act .closeInit ∉ th.prog ∧ 5 ∈ st.closed ∧ (getT th.entries 0).initWatch = 5 ∧
    Initialized (getT (readTxn st) 0) := by
  refine ⟨stepsOf (spawnWriter Gen.protocol afterRegister [0] true [0] []) 1 13, [true, true], _,
    reach_stepsOf _ _ _ _ _ _ (.writer _ _ _ _ _ _ reach_afterRegister (by decide +kernel)),
    List.getElem?_eq_getElem (by decide +kernel), by decide +kernel⟩

/-- an aborting writer that registers and marks: nothing changes (hypothesis of
    `C19_conc_abort_no_effect`) -/
example : ∃ st cs, Reach Gen.protocol 2 st cs ∧ cs[1]? = some false ∧ st.root = afterRegister.root ∧
    st.closed = afterRegister.closed := by
  refine ⟨stepsOf (spawnWriter Gen.protocol afterRegister [0, 1] false [0] [1]) 1 12, [true, false],
    reach_stepsOf _ _ _ _ _ _ (.writer _ _ _ _ _ _ reach_afterRegister (by decide +kernel)), by decide +kernel⟩

end Sdb
