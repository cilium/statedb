import SdbModel.Model.RecLoop
import SdbModel.Generated.LoopParams
import SdbModel.Lemmas.ListBasics
/-!
  C15, the refresher's share: "Its writes change nothing but the status of the object … the
  newer version is neither overwritten nor lost nor a deleted object re-created".

  `RecLoop.refreshPass` models one pass of `reconciler.refreshLoop` with the writes of other
  transactions committing between the refresher's read of the snapshot and each of its
  marking transactions (any writes, any grouping).  The structural facts it builds in
  (`Gen.loopFacts`: revision re-check under the table lock, `StatusRefreshing()` written
  onto a clone of the object just read, only for Done objects, the pass stops at the first
  young object, the cursor moves) are regenerated from the source — `C15_loop_source_facts`.
-/
namespace Sdb
open RecLoop

theorem ftable_get_id {t : FTable} {id : Nat} {o : FObj} (h : t.get id = some o) : o.id = id := by
  simpa using List.find?_some h

theorem ftable_get_set (t : FTable) (o : FObj) (id : Nat) :
    (t.set o).get id = if id = o.id then some { o with rev := t.rev + 1 } else t.get id :=
  LB.find_key_upsert FObj.id t.objs { o with rev := t.rev + 1 } id

theorem ftable_get_filter_ne (t : FTable) (id id' r : Nat) :
    ({ t with objs := t.objs.filter (·.id ≠ id), rev := r } : FTable).get id' = if id' = id then none else t.get id' :=
  LB.find_key_filter FObj.id t.objs id id'

theorem ftable_dataOf_eq (t : FTable) (i : Nat) : t.dataOf i = (t.view i).map (·.1) := by
  unfold FTable.dataOf FTable.view
  cases t.get i <;> rfl

/-- what queries show after the upsert that `put`, `status` and `mark` end with -/
theorem ftable_view_set (t : FTable) (o : FObj) (n i : Nat) :
    ({ t.set o with nextSid := n } : FTable).view i = if i = o.id then some (o.data, o.kind) else t.view i := by
  show ((t.set o).get i).map _ = _
  rw [ftable_get_set]
  split <;> rfl

theorem ftable_view_applyEnv (t : FTable) (now : Nat) (w : EnvWrite) :
    (t.applyEnv now w).view = viewApply t.view w := by
  funext i
  cases w with
  | put id data => exact ftable_view_set t _ _ i
  | del id =>
    simp only [FTable.applyEnv, FTable.view, viewApply, ftable_get_filter_ne]
    split <;> rfl
  | status id k =>
    simp only [FTable.applyEnv, viewApply]
    cases hg : t.get id with
    | none =>
      simp only
      split
      · rename_i h; subst h; simp [FTable.view, hg]
      · rfl
    | some o =>
      simp only
      rw [ftable_view_set, ftable_get_id hg]
      simp [FTable.view, hg]

/-- **A changed or deleted object is not touched.**  If, under the table lock, the object is
    gone or has another revision than the one read from the snapshot, the marking transaction
    writes nothing: the newer version is not overwritten, a deleted object not re-created. -/
theorem C15_refresh_mark_stale_is_noop (t : FTable) (now id rev : Nat)
    (h : t.get id = none ∨ ∃ cur, t.get id = some cur ∧ cur.rev ≠ rev) : t.mark now id rev = t := by
  unfold FTable.mark
  rcases h with h | ⟨cur, h, hne⟩
  · simp [h]
  · simp [h, hne]

/-- an unchanged object gets the status Refreshing (fresh id and time) and nothing else changes
    on it; the table assigns the next revision -/
theorem C15_refresh_mark_result (t : FTable) (now id rev : Nat) (cur : FObj) (h : t.get id = some cur) (hrev : cur.rev = rev) :
    (t.mark now id rev).get id =
      some { cur with kind := .refreshing, sid := t.nextSid, updatedAt := now, rev := t.rev + 1 } := by
  unfold FTable.mark
  simp only [h, hrev, if_true]
  show (t.set _).get id = _
  rw [ftable_get_set, if_pos (ftable_get_id h).symm]

/-- no other object is touched -/
theorem C15_refresh_mark_other_untouched (t : FTable) (now id rev id' : Nat) (hne : id' ≠ id) :
    (t.mark now id rev).get id' = t.get id' := by
  unfold FTable.mark
  cases h : t.get id with
  | none => rfl
  | some cur =>
    simp only
    split
    · show (t.set _).get id' = _
      rw [ftable_get_set, if_neg (ftable_get_id h ▸ hne)]
    · rfl

/-- **Only the status is written**: existence and data of every object are as before -/
theorem C15_refresh_mark_keeps_data (t : FTable) (now id rev : Nat) : (t.mark now id rev).dataOf = t.dataOf := by
  funext i
  unfold FTable.dataOf
  by_cases hi : i = id
  · subst hi
    cases h : t.get i with
    | none => rw [C15_refresh_mark_stale_is_noop t now i rev (Or.inl h), h]
    | some cur =>
      by_cases hrev : cur.rev = rev
      · rw [C15_refresh_mark_result t now i rev cur h hrev]; rfl
      · rw [C15_refresh_mark_stale_is_noop t now i rev (Or.inr ⟨cur, h, hrev⟩), h]
  · rw [C15_refresh_mark_other_untouched t now id rev i hi]

/-! ### a whole pass, with other writers committing in between -/

/-- the relation a pass keeps between the table with the refresher (`t`) and the table without
    it (`u`): the same data everywhere, the same data and status outside the ids in `S` -/
private def Agree (S : List Nat) (t u : FTable) : Prop :=
  ∀ i, (t.view i).map (·.1) = (u.view i).map (·.1) ∧ (i ∉ S → t.view i = u.view i)

/-- what a foreign write shows of object `i` afterwards depends only on what was shown of `i`
    before, and its data only on that data -/
private theorem viewApply_agree (v v' : Nat → Option (Nat × SKind)) (w : EnvWrite) (i : Nat) :
    ((v i).map (·.1) = (v' i).map (·.1) → (viewApply v w i).map (·.1) = (viewApply v' w i).map (·.1)) ∧
    (v i = v' i → viewApply v w i = viewApply v' w i) := by
  cases w with
  | put id data =>
    simp only [viewApply]
    split
    · exact ⟨fun _ => rfl, fun _ => rfl⟩
    · exact ⟨fun h => h, fun h => h⟩
  | del id =>
    simp only [viewApply]
    split
    · exact ⟨fun _ => rfl, fun _ => rfl⟩
    · exact ⟨fun h => h, fun h => h⟩
  | status id k =>
    simp only [viewApply]
    split
    · rename_i h
      subst h
      exact ⟨fun h => by rw [Option.map_map, Option.map_map]; exact h, fun h => by rw [h]⟩
    · exact ⟨fun h => h, fun h => h⟩

private theorem agree_applyEnv {S : List Nat} {t u : FTable} (now : Nat) (w : EnvWrite) (h : Agree S t u) :
    Agree S (t.applyEnv now w) (u.applyEnv now w) := by
  intro i
  rw [ftable_view_applyEnv, ftable_view_applyEnv]
  exact ⟨(viewApply_agree _ _ w i).1 (h i).1, fun hi => (viewApply_agree _ _ w i).2 ((h i).2 hi)⟩

private theorem agree_mark {S : List Nat} {t u : FTable} (now id rev : Nat) (h : Agree S t u) (hid : id ∈ S) :
    Agree S (t.mark now id rev) u := by
  intro i
  refine ⟨?_, fun hi => ?_⟩
  · rw [← ftable_dataOf_eq, C15_refresh_mark_keeps_data, ftable_dataOf_eq]
    exact (h i).1
  · have hne : i ≠ id := fun e => hi (e ▸ hid)
    unfold FTable.view
    rw [C15_refresh_mark_other_untouched t now id rev i hne]
    exact (h i).2 hi

private theorem pass_agree (interval now : Nat) (S : List Nat) (snap : List FObj) (r : Refresher) (t u : FTable)
    (envs : List (List EnvWrite)) (hS : ∀ o ∈ markable interval now snap, o.id ∈ S) (h : Agree S t u) :
    Agree S (refreshPass interval now r t snap envs).2.1 (envPass interval now u snap envs) := by
  induction snap generalizing r t u envs with
  | nil => exact h
  | cons o os ih =>
    unfold refreshPass envPass
    unfold markable at hS
    by_cases hy : now - o.updatedAt < interval
    · simp only [hy, if_true]; exact h
    · simp only [hy, if_false] at hS ⊢
      have h' : Agree S ((envs.headD []).foldl (fun t w => t.applyEnv now w) t)
          ((envs.headD []).foldl (fun t w => t.applyEnv now w) u) := by
        generalize envs.headD [] = ws
        induction ws generalizing t u with
        | nil => exact h
        | cons w ws ihw => exact ihw _ _ (agree_applyEnv now w h)
      by_cases hk : o.kind = .done
      · simp only [hk, if_true] at hS ⊢
        exact ih _ _ _ _ (fun x hx => hS x (List.mem_cons_of_mem _ hx))
          (agree_mark now o.id o.rev h' (hS o List.mem_cons_self))
      · simp only [hk, if_false] at hS ⊢
        exact ih _ _ _ _ hS h'

/-- **The refresher's writes change nothing but the status.**  After a pass — over any
    snapshot, with any writes of other transactions committing between its marking
    transactions — every object exists or not, and carries the data, exactly as if the
    refresher had not run at all (`envPass`: the other writers alone).  No user write is
    overwritten or lost, no deleted object re-created, whatever the interleaving. -/
theorem C15_refresh_pass_changes_only_status (interval now : Nat) (r : Refresher) (t : FTable)
    (snap : List FObj) (envs : List (List EnvWrite)) :
    (refreshPass interval now r t snap envs).2.1.dataOf = (envPass interval now t snap envs).dataOf := by
  funext i
  rw [ftable_dataOf_eq, ftable_dataOf_eq]
  exact (pass_agree interval now ((markable interval now snap).map (·.id)) snap r t t envs
    (fun o ho => List.mem_map.2 ⟨o, ho, rfl⟩) (fun _ => ⟨rfl, fun _ => rfl⟩) i).1

/-- **Only objects that were Done and old enough in the snapshot are marked.**  Every other
    object — Pending, Refreshing, Error, younger than the interval, or behind a younger one in
    revision order — shows the same data AND status as without the refresher. -/
theorem C15_refresh_pass_marks_only_done_old (interval now : Nat) (r : Refresher) (t : FTable)
    (snap : List FObj) (envs : List (List EnvWrite)) (i : Nat)
    (hi : ∀ o ∈ markable interval now snap, o.id ≠ i) :
    (refreshPass interval now r t snap envs).2.1.view i = (envPass interval now t snap envs).view i :=
  (pass_agree interval now ((markable interval now snap).map (·.id)) snap r t t envs
    (fun o ho => List.mem_map.2 ⟨o, ho, rfl⟩) (fun _ => ⟨rfl, fun _ => rfl⟩) i).2
    (by intro h; obtain ⟨o, ho, hoi⟩ := List.mem_map.1 h; exact hi o ho hoi)

theorem C15_refresh_markable_done_old (interval now : Nat) (snap : List FObj) :
    ∀ o ∈ markable interval now snap, o ∈ snap ∧ o.kind = .done ∧ interval ≤ now - o.updatedAt := by
  induction snap with
  | nil => exact fun o ho => nomatch ho
  | cons x xs ih =>
    have hrest : ∀ o ∈ markable interval now xs, o ∈ x :: xs ∧ o.kind = .done ∧ interval ≤ now - o.updatedAt :=
      fun o ho => ⟨List.mem_cons_of_mem _ (ih o ho).1, (ih o ho).2⟩
    intro o ho
    unfold markable at ho
    split at ho
    · exact nomatch ho
    · rename_i hy
      split at ho
      · rename_i hk
        rcases List.mem_cons.1 ho with rfl | ho
        · exact ⟨List.mem_cons_self, hk, Nat.le_of_not_lt hy⟩
        · exact hrest o ho
      · exact hrest o ho

/-- a young first object ends the pass at once: nothing is written, the cursor stays, and the
    next pass is due when that object reaches the interval -/
theorem C15_refresh_young_stops (interval now : Nat) (r : Refresher) (t : FTable) (o : FObj) (os : List FObj)
    (envs : List (List EnvWrite)) (hy : now - o.updatedAt < interval) :
    refreshPass interval now r t (o :: os) envs = (r, t, interval - (now - o.updatedAt)) ∧
    0 < interval - (now - o.updatedAt) ∧ interval - (now - o.updatedAt) ≤ interval := by
  exact ⟨by rw [refreshPass, if_pos hy], Nat.sub_pos_of_lt hy, Nat.sub_le _ _⟩

/-- the cursor never moves backwards over a snapshot in ascending revision order -/
theorem C15_refresh_cursor_monotone (interval now : Nat) (snap : List FObj) (r : Refresher) (t : FTable)
    (envs : List (List EnvWrite)) (hasc : snap.Pairwise (fun a b => a.rev ≤ b.rev)) (hab : ∀ o ∈ snap, r.lastRev ≤ o.rev) :
    r.lastRev ≤ (refreshPass interval now r t snap envs).1.lastRev := by
  induction snap generalizing r t envs with
  | nil => simp [refreshPass]
  | cons o os ih =>
    unfold refreshPass
    by_cases hy : now - o.updatedAt < interval
    · simp [hy]
    · simp only [hy, if_false]
      have h1 : r.lastRev ≤ o.rev := hab o (by simp)
      have hasc' := (List.pairwise_cons.1 hasc)
      split <;> exact Nat.le_trans h1 (ih { r with lastRev := o.rev } _ _ hasc'.2 hasc'.1)

/-! ### non-vacuity -/

private def ft : FTable :=
  { objs := [{ id := 1, data := 10, kind := .done, sid := 1, updatedAt := 0, rev := 1 },
             { id := 2, data := 20, kind := .error, sid := 2, updatedAt := 0, rev := 2 },
             { id := 3, data := 30, kind := .done, sid := 3, updatedAt := 0, rev := 3 },
             { id := 4, data := 40, kind := .done, sid := 4, updatedAt := 900, rev := 4 }],
    rev := 4, nextSid := 5 }

-- object 1 is marked; object 2 (Error) is not; object 3 was rewritten by a user just before its marking
-- transaction: left alone (still Pending with the user's data); object 4 is young: the pass stops
example :
    let res := refreshPass 700 1000 {} ft (snapshotFrom ft {}) [[], [], [.put 3 31]]
    (res.2.1.objs.map fun o => (o.id, o.data, o.kind)) =
      [(1, 10, .refreshing), (2, 20, .error), (3, 31, .pending), (4, 40, .done)] ∧
    res.1.lastRev = 3 ∧ res.2.2 = 600 := by decide +kernel

example : (markable 700 1000 (snapshotFrom ft {})).map (·.id) = [1, 3] := by decide +kernel

end Sdb
