import SdbModel.Model.SliceCow
import SdbModel.Generated.SliceParams
/-!
  C01, the part the stamp discipline does not cover: `lpmEntry.tail` (lpm_index.go).  The
  entries of one bucket of a non-unique LPM index are copied by value from snapshot to
  snapshot, so their `tail` slices may share one backing array.  F2 (repaired) and six of the
  seeded changes (C01c, C01j, C01k, C02c, C02k, C04k) lived exactly here: an `append` onto the shared
  slice, `slices.Insert` / `slices.Delete` on it, a re-slice followed by an append.

  Over a heap of backing arrays with Go's `append` / `copy` semantics: the two general
  tail-rebuilding paths of the code (`upsert` of a new object into the tail, `delete` of one from
  it) write only into the array they allocate themselves, so every slice that existed before —
  the tail of every earlier snapshot's entry — reads the same afterwards; the shortcuts do not
  have that property (witnesses); and today's source takes none of them (`Gen.lpmEntryFacts`,
  regenerated).  The other branches that assign `e.tail` (a new head, replacement of an object of
  the tail, removal of the head) are not modelled; for them there is `C01_slice_entry_discipline` only.
-/
namespace Sdb
open SliceCow

/-- every array that existed in `h` is still there, unchanged -/
def SliceCow.Preserves (h h' : Heap) : Prop :=
  h.arrays.length ≤ h'.arrays.length ∧ ∀ a, a < h.arrays.length → h'.get a = h.get a

private theorem preserves_refl (h : Heap) : Preserves h h := ⟨Nat.le_refl _, fun _ _ => rfl⟩

private theorem preserves_trans {h1 h2 h3 : Heap} (a : Preserves h1 h2) (b : Preserves h2 h3) : Preserves h1 h3 :=
  ⟨Nat.le_trans a.1 b.1, fun x hx => by rw [b.2 x (Nat.lt_of_lt_of_le hx a.1), a.2 x hx]⟩

private theorem writeArr_length (h : Heap) (a i : Nat) (xs : List Nat) : (h.writeArr a i xs).arrays.length = h.arrays.length := by
  simp [Heap.writeArr]

private theorem get_writeArr_ne {h : Heap} {a a' i : Nat} {xs : List Nat} (hne : a' ≠ a) : (h.writeArr a i xs).get a' = h.get a' := by
  unfold Heap.writeArr Heap.get
  simp only [List.getElem?_mapIdx]
  cases h.arrays[a']? with
  | none => rfl
  | some arr => simp [hne]

private theorem get_writeArr_same {h : Heap} {a : Nat} (i : Nat) (xs : List Nat) (ha : a < h.arrays.length) :
    (h.writeArr a i xs).get a = setAt (h.get a) i xs := by
  simp [Heap.writeArr, Heap.get, List.getElem?_mapIdx, List.getElem?_eq_getElem ha]

private theorem make_length (h : Heap) (l c : Nat) : (h.make l c).1.arrays.length = h.arrays.length + 1 := by
  simp [Heap.make]

private theorem get_make_new (h : Heap) (l c : Nat) : (h.make l c).1.get h.arrays.length = List.replicate c 0 := by
  simp [Heap.make, Heap.get]

private theorem make_preserves (h : Heap) (len cap : Nat) : Preserves h (h.make len cap).1 :=
  ⟨by rw [make_length]; exact Nat.le_succ _, fun a ha => by simp [Heap.make, Heap.get, List.getElem?_append_left ha]⟩

private theorem writeArr_preserves_fresh {h0 h : Heap} (hp : Preserves h0 h) {a i : Nat} {xs : List Nat} (hf : h0.arrays.length ≤ a) :
    Preserves h0 (h.writeArr a i xs) := by
  refine ⟨by rw [writeArr_length]; exact hp.1, fun x hx => ?_⟩
  rw [get_writeArr_ne (Nat.ne_of_lt (Nat.lt_of_lt_of_le hx hf)), hp.2 x hx]

private theorem setAt_read {a : List Nat} {off n : Nat} (xs : List Nat) (h : off + n ≤ a.length) :
    ((setAt a (off + n) xs).drop off).take (n + xs.length) = (a.drop off).take n ++ xs := by
  have e : (a.take (off + n)).drop off = (a.drop off).take n := by
    rw [List.drop_take, Nat.add_sub_cancel_left]
  have hl : (a.take (off + n)).length = off + n := List.length_take_of_le h
  rw [setAt, List.append_assoc, List.drop_append_of_le_length (by rw [hl]; exact Nat.le_add_right _ _), e,
    ← List.append_assoc]
  exact List.take_left' (by
    rw [List.length_append, List.length_take, List.length_drop, Nat.min_eq_left (Nat.le_sub_of_add_le' h)])

private theorem setAt_length {a : List Nat} {i : Nat} {xs : List Nat} (h : i + xs.length ≤ a.length) :
    (setAt a i xs).length = a.length := by
  rw [setAt, List.length_append, List.length_append, List.length_take, List.length_drop,
    Nat.min_eq_left (Nat.le_trans (Nat.le_add_right _ _) h), Nat.add_sub_cancel' h]

/-- `r.2` is a slice under construction: it lies within an array that did not exist in `h0`, so
    that writing through it preserves `h0`, and it reads `l` -/
private structure Built (h0 : Heap) (r : Heap × Slice) (l : List Nat) : Prop where
  pres : Preserves h0 r.1
  fresh : h0.arrays.length ≤ r.2.arr
  alloc : r.2.arr < r.1.arrays.length
  fits : r.2.off + r.2.cap ≤ (r.1.get r.2.arr).length
  len : r.2.len ≤ r.2.cap
  read : r.1.read r.2 = l

private theorem Built.make {h0 h : Heap} (hp : Preserves h0 h) (cap : Nat) : Built h0 (h.make 0 cap) [] :=
  ⟨preserves_trans hp (make_preserves h 0 cap), hp.1, by rw [make_length]; exact Nat.lt_succ_self _,
    by rw [show (h.make 0 cap).2.arr = h.arrays.length from rfl, get_make_new]; simp [Heap.make],
    Nat.zero_le _, List.take_zero⟩

private theorem Built.ofList {h0 h : Heap} (hp : Preserves h0 h) (l : List Nat) (n cap : Nat)
    (hn : l.length = n) (hc : n ≤ cap) :
    Built h0 ((h.make n cap).1.writeArr h.arrays.length 0 l, (h.make n cap).2) l := by
  have hlt : h.arrays.length < (h.make n cap).1.arrays.length := by
    rw [make_length]; exact Nat.lt_succ_self _
  have hg : ((h.make n cap).1.writeArr h.arrays.length 0 l).get h.arrays.length
      = l ++ List.replicate (cap - n) 0 := by
    rw [get_writeArr_same _ _ hlt, get_make_new, setAt, List.take_zero, List.nil_append, Nat.zero_add,
      List.drop_replicate, hn]
  refine ⟨writeArr_preserves_fresh (preserves_trans hp (make_preserves h _ _)) hp.1, hp.1,
    by rw [writeArr_length]; exact hlt, ?_, hc, ?_⟩
  · show 0 + cap ≤ (Heap.get (Heap.writeArr _ _ _ _) h.arrays.length).length
    rw [hg, List.length_append, List.length_replicate, hn, Nat.zero_add, Nat.add_sub_cancel' hc]
    exact Nat.le_refl _
  · show ((Heap.get (Heap.writeArr _ _ _ _) h.arrays.length).drop 0).take n = l
    rw [hg, List.drop_zero, ← hn, List.take_left]

private theorem Built.append {h0 : Heap} {r : Heap × Slice} {l : List Nat} (b : Built h0 r l) (xs : List Nat) :
    Built h0 (r.1.append r.2 xs) (l ++ xs) := by
  obtain ⟨h, s⟩ := r
  obtain ⟨pres, fresh, alloc, fits, len, read⟩ := b
  simp only at pres fresh alloc fits len read
  simp only [Heap.append]
  have hfit : s.off + s.len ≤ (h.get s.arr).length := Nat.le_trans (Nat.add_le_add_left len _) fits
  by_cases hc : s.len + xs.length ≤ s.cap
  · simp only [hc, if_true]
    have hg := get_writeArr_same (s.off + s.len) xs alloc
    refine ⟨writeArr_preserves_fresh pres fresh, fresh, by rw [writeArr_length]; exact alloc,
      ?_, hc, ?_⟩
    · simp only [hg]
      rw [setAt_length (Nat.le_trans (Nat.add_assoc .. ▸ Nat.add_le_add_left hc _) fits)]; exact fits
    · simp only [Heap.read, hg]
      rw [setAt_read _ hfit]; exact congrArg (· ++ xs) read
  · simp only [hc, if_false]
    subst read
    have hl : (h.read s ++ xs).length = s.len + xs.length := by
      rw [List.length_append, Heap.read, List.length_take, List.length_drop, Nat.min_eq_left (Nat.le_sub_of_add_le' hfit)]
    exact Built.ofList pres _ _ _ hl (Nat.le_mul_of_pos_left _ (by decide))

/-- what a preserved heap means for readers: every slice over an array that existed before —
    the tail of every earlier version of the entry, whichever snapshot holds it — reads the same -/
theorem C01_slice_old_views_frozen (h h' : Heap) (hp : Preserves h h') (s : Slice) (hs : s.arr < h.arrays.length) :
    h'.read s = h.read s := by
  unfold Heap.read; rw [hp.2 s.arr hs]

private theorem Built.appendRead {h0 : Heap} {r : Heap × Slice} {l : List Nat} (b : Built h0 r l) (s : Slice)
    (hs : s.arr < h0.arrays.length) : Built h0 (r.1.append r.2 (r.1.read s)) (l ++ h0.read s) :=
  C01_slice_old_views_frozen _ _ b.pres s hs ▸ b.append (r.1.read s)

private theorem upsertTail_built (h : Heap) (t : Slice) (idx x : Nat) (ha : t.arr < h.arrays.length) :
    Built h (upsertTail h t idx x) (h.read (t.sub 0 idx) ++ [x] ++ h.read (t.sub idx t.len)) := by
  unfold upsertTail
  simp only
  exact (((Built.make (preserves_refl h) (t.len + 1)).appendRead (t.sub 0 idx) ha).append [x]).appendRead
    (t.sub idx t.len) ha

/-- `append` onto ANY slice without room reallocates: also safe -/
private theorem append_full (h : Heap) (s : Slice) (xs : List Nat) (hc : ¬ s.len + xs.length ≤ s.cap) :
    Preserves h (h.append s xs).1 := by
  unfold Heap.append
  simp only [hc, if_false]
  exact writeArr_preserves_fresh (make_preserves h _ _) (Nat.le_refl _)

/-- **The insert path of `lpmEntry.upsert` writes nothing that existed before.** -/
theorem C01_slice_upsert_preserves (h : Heap) (tail : Slice) (idx x : Nat) : Preserves h (upsertTail h tail idx x).1 := by
  unfold upsertTail
  simp only
  exact ((((Built.make (preserves_refl h) _).append _).append _).append _).pres

/-- **The removal path of `lpmEntry.delete` writes nothing that existed before.** -/
theorem C01_slice_delete_preserves (h : Heap) (tail : Slice) (idx : Nat) : Preserves h (deleteTail h tail idx).1 := by
  unfold deleteTail Heap.copyInto
  exact writeArr_preserves_fresh (writeArr_preserves_fresh (make_preserves h _ _) (Nat.le_refl _)) (Nat.le_refl _)

theorem C01_slice_upsert_old_views_frozen (h : Heap) (tail : Slice) (idx x : Nat) (s : Slice) (hs : s.arr < h.arrays.length) :
    (upsertTail h tail idx x).1.read s = h.read s :=
  C01_slice_old_views_frozen _ _ (C01_slice_upsert_preserves h tail idx x) s hs

theorem C01_slice_delete_old_views_frozen (h : Heap) (tail : Slice) (idx : Nat) (s : Slice) (hs : s.arr < h.arrays.length) :
    (deleteTail h tail idx).1.read s = h.read s :=
  C01_slice_old_views_frozen _ _ (C01_slice_delete_preserves h tail idx) s hs

/-- any sequence of the two operations, each on any slice, preserves the heap it started from -/
theorem C01_slice_runs_preserve (h : Heap) (ops : List (Slice × Nat × Option Nat)) :
    Preserves h (ops.foldl applyOp h) := by
  suffices H : ∀ hh, Preserves h hh → Preserves h (ops.foldl applyOp hh) from H h (preserves_refl h)
  induction ops with
  | nil => intro hh hp; exact hp
  | cons op ops ih =>
    intro hh hp
    refine ih _ ?_
    unfold applyOp
    cases op.2.2 with
    | some x => exact preserves_trans hp (C01_slice_upsert_preserves hh op.1 op.2.1 x)
    | none => exact preserves_trans hp (C01_slice_delete_preserves hh op.1 op.2.1)

/-- **The insert path computes the intended tail**: the new slice reads the old tail with the
    object inserted at its position (the shared array is left alone: `C01_slice_upsert_preserves`) -/
theorem C01_slice_upsert_result (h : Heap) (t : Slice) (idx x : Nat)
    (ha : t.arr < h.arrays.length) (hb : t.off + t.len ≤ (h.get t.arr).length) (hi : idx ≤ t.len) :
    (upsertTail h t idx x).1.read (upsertTail h t idx x).2 = (h.read t).take idx ++ x :: (h.read t).drop idx := by
  rw [(upsertTail_built h t idx x ha).read]
  simp [Heap.read, Slice.sub, List.take_take, Nat.min_eq_left hi, List.drop_take, List.drop_drop, Nat.add_comm]

/-! ### the shortcuts are NOT safe (why each regenerated fact is needed) -/

/-- a heap with one array `[10,20,30,40,_,_,_,_]` and the tail `[10,20,30,40]` over it -/
private def h0 : Heap := { arrays := [[10, 20, 30, 40, 0, 0, 0, 0]] }
private def t0 : Slice := { arr := 0, off := 0, len := 4, cap := 8 }

/-- `append(e.tail, x)`: harmless for the old view by itself (it writes behind the old length) … -/
example : (upsertTailInPlace h0 t0 50).1.read t0 = [10, 20, 30, 40] := by decide +kernel
/-- … but after the last element left by a re-slice (`e.tail = e.tail[:n-1]`), the append
    overwrites the slot the OLD view still shows (seeded C01k / C04k): -/
theorem C01_slice_reslice_then_append_refuted :
    (upsertTailInPlace h0 (deleteLastByReslice t0) 50).1.read t0 = [10, 20, 30, 50] := by decide
/-- `slices.Insert` with room shifts in place (seeded C01j): modelled as a copy into the tail's own array -/
theorem C01_slice_shift_in_place_refuted :
    (h0.copyInto t0 2 [25, 30, 40]).read t0 = [10, 20, 25, 30] := by decide
/-- the code's paths on the same inputs leave the old view alone -/
example : (upsertTail h0 t0 2 25).1.read t0 = [10, 20, 30, 40] ∧
    (upsertTail h0 t0 2 25).1.read (upsertTail h0 t0 2 25).2 = [10, 20, 25, 30, 40] := by decide +kernel
example : (deleteTail h0 t0 3).1.read t0 = [10, 20, 30, 40] ∧
    (deleteTail h0 t0 3).1.read (deleteTail h0 t0 3).2 = [10, 20, 30] := by decide +kernel

/-- today's `lpmEntry.upsert` / `delete` assign `e.tail` only slices they made themselves and
    never use `e.tail` as a destination or assign through it -/
theorem C01_slice_entry_discipline : Gen.lpmEntryFacts = SliceCow.expectedEntryFacts := by decide

end Sdb
