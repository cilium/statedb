import SdbModel.Model.Progress
import SdbModel.Generated.ProgressParams
/-!
  C16: "WaitUntilReconciled(rev) returns without error only after every change up to rev has
  been attempted at least once, and the retry low-watermark it reports …".

  `Props/C16Run.lean` proves what a PUBLISHED pair (progress revision, low-watermark) means.
  This file is about the tracker that publishes and hands them out under concurrency
  (`reconciler/progress.go`, `Model.Progress`): for every interleaving of any number of
  `update` calls of the reconcile loop with a waiter and the end of its context —
  * `wait` returns without error only a published revision at least the target (no early
    return); the pair a sleeping waiter holds was read in one critical section (no torn read),
  * a waiter is never left asleep once the target has been reached (no lost wake-up),
  * the published revision never goes back.
-/
namespace Sdb
open Progress

def Progress.Inv (s : St) : Prop :=
  match s.wt with
  | .start => True
  | .sampled cur lw w =>
    cur < s.target ∧ cur ≤ s.p.revision ∧ w ≤ s.p.watch ∧
    (w = s.p.watch → cur = s.p.revision ∧ lw = s.p.lw)
  | .returned cur _ err => (err = false → s.target ≤ cur) ∧ cur ≤ s.p.revision

private theorem update_rev_ge (p : Tracker) (rev lw : Nat) : p.revision ≤ (p.update rev lw).revision := by
  unfold Tracker.update
  simp only
  split
  · exact Nat.le_of_lt ‹_›
  · exact Nat.le_refl _

private theorem update_watch_ge (p : Tracker) (rev lw : Nat) : p.watch ≤ (p.update rev lw).watch := by
  unfold Tracker.update
  simp only
  split
  · exact Nat.le_succ _
  · exact Nat.le_refl _

/-- the published revision never goes back; the low-watermark is the last one published -/
theorem C16_wait_progress_monotone (p : Tracker) (rev lw : Nat) :
    p.revision ≤ (p.update rev lw).revision ∧ (p.update rev lw).lw = lw ∧
    ((p.update rev lw).revision = p.revision ∨ (p.update rev lw).revision = rev) := by
  refine ⟨update_rev_ge p rev lw, rfl, ?_⟩
  unfold Tracker.update; simp only; split
  · exact Or.inr rfl
  · exact Or.inl rfl

/-- waiters are woken exactly when something changed (no wake-up storm for idle rounds) -/
theorem C16_wait_channel_replaced_iff_changed (p : Tracker) (rev lw : Nat) :
    (p.update rev lw).watch ≠ p.watch ↔ ((p.update rev lw).revision ≠ p.revision ∨ (p.update rev lw).lw ≠ p.lw) := by
  unfold Tracker.update; simp only
  by_cases h1 : rev > p.revision <;> by_cases h2 : lw = p.lw <;> simp [h1, h2] <;> omega

private theorem update_same_watch (p : Tracker) (rev lw : Nat) (h : (p.update rev lw).watch = p.watch) :
    (p.update rev lw).revision = p.revision ∧ (p.update rev lw).lw = p.lw := by
  have := mt (C16_wait_channel_replaced_iff_changed p rev lw).2 (not_not_intro h)
  exact ⟨Decidable.of_not_not fun e => this (Or.inl e), Decidable.of_not_not fun e => this (Or.inr e)⟩

/-- `Progress.Inv` says nothing of a returned error, so the induction over `Reach` carries that clause beside it -/
private theorem reach_spec {target : Nat} {s : St} (h : Reach target s) :
    s.target = target ∧ Progress.Inv s ∧ ∀ c l, s.wt = .returned c l true → s.ctxDone = true ∧ c < target := by
  induction h with
  | init => exact ⟨rfl, trivial, nofun⟩
  | @step s t hr hs ih =>
    obtain ⟨ht, hi, he⟩ := ih
    cases hs with
    | update rev lw =>
      refine ⟨ht, ?_, he⟩
      unfold Progress.Inv at hi ⊢
      cases hw : s.wt with
      | start => trivial
      | sampled cur l w =>
        simp only [hw] at hi ⊢
        obtain ⟨a, b, c, d⟩ := hi
        refine ⟨a, Nat.le_trans b (update_rev_ge _ _ _), Nat.le_trans c (update_watch_ge _ _ _), ?_⟩
        intro hweq
        -- the waiter's channel is still the current one: it was before, and this `update` made no new one
        have hw : w = s.p.watch := Nat.le_antisymm c (hweq ▸ update_watch_ge s.p rev lw)
        obtain ⟨e1, e2⟩ := update_same_watch _ _ _ (hweq.symm.trans hw)
        obtain ⟨f1, f2⟩ := d hw
        exact ⟨f1.trans e1.symm, f2.trans e2.symm⟩
      | returned cur l err =>
        simp only [hw] at hi ⊢
        exact ⟨hi.1, Nat.le_trans hi.2 (update_rev_ge _ _ _)⟩
    | sampleReturn h hge => exact ⟨ht, ⟨fun _ => hge, Nat.le_refl _⟩, nofun⟩
    | sampleWait h hlt => exact ⟨ht, ⟨hlt, Nat.le_refl _, Nat.le_refl _, fun _ => ⟨rfl, rfl⟩⟩, nofun⟩
    | wake cur lw w h hc => exact ⟨ht, trivial, nofun⟩
    | ctxReturn cur lw w h hd =>
      unfold Progress.Inv at hi
      simp only [h] at hi
      exact ⟨ht, ⟨nofun, hi.2.1⟩, fun c l e => by cases e; exact ⟨hd, ht ▸ hi.1⟩⟩
    | cancel =>
      refine ⟨ht, ?_, fun c l e => ⟨rfl, (he c l e).2⟩⟩
      unfold Progress.Inv at hi ⊢
      cases hw : s.wt <;> simp only [hw] at hi ⊢ <;> exact hi

theorem C16_wait_invariant_reachable {target : Nat} {s : St} (h : Reach target s) : s.target = target ∧ Progress.Inv s :=
  ⟨(reach_spec h).1, (reach_spec h).2.1⟩

private theorem inv_sampled {target : Nat} {s : St} (h : Reach target s) {cur lw w : Nat} (hs : s.wt = .sampled cur lw w) :
    cur < target ∧ cur ≤ s.p.revision ∧ w ≤ s.p.watch ∧ (w = s.p.watch → cur = s.p.revision ∧ lw = s.p.lw) := by
  obtain ⟨ht, hi⟩ := C16_wait_invariant_reachable h
  unfold Progress.Inv at hi
  simp only [hs] at hi
  exact ht ▸ hi

/-- **No early return.**  Whenever `wait(ctx, target)` has returned without an error, the
    revision it returned is at least the target — and it is a revision the tracker had
    published (never above the current one). -/
theorem C16_wait_returns_only_when_reached {target : Nat} {s : St} (h : Reach target s) (cur lw : Nat)
    (hr : s.wt = .returned cur lw false) : target ≤ cur ∧ cur ≤ s.p.revision := by
  obtain ⟨ht, hi⟩ := C16_wait_invariant_reachable h
  unfold Progress.Inv at hi
  simp only [hr] at hi
  exact ⟨ht ▸ hi.1 trivial, hi.2⟩

/-- **No torn read.**  The pair a sleeping waiter holds was read in one critical section: while
    no `update` has changed anything since (its channel is still the current one) it IS the
    tracker's current pair. -/
theorem C16_wait_sample_is_consistent {target : Nat} {s : St} (h : Reach target s) (cur lw w : Nat)
    (hs : s.wt = .sampled cur lw w) (hw : w = s.p.watch) : cur = s.p.revision ∧ lw = s.p.lw :=
  (inv_sampled h hs).2.2.2 hw

/-- **No lost wake-up.**  In every reachable state in which the waiter sleeps although the
    published revision has reached its target, its channel is closed: the `wake` step is
    enabled, and after it the waiter samples again and returns.  (The waiter went to sleep
    because the revision was below the target; every `update` that raised it since closed the
    channel the waiter holds or a later one — and channels close in order.) -/
theorem C16_wait_no_lost_wakeup {target : Nat} {s : St} (h : Reach target s) (cur lw w : Nat)
    (hs : s.wt = .sampled cur lw w) (hreached : target ≤ s.p.revision) : s.p.closed w = true := by
  obtain ⟨a, _, c, d⟩ := inv_sampled h hs
  unfold Tracker.closed
  simp only [decide_eq_true_eq]
  rcases Nat.lt_or_ge w s.p.watch with hlt | hge
  · exact hlt
  · -- still on the current channel: the sampled revision is the current one, which has reached the target
    have h1 := (d (Nat.le_antisymm c hge)).1
    rw [← h1] at hreached
    exact absurd a (Nat.not_lt.2 hreached)

/-- … and the two steps that follow: wake up, sample, return the target-reaching pair -/
theorem C16_wait_wakes_and_returns {target : Nat} {s : St} (h : Reach target s) (cur lw w : Nat)
    (hs : s.wt = .sampled cur lw w) (hreached : target ≤ s.p.revision) :
    ∃ t, Reach target t ∧ t.wt = .returned s.p.revision s.p.lw false ∧ t.p = s.p := by
  obtain ⟨ht, _⟩ := C16_wait_invariant_reachable h
  have hc := C16_wait_no_lost_wakeup h cur lw w hs hreached
  let s1 : St := { s with wt := .start }
  have r1 : Reach target s1 := Reach.step h (Step.wake s cur lw w hs hc)
  have hge : s1.p.revision ≥ s1.target := by simp [s1, ht]; exact hreached
  exact ⟨_, Reach.step r1 (Step.sampleReturn s1 rfl hge), rfl, rfl⟩

/-- **An error only when the context has ended**: `wait` reports an error in no other case, and
    then hands back the pair it sampled last (below the target) -/
theorem C16_wait_error_only_after_ctx_done {target : Nat} {s : St} (h : Reach target s) (cur lw : Nat)
    (hr : s.wt = .returned cur lw true) : s.ctxDone = true ∧ cur < target :=
  (reach_spec h).2.2 cur lw hr

/-- the structure of `update` / `wait` the model builds in holds of today's source -/
theorem C16_wait_source_facts : Gen.progressFacts = Progress.expectedFacts := by decide

/-! non-vacuity: a waiter for revision 5 goes to sleep at 3, an idle round publishes the same
    pair (no wake-up), then 7 is published: the channel is closed and the waiter returns (7, 2) -/
private def w0 : St := { target := 5, p := { revision := 3, lw := 1, watch := 4 } }
example : ({ w0 with wt := .sampled 3 1 4 } : St).p.closed 4 = false := by decide +kernel
example : (w0.p.update 3 1).watch = 4 ∧ ((w0.p.update 3 1).update 7 2).watch = 5 ∧
    (((w0.p.update 3 1).update 7 2).closed 4) = true := by decide +kernel

end Sdb
