import SdbModel.Props.C14Inject
import SdbModel.Props.C15
import SdbModel.Lemmas.ReconcilerInjectSim

/-!
# C15 — Reconciler status write-back never misreports or clobbers (whole rounds, with user writes landing WHILE an Update runs)

> The reconciler marks an object Done or Error only for the version it
> actually passed to Update: if the object was changed or deleted while the
> operation ran, the stale result is dropped, the newer version is neither
> overwritten nor lost nor a deleted object re-created (…).  Its writes change
> nothing but the status of the object (…).

`Props/C15.lean` states the decision logic of one `commitOne`.  Here the property
is proved for WHOLE ROUNDS of `Model.Reconciler` (`R.round`, single operations)
in which the writes queued in `R.injects` land from inside `Operations.Update`,
between the reconciler's snapshot and its status commit, for every state
reachable with such writes (`C14InjReachable`, `Props/C14Inject.lean`; `touch`
writes under the hypothesis `roundSafe` of known finding K4):

* `C15_inject_no_status_for_unprocessed_version`: in every reachable state a Done
  object's last logged call is a successful Update with exactly its current data;
  an Error object has a queued retry for exactly its revision, carrying its data;
  a Pending object lies beyond the iterator: it will be delivered (again).
* `C15_inject_commit_only_for_updated_data`: whenever `commitStatus` writes a
  status inside a round, the current object has the data Update was called with
  and that call is the last one logged for it.
* `C15_inject_write_during_update_drops_result`: a `put` or `del` of the object
  itself landing during its Update makes the result stale: the commit leaves the
  state untouched (what the model does then: the user's version stays Pending
  with a fresh status id beyond the iterator and is delivered by the NEXT round's
  change stream; it is not processed again in the same round).
* `C15_inject_only_status_written`, `C15_inject_deleted_stays_deleted`: up to
  status and revision the table after a round is what the user's writes alone —
  those that landed, in the order they landed — make of the table before it.
-/
namespace Sdb
open Rec

/-- **no status for a version that was not processed**, in every state reachable
    with writes during Updates -/
theorem C15_inject_no_status_for_unprocessed_version {r : R} (h : C14InjReachable r) :
    ∀ o ∈ r.objs,
      (o.kind = .done → lastCall r.log o.id = some ⟨"U", o.id, o.data, true⟩ ∧ ∀ it ∈ r.items, it.id ≠ o.id) ∧
      (o.kind = .error → ∃ it ∈ r.items, it.id = o.id ∧ it.delete = false ∧ it.rev = o.rev ∧ it.inQueue = true ∧
        it.obj.id = o.id ∧ it.obj.data = o.data ∧ it.obj.other = o.other) ∧
      ((o.kind = .pending ∨ o.kind = .refreshing) → o.rev > r.itRev) :=
  (C14_inject_inv_reachable h).rinv.inv.status_processed

/-- inside a round every iteration of `commitStatus` runs in a state satisfying the
    in-round invariant for the results still to be committed -/
theorem C15_inject_commit_invariant (l1 : List Res) (res : Res) (l2 : List Res) {r : R} (h : JInv r (l1 ++ res :: l2)) :
    JInv (l1.foldl R.commitOne r) (res :: l2) :=
  foldl_commitOne_ind (fun _ _ _ hx => hx.commitOne) l1 (res :: l2) h

/-- in a round from a reachable state both runs of `commitStatus` (after the change
    loop: state `roundMid`; after the retry loop: state `roundMid2`; the round is
    `roundMid2.commitStatus` with the counters reset) start in a state satisfying the
    in-round invariant `JInv` for the results to be committed: the hypothesis of
    `C15_inject_commit_only_for_updated_data` holds at every status write of every round -/
theorem C15_inject_round_commits_in_invariant {r : R} (h : C14InjReachable r) (hs : r.roundSafe) :
    JInv r.roundMid r.roundMid.results ∧ JInv r.roundMid2 r.roundMid2.results ∧
    r.round.objs = r.roundMid2.commitStatus.objs ∧ r.roundMid2 = r.roundMid.commitStatus.processRetries (r.roundMid.commitStatus.items.length + 1) :=
  ⟨((C14_inject_inv_reachable h).rinv.round_stages hs).1, ((C14_inject_inv_reachable h).rinv.round_stages hs).2,
    by rw [round_eq_mid], rfl⟩

/-- **a status is written only onto an object that has the data Update was called
    with**: when `commitOne` decides to write (the revision is unchanged, or the
    object is still Pending with the same status id), the current object's data is
    the data of the clone passed to Update, and that Update is the last call
    logged for the object — whatever landed during the Update -/
theorem C15_inject_commit_only_for_updated_data {r : R} {res : Res} {rs : List Res} (h : JInv r (res :: rs)) (cur : RObj)
    (hcur : r.get res.1.id = some cur) (hw : cur.rev = res.2.2.1 ∨ (cur.kind = .pending ∧ cur.sid = res.2.2.2.1)) :
    cur.data = res.1.data ∧ lastCall r.log res.1.id = some ⟨"U", res.1.id, res.1.data, !res.2.2.2.2⟩ := by
  rw [get_eq_some_iff h.tinv] at hcur
  have hl := (h.resOK res (List.mem_cons_self ..)).live hcur.1 hcur.2 hw
  exact ⟨hl.1, hl.2.2.1⟩

/-- … and otherwise nothing is written (this is `C15_stale_result_dropped` /
    `C15_deleted_not_recreated` without side conditions) -/
theorem C15_inject_stale_result_dropped (r : R) (res : Res)
    (hst : ∀ cur, r.get res.1.id = some cur → ¬ (cur.rev = res.2.2.1 ∨ (cur.kind = .pending ∧ cur.sid = res.2.2.2.1))) :
    r.commitOne res = r := by
  rcases commitOne_cases r res with ⟨e, _⟩ | ⟨cur, hg, hrev, _⟩ | ⟨cur, hg, _, hk, hs, _⟩
  · exact e
  · exact absurd (Or.inl hrev) (hst cur hg)
  · exact absurd (Or.inr ⟨hk, hs⟩) (hst cur hg)

/-- **a write to the object itself during its Update makes the result stale.**  If
    among the writes queued for `Update(obj)` there is a `put` or a `del` of
    `obj.id` (alone, several, `del` then `put`, mixed with other writes), then
    after `processSingle` the object, if it exists, was written after everything
    the reconciler has seen and carries a fresh status id; the result remembered
    for `commitStatus` is dropped: committing it leaves the state untouched.  (The
    side conditions hold of every call in a round: the revision handed to Update
    is not beyond the table's, status ids are handed out increasingly.) -/
theorem C15_inject_write_during_update_drops_result (r : R) (obj : RObj) (rev : Nat) (hrev : rev ≤ r.tableRev)
    (hsid : obj.sid < r.nextSid)
    (hw : ∃ a ∈ r.injects, a.1 = obj.id ∧ ((∃ d, a.2 = .put obj.id d) ∨ a.2 = .del obj.id)) :
    (obj, obj, rev, obj.sid, r.isFailing obj.id) ∈ (r.processSingle obj rev false).results ∧
    (∀ cur, (r.processSingle obj rev false).get obj.id = some cur → cur.rev > r.tableRev ∧ cur.sid ≥ r.nextSid) ∧
    (r.processSingle obj rev false).commitOne (obj, obj, rev, obj.sid, r.isFailing obj.id) = r.processSingle obj rev false := by
  rw [processSingle_update_land]
  have p := preUpdate_facts r obj rev
  have hfresh : FreshObj obj.id r.tableRev r.nextSid ((r.preUpdate obj rev).landAll (r.injects.filter (fun (a : Nat × Inject) => a.1 = obj.id))) := by
    have := freshObj_of_write obj.id (r.injects.filter (fun (a : Nat × Inject) => a.1 = obj.id)) (r.preUpdate obj rev) (by
      obtain ⟨a, ha, h1, h2⟩ := hw
      exact ⟨a, List.mem_filter.2 ⟨ha, by simpa using h1⟩, h2⟩)
    rw [p.tableRev, p.nextSid] at this
    exact this
  refine ⟨?_, fun cur hc => hfresh cur hc, ?_⟩
  · rw [(frameW_landAll _ _).results, p.results]
    exact List.mem_append_right _ (List.mem_singleton.2 rfl)
  · apply C15_inject_stale_result_dropped
    intro cur hc
    obtain ⟨a, b⟩ := hfresh cur hc
    simp only
    rintro (e | ⟨_, e⟩) <;> omega

/-- **nothing but the status is written.**  For a round from any reachable state:
    there is a list `lp` of queued writes — those that landed during the round's
    Updates, in the order they landed; together with what is still queued they are
    exactly the writes queued before, and the writes queued for one object keep
    their order — such that, up to status and revision, the objects and the
    graveyard after the round are what the USER's writes `lp` alone make of the
    table before the round: id, user data and foreign field of every object, and
    the order of the table, coincide. -/
theorem C15_inject_only_status_written {r : R} (h : C14InjReachable r) (hs : r.roundSafe) :
    ∃ lp : List (Nat × Inject),
      (lp ++ r.round.injects).Perm r.injects ∧
      (∀ k, lp.filter (fun (a : Nat × Inject) => a.1 = k) ++ r.round.injects.filter (fun (a : Nat × Inject) => a.1 = k) =
        r.injects.filter (fun (a : Nat × Inject) => a.1 = k)) ∧
      r.round.objs.map (fun o => (o.id, o.data, o.other)) =
        (lp.foldl (fun (x : R) (a : Nat × Inject) => x.applyInject a.2) r).objs.map (fun o => (o.id, o.data, o.other)) ∧
      r.round.dels.map (fun d => (d.1.id, d.1.data, d.1.other)) =
        (lp.foldl (fun (x : R) (a : Nat × Inject) => x.applyInject a.2) r).dels.map (fun d => (d.1.id, d.1.data, d.1.other)) := by
  obtain ⟨lp, hp, ht, ho⟩ := (C14_inject_inv_reachable h).rinv.round_sim hs
  exact ⟨lp, hp, ho, ht.1, ht.2⟩

/-- with nothing queued, a round changes nothing but status and revision -/
theorem C15_inject_only_status_written_no_injects {r : R} (h : C14InjReachable r) (hinj : r.injects = []) :
    r.round.objs.map (fun o => (o.id, o.data, o.other)) = r.objs.map (fun o => (o.id, o.data, o.other)) ∧
    r.round.dels.map (fun d => (d.1.id, d.1.data, d.1.other)) = r.dels.map (fun d => (d.1.id, d.1.data, d.1.other)) := by
  obtain ⟨lp, hp, _, h1, h2⟩ := C15_inject_only_status_written h (round_safe_of_noTouch r (noTouch_nil hinj)).1
  have : lp = [] := by
    rw [hinj] at hp
    have := hp.length_eq
    simp only [List.length_append, List.length_nil] at this
    exact List.eq_nil_of_length_eq_zero (by omega)
  subst this
  exact ⟨h1, h2⟩

/-- **a deleted object is not re-created by the status commit**: an id that the
    user's writes alone (those that landed during the round, in their order) leave
    absent from the table is absent after the round; in particular, without a
    landed `put` of it, an object deleted before or during the round stays deleted -/
theorem C15_inject_deleted_stays_deleted {r : R} (h : C14InjReachable r) (hs : r.roundSafe) :
    ∃ lp : List (Nat × Inject), (lp ++ r.round.injects).Perm r.injects ∧
      ∀ id, (∀ o ∈ (lp.foldl (fun (x : R) (a : Nat × Inject) => x.applyInject a.2) r).objs, o.id ≠ id) →
        r.round.get id = none :=
  have ⟨lp, hp, ht, _⟩ := (C14_inject_inv_reachable h).rinv.round_sim hs
  ⟨lp, hp, fun _ hid => ht.get_none hid⟩

/-- without writes queued: an object that is deleted stays deleted through a round -/
theorem C15_inject_deleted_stays_deleted_no_injects {r : R} (h : C14InjReachable r) (hinj : r.injects = []) (id : Nat)
    (hdel : r.get id = none) : r.round.get id = none :=
  have ⟨h1, h2⟩ := C15_inject_only_status_written_no_injects h hinj
  TEq.get_none (b := r) ⟨h1, h2⟩ ((get_eq_none_iff r id).1 hdel)

/-! ## non-vacuity: the scenarios of the property, computed -/

/-- object 1 is put; the test's Update(1) Inserts a new version of object 1 while it runs -/
def c15jPut : R := { (({} : R).userPut 1 7) with injects := [(1, Inject.put 1 99)] }

/-- … Deletes object 1 while it runs -/
def c15jDel : R := { (({} : R).userPut 1 7) with injects := [(1, Inject.del 1)] }

/-- … Deletes and re-Inserts object 1 while it runs, and a foreign writer touches it -/
def c15jDelPut : R := { (({} : R).userPut 1 7) with injects := [(1, Inject.del 1), (1, Inject.put 1 50), (1, Inject.touch 1)] }

example : C14InjReachable c15jPut ∧ C14InjReachable c15jDel ∧ C14InjReachable c15jDelPut :=
  ⟨.inject 1 (.put 1 99) (.put 1 7 (.init {})), .inject 1 (.del 1) (.put 1 7 (.init {})),
   .inject 1 (.touch 1) (.inject 1 (.put 1 50) (.inject 1 (.del 1) (.put 1 7 (.init {}))))⟩

example : c15jPut.roundSafe ∧ c15jDel.roundSafe ∧ c15jDelPut.roundSafe := by decide +kernel

/-- Update was called with the old data (7) and succeeded, but the object carries
    the USER's data (99), is Pending, beyond the iterator: no Done for data it was
    not updated with; the next round delivers it -/
example : c15jPut.round.objs.map (fun o => (o.id, o.data, o.kind, o.rev)) = [(1, 99, .pending, 2)] ∧ c15jPut.round.itRev = 1 ∧
    c15jPut.round.log = [⟨"U", 1, 7, true⟩] ∧ c15jPut.round.triggered = true ∧
    (c15jPut.round.round.objs.map fun o => (o.id, o.data, o.kind)) = [(1, 99, .done)] ∧
    c15jPut.round.round.log = [⟨"U", 1, 7, true⟩, ⟨"U", 1, 99, true⟩] := by decide +kernel

/-- the deleted object is not re-created by the status commit; the next round calls Delete -/
example : c15jDel.round.objs = [] ∧ c15jDel.round.dels.map (fun d => d.1.id) = [1] ∧
    c15jDel.round.round.objs = [] ∧ c15jDel.round.round.log = [⟨"U", 1, 7, true⟩, ⟨"D", 1, 7, true⟩] := by decide +kernel

/-- delete + re-insert + a foreign write during the Update: the user's version (50) with the foreign field, Pending -/
example : c15jDelPut.round.objs.map (fun o => (o.id, o.data, o.kind, o.other)) = [(1, 50, .pending, 1)] ∧
    c15jDelPut.round.dels = [] ∧ c15jDelPut.round.injects = [] := by decide +kernel

/-- the hypotheses of `C15_inject_write_during_update_drops_result` hold of the first call of that round -/
example : (1 : Nat) ≤ c15jPut.tableRev ∧ (c15jPut.objs.map (·.sid)) = [1] ∧ 1 < c15jPut.nextSid ∧
    (∃ a ∈ c15jPut.injects, a.1 = 1 ∧ ((∃ d, a.2 = .put 1 d) ∨ a.2 = .del 1)) :=
  ⟨by decide, by decide, by decide, ⟨(1, .put 1 99), List.mem_cons_self .., rfl, Or.inl ⟨99, rfl⟩⟩⟩

/-- the structural facts about reconciler/incremental.go and reconciler/retries.go that the model
    builds in — the conditions under which `commitStatus` writes a status and queues a retry (`R.commitOne`) — hold of the source as it is today (regenerated by `tools/extract` on every run) -/
theorem C15_inject_source_facts : Gen.recFacts = Rec.expectedFacts := by decide

end Sdb
