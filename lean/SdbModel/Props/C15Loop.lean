import SdbModel.Model.RecLoop
import SdbModel.Generated.LoopParams
/-!
  C15 (last clause): "… and Prune is called only once the table is initialized and always
  with the table's complete contents".  The facts about `refreshLoop` that the refresher's
  model builds in (its theorems are in Props/C15Refresh.lean) are required here as well, by
  `C15_loop_source_facts`.

  The iteration function `Gen.loopStep` these theorems are about is TRANSLATED from the
  current `reconciler/reconciler.go` by `tools/extract` on every run
  (`Generated/LoopParams.lean`); nothing about it is written by hand.  A source change that
  alters when `r.prune` is called (the condition, what a `select` case assigns, a flag reset
  somewhere else) changes the generated definition and the theorems below are re-checked
  against it.
-/
namespace Sdb
open RecLoop

/-! ### one iteration: exact characterisation of the translated code -/

/-- The translated iteration in closed form, by running it on each trigger and each value of
    the flags it tests.  Everything else in this file reasons from this equation. -/
theorem loopStep_eq (pe : Bool) (s : LoopState) (t : Trigger) :
    Gen.loopStep pe s t =
      (⟨s.tableInitialized || decide (t = .initClosed),
        (s.externalPrune || decide (t = .extPrune)) && !(s.tableInitialized || decide (t = .initClosed)),
        !decide (t = .initClosed) && s.initWatchArmed⟩,
       (s.tableInitialized || decide (t = .initClosed)) &&
        (decide (t = .pruneTick) || (decide (t = .initClosed) && pe) || s.externalPrune || decide (t = .extPrune))) := by
  rcases s with ⟨a, b, c⟩
  cases t <;> cases a <;> cases b <;> cases pe <;> rfl

/-- `r.prune` is called in an iteration EXACTLY when the table is known to be initialized
    (before this iteration, or its init watch fired now) and pruning was asked for: by the
    ticker, by the init watch itself when pruning is configured, or by an external request
    made now or remembered from an earlier iteration. -/
theorem C15_loop_step_prune_iff (pe : Bool) (s : LoopState) (t : Trigger) :
    (Gen.loopStep pe s t).2 = true ↔
      (s.tableInitialized = true ∨ t = .initClosed) ∧
      (t = .pruneTick ∨ (t = .initClosed ∧ pe = true) ∨ s.externalPrune = true ∨ t = .extPrune) := by
  simp [loopStep_eq, or_assoc]

/-- the table counts as initialized exactly from the iteration on whose trigger was the init watch -/
theorem C15_loop_step_initialized_iff (pe : Bool) (s : LoopState) (t : Trigger) :
    (Gen.loopStep pe s t).1.tableInitialized = true ↔ (s.tableInitialized = true ∨ t = .initClosed) := by
  simp [loopStep_eq]

/-- the init watch is dropped (set to nil) exactly by its own case and never comes back -/
theorem C15_loop_step_armed_iff (pe : Bool) (s : LoopState) (t : Trigger) :
    (Gen.loopStep pe s t).1.initWatchArmed = true ↔ (s.initWatchArmed = true ∧ t ≠ .initClosed) := by
  simp [loopStep_eq, and_comm]

/-- an external request stays pending exactly while the table is not initialized; otherwise it
    is served in the very iteration (`C15_loop_step_prune_iff`) and the flag is cleared -/
theorem C15_loop_step_pending_request_iff (pe : Bool) (s : LoopState) (t : Trigger) :
    (Gen.loopStep pe s t).1.externalPrune = true ↔
      ((s.externalPrune = true ∨ t = .extPrune) ∧ ¬ (s.tableInitialized = true ∨ t = .initClosed)) := by
  simp [loopStep_eq]

theorem C15_loop_step_prune_needs_initialized (pe : Bool) (s : LoopState) (t : Trigger)
    (h : (Gen.loopStep pe s t).2 = true) : (Gen.loopStep pe s t).1.tableInitialized = true := by
  rw [C15_loop_step_initialized_iff]; exact ((C15_loop_step_prune_iff pe s t).1 h).1

/-- before the first iteration nothing is initialized, nothing requested, the watch armed -/
theorem C15_loop_initial_state :
    Gen.loopInit.tableInitialized = false ∧ Gen.loopInit.externalPrune = false ∧ Gen.loopInit.initWatchArmed = true :=
  ⟨rfl, rfl, rfl⟩

/-! ### whole runs of the loop (any number of iterations, any trigger sequence) -/

theorem run_cons (f : StepFn) (pe : Bool) (s : LoopState) (e : Ev) (es : List Ev) :
    run f pe s (e :: es) = ((run f pe (f pe s e.trig).1 es).1, (f pe s e.trig).2 :: (run f pe (f pe s e.trig).1 es).2) :=
  rfl

theorem run_append (f : StepFn) (pe : Bool) (s : LoopState) (es fs : List Ev) :
    run f pe s (es ++ fs) = ((run f pe (run f pe s es).1 fs).1, (run f pe s es).2 ++ (run f pe (run f pe s es).1 fs).2) := by
  induction es generalizing s with
  | nil => rfl
  | cons e es ih => simp only [List.cons_append, run_cons, ih]

theorem run_initialized (pe : Bool) (s : LoopState) (es : List Ev) :
    (run Gen.loopStep pe s es).1.tableInitialized =
      (s.tableInitialized || es.any (·.trig = .initClosed)) := by
  induction es generalizing s with
  | nil => simp [run]
  | cons e es ih => simp [run_cons, ih, loopStep_eq, Bool.or_assoc]

theorem run_uninitialized (pe : Bool) (s : LoopState) (es : List Ev) (hs : s.tableInitialized = false)
    (hno : ∀ e ∈ es, e.trig ≠ .initClosed) :
    (run Gen.loopStep pe s es).1.externalPrune = (s.externalPrune || es.any (·.trig = .extPrune)) ∧
      (run Gen.loopStep pe s es).2 = List.replicate es.length false := by
  induction es generalizing s with
  | nil => simp [run]
  | cons e es ih =>
    have he := (List.forall_mem_cons.1 hno).1
    obtain ⟨h1, h2⟩ := ih (Gen.loopStep pe s e.trig).1 (by simp [loopStep_eq, hs, he]) (List.forall_mem_cons.1 hno).2
    rw [run_cons, h1, h2]
    simp [loopStep_eq, hs, he, List.replicate_succ, Bool.or_assoc]

/-- **Prune only once the table is initialized (trigger form).**  In every run of the loop
    from its initial state — any configuration, any number of iterations, any sequence of
    triggers — an iteration that calls `Prune` is the iteration whose trigger was the
    table's initializer watch channel, or a later one. -/
theorem C15_loop_prune_only_after_init_trigger (pe : Bool) (es : List Ev) (i : Nat)
    (h : (run Gen.loopStep pe Gen.loopInit es).2[i]? = some true) :
    ∃ j, j ≤ i ∧ (es[j]?).map (·.trig) = some Trigger.initClosed := by
  suffices H : ∀ (es : List Ev) (i : Nat) (s : LoopState), s.tableInitialized = false →
      (run Gen.loopStep pe s es).2[i]? = some true →
      ∃ j, j ≤ i ∧ (es[j]?).map (·.trig) = some Trigger.initClosed from H es i _ rfl h
  intro es
  induction es with
  | nil => intro i s _ h; simp [run] at h
  | cons e es ih =>
    intro i s hs h
    by_cases ht : e.trig = .initClosed
    · exact ⟨0, Nat.zero_le _, by simp [ht]⟩
    · cases i with
      | zero => simp [run_cons, loopStep_eq, hs, ht] at h
      | succ i =>
        obtain ⟨j, hj, hj'⟩ := ih i (Gen.loopStep pe s e.trig).1 (by simp [loopStep_eq, hs, ht])
          (by simpa [run_cons] using h)
        exact ⟨j + 1, Nat.succ_le_succ hj, by simpa using hj'⟩

private theorem prune_snapshot_aux (pe : Bool) (es : List Ev) (s : LoopState) (cb : Bool) (i : Nat)
    (hinv : s.tableInitialized = true → cb = true)
    (hwf : wfTrace Gen.loopStep pe s cb es)
    (h : (run Gen.loopStep pe s es).2[i]? = some true) :
    (es[i]?).map (·.snapInitialized) = some true := by
  induction es generalizing s cb i with
  | nil => simp [run] at h
  | cons e es ih =>
    rw [run_cons] at h
    obtain ⟨w1, _, w3, w4, wrest⟩ := hwf
    have hclosed : (Gen.loopStep pe s e.trig).1.tableInitialized = true → e.initChanClosed = true := by
      intro hx
      rcases (C15_loop_step_initialized_iff pe s e.trig).1 hx with h1 | h1
      · exact w3 (hinv h1)
      · exact (w1 h1).2
    cases i with
    | zero =>
      simp at h
      have := C15_loop_step_prune_needs_initialized pe s e.trig h
      simp [w4 (hclosed this)]
    | succ i =>
      simp at h
      simpa using ih _ _ i hclosed wrest h

/-- **Prune only once the table is initialized (snapshot form).**  Under the environment
    assumptions `wfTrace` (Go's `select` picks a case only when its channel is ready and never a
    nil channel; C19: once the initializer watch channel is closed, later snapshots show the
    table initialized), the snapshot of every iteration that calls `Prune` — the snapshot
    `Prune` is handed, `C15_loop_source_facts` — shows the table initialized. -/
theorem C15_loop_prune_snapshot_initialized (pe : Bool) (es : List Ev) (i : Nat)
    (hwf : wfTrace Gen.loopStep pe Gen.loopInit false es)
    (h : (run Gen.loopStep pe Gen.loopInit es).2[i]? = some true) :
    (es[i]?).map (·.snapInitialized) = some true :=
  prune_snapshot_aux pe es Gen.loopInit false i nofun hwf h

private theorem init_once_aux (pe : Bool) (es : List Ev) (s : LoopState) (cb : Bool)
    (hs : s.initWatchArmed = false) (hwf : wfTrace Gen.loopStep pe s cb es) :
    ∀ e ∈ es, e.trig ≠ .initClosed := by
  induction es generalizing s cb with
  | nil => simp
  | cons e es ih =>
    obtain ⟨w1, _, _, _, wrest⟩ := hwf
    refine List.forall_mem_cons.2 ⟨fun ht => ?_, ih _ _ (by simp [loopStep_eq, hs]) wrest⟩
    have := (w1 ht).1; rw [hs] at this; cases this

/-- the init watch fires at most once: after its iteration no later iteration is triggered by it -/
theorem C15_loop_init_trigger_at_most_once (pe : Bool) (s : LoopState) (cb : Bool) (e : Ev) (es : List Ev)
    (ht : e.trig = .initClosed) (hwf : wfTrace Gen.loopStep pe s cb (e :: es)) :
    ∀ x ∈ es, x.trig ≠ .initClosed :=
  init_once_aux pe es _ _ (by simp [loopStep_eq, ht]) hwf.2.2.2.2

/-- **An external prune request made before the table is initialized is not lost.**  For a
    run `pre ++ [request] ++ mid ++ [init] ++ post` with no init trigger in `pre` and `mid`:
    `Prune` is not called before the init iteration and IS called in it — also with the
    periodic pruning disabled. -/
theorem C15_loop_external_request_served_at_initialization (pe : Bool) (pre mid post : List Ev) (rq ini : Ev)
    (hrq : rq.trig = .extPrune) (hini : ini.trig = .initClosed)
    (hpre : ∀ e ∈ pre, e.trig ≠ .initClosed) (hmid : ∀ e ∈ mid, e.trig ≠ .initClosed) :
    let calls := (run Gen.loopStep pe Gen.loopInit (pre ++ rq :: (mid ++ ini :: post))).2
    (∀ k, k < pre.length + 1 + mid.length → calls[k]? = some false) ∧
    calls[pre.length + 1 + mid.length]? = some true := by
  -- up to the init iteration the run is one of `run_uninitialized`, and contains the request
  have hno : ∀ e ∈ pre ++ rq :: mid, e.trig ≠ .initClosed := by
    intro e he
    rcases List.mem_append.1 he with h | h
    · exact hpre e h
    · rcases List.mem_cons.1 h with rfl | h
      · rw [hrq]; nofun
      · exact hmid e h
  obtain ⟨hp, hc⟩ := run_uninitialized pe Gen.loopInit _ rfl hno
  have hsplit : pre ++ rq :: (mid ++ ini :: post) = (pre ++ rq :: mid) ++ ini :: post := by simp
  have hlen : (pre ++ rq :: mid).length = pre.length + 1 + mid.length := by
    rw [List.length_append, List.length_cons]; omega
  simp only [hsplit, run_append Gen.loopStep pe Gen.loopInit (pre ++ rq :: mid), run_cons, hc, hlen]
  constructor
  · intro k hk
    rw [List.getElem?_append_left (by simpa using hk), List.getElem?_replicate, if_pos hk]
  · rw [List.getElem?_append_right (by simp), List.length_replicate, Nat.sub_self]
    -- the request is still pending, and the init watch fires now
    have hext : (run Gen.loopStep pe Gen.loopInit (pre ++ rq :: mid)).1.externalPrune = true :=
      hp.trans (Bool.or_eq_true_iff.2 (.inr (List.any_eq_true.2
        ⟨rq, List.mem_append_right _ (List.mem_cons_self ..), decide_eq_true hrq⟩)))
    exact congrArg some ((C15_loop_step_prune_iff pe _ _).2 ⟨.inr hini, .inr (.inr (.inl hext))⟩)

/-- every tick of the prune ticker after the initialization prunes; so does every external
    request made after it — at once, in the same iteration -/
theorem C15_loop_tick_or_request_after_initialization_prunes (pe : Bool) (es : List Ev) (e : Ev) (j : Nat)
    (hj : (es[j]?).map (·.trig) = some Trigger.initClosed)
    (he : e.trig = .pruneTick ∨ e.trig = .extPrune) :
    (Gen.loopStep pe (run Gen.loopStep pe Gen.loopInit es).1 e.trig).2 = true := by
  obtain ⟨x, hx, hxt⟩ := Option.map_eq_some_iff.1 hj
  have hany : es.any (·.trig = .initClosed) = true :=
    List.any_eq_true.2 ⟨x, List.mem_of_getElem? hx, by simpa using hxt⟩
  rcases he with he | he <;> simp [loopStep_eq, run_initialized, hany, he]

/-- with periodic pruning disabled and no external request, `Prune` is never called -/
theorem C15_loop_no_prune_unless_configured_or_requested (es : List Ev) (s : LoopState)
    (hs : s.externalPrune = false)
    (hno : ∀ e ∈ es, e.trig ≠ .extPrune ∧ e.trig ≠ .pruneTick) :
    ∀ p ∈ (run Gen.loopStep false s es).2, p = false := by
  induction es generalizing s with
  | nil => simp [run]
  | cons e es ih =>
    obtain ⟨⟨n1, n2⟩, hno'⟩ := List.forall_mem_cons.1 hno
    rw [run_cons]
    exact List.forall_mem_cons.2 ⟨by simp [loopStep_eq, hs, n1, n2],
      ih _ (by simp [loopStep_eq, hs, n1]) hno'⟩

/-- **No request is left pending once the table is initialized**: in every state the loop reaches
    from its initial state, the external-request flag is clear whenever the table counts as
    initialized — a request is either waiting for the initialization or has been served -/
theorem C15_loop_no_request_pending_when_initialized (pe : Bool) (es : List Ev) :
    ¬ ((run Gen.loopStep pe Gen.loopInit es).1.tableInitialized = true ∧
       (run Gen.loopStep pe Gen.loopInit es).1.externalPrune = true) := by
  -- the state is the initial one or the result of an iteration, and no iteration leaves both flags set
  rcases List.eq_nil_or_concat es with rfl | ⟨es', e, rfl⟩
  · exact fun h => nomatch h.1
  · rw [List.concat_eq_append, run_append]
    rintro ⟨h1, h2⟩
    exact ((C15_loop_step_pending_request_iff pe _ e.trig).1 h2).2
      ((C15_loop_step_initialized_iff pe _ e.trig).1 h1)

/-- the facts around the translated logic that the statements above rely on — the snapshot is
    taken after the trigger, `r.prune` gets that snapshot and hands `Operations.Prune` the
    sequence `Table.All(snapshot)`, i.e. the table's COMPLETE contents as of that snapshot; no
    ticker unless configured; the init watch comes from `Table.Initialized` — and the facts
    `refreshPass` builds in, hold of today's source -/
theorem C15_loop_source_facts : Gen.loopFacts = RecLoop.expectedLoopFacts := by decide

/-! ### non-vacuity: concrete traces -/

private def evs (ts : List (Trigger × Bool)) : List Ev :=
  ts.map fun (t, c) => { trig := t, initChanClosed := c, snapInitialized := c }

-- request before initialization, pruning disabled: served exactly at the init iteration; a later
-- request at once; the retry / table triggers never prune
example : (run Gen.loopStep false Gen.loopInit
      (evs [(.table, false), (.extPrune, false), (.retry, false), (.initClosed, true), (.table, true), (.extPrune, true)])).2
    = [false, false, false, true, false, true] := by decide +kernel
-- pruning enabled: ticks before initialization are ignored, the init iteration prunes, later ticks prune
example : (run Gen.loopStep true Gen.loopInit
      (evs [(.pruneTick, false), (.initClosed, true), (.retry, true), (.pruneTick, true)])).2
    = [false, true, false, true] := by decide +kernel
example : wfTrace Gen.loopStep true Gen.loopInit false
      (evs [(.pruneTick, false), (.initClosed, true), (.retry, true), (.pruneTick, true)]) := by
  simp only [wfTrace, evs, List.map]; decide

end Sdb
