import SdbModel.Model.WatchSet
import SdbModel.Generated.WSParams

/-!
# C20 — WatchSet.Wait returns exactly the closed members and keeps the rest

> WatchSet.Wait returns only channels that were added to the set and are closed,
> removes exactly the returned channels from the set and leaves all others in
> it.  It returns once at least one member is closed (waiting at most the settle
> time to gather further ones), does not return a result while no member is
> closed unless the context ends, and then reports the context's error.

Theorems over `Model.WatchSet.wait` for EVERY environment (close times, context
end), every settle time and EVERY oracle resolving the `reflect.Select` choices
(only required to pick a ready case, which Go's select guarantees).
-/
namespace Sdb
open WS

/-- the oracle models `reflect.Select`: it returns the index of a READY case -/
def OracleValid (o : Oracle) : Prop := ∀ t d ready, (o t d ready).valid d ready = true

private theorem doneBy_mono (d : Option Nat) (t u : Nat) (h : t ≤ u) (hc : doneBy d t = true) : doneBy d u = true := by
  cases d with
  | none => cases hc
  | some td => exact decide_eq_true (Nat.le_trans (of_decide_eq_true hc) h)

private theorem closedBy_mono {e : Env} {c t u : Nat} (h : t ≤ u) (hc : e.closedBy c t = true) : e.closedBy c u = true :=
  doneBy_mono _ t u h hc

/-- an event that has happened by `t' ≥ t0` had happened by `t0`, or happens at an instant in
    `(t0, t']`; `ts` is any list that holds the event's time -/
private theorem doneBy_event (d : Option Nat) (ts : List Nat) (hmem : ∀ x, d = some x → x ∈ ts)
    (t0 t' : Nat) (h0 : t0 ≤ t') (h : doneBy d t' = true) :
    ∃ x ∈ t0 :: ts.filter (· > t0), x ≤ t' ∧ doneBy d x = true := by
  cases d with
  | none => cases h
  | some td =>
    by_cases hc : td ≤ t0
    · exact ⟨t0, List.mem_cons_self .., h0, decide_eq_true hc⟩
    · exact ⟨td, List.mem_cons_of_mem _ (List.mem_filter.2 ⟨hmem td rfl, decide_eq_true (Nat.lt_of_not_le hc)⟩),
        of_decide_eq_true h, decide_eq_true (Nat.le_refl _)⟩

private theorem minList_eq_some {l : List Nat} {m : Nat} (h : minList l = some m) :
    m ∈ l ∧ ∀ x ∈ l, m ≤ x := by
  induction l generalizing m with
  | nil => cases h
  | cons a as ih =>
    unfold minList at h
    split at h
    · rename_i m' hm'
      cases h
      obtain ⟨h1, h2⟩ := ih hm'
      refine ⟨?_, List.forall_mem_cons.2
        ⟨Nat.min_le_left _ _, fun x hx => Nat.le_trans (Nat.min_le_right _ _) (h2 x hx)⟩⟩
      rcases Nat.le_total a m' with hx | hx
      · rw [Nat.min_eq_left hx]; exact List.mem_cons_self ..
      · rw [Nat.min_eq_right hx]; exact List.mem_cons_of_mem _ h1
    · rename_i hnone
      cases h
      cases as with
      | nil => exact ⟨List.mem_cons_self .., by simp⟩
      | cons b bs => unfold minList at hnone; split at hnone <;> cases hnone

private theorem eventTimes_ge {e : Env} {chans : List Nat} {d : Option Nat} {t x : Nat}
    (hx : x ∈ eventTimes e chans d t) : t ≤ x := by
  rcases List.mem_cons.1 hx with rfl | hx
  · exact Nat.le_refl _
  · exact Nat.le_of_lt (by simpa using (List.mem_filter.1 hx).2)

/-- the candidate instants miss nothing: if a case is ready at `t' ≥ t`, one is ready at a candidate `x ≤ t'` -/
private theorem ready_at_event {e : Env} {chans : List Nat} {d : Option Nat} {t t' : Nat} (h0 : t ≤ t')
    (h : (doneBy d t' || chans.any (e.closedBy · t')) = true) :
    ∃ x ∈ eventTimes e chans d t, x ≤ t' ∧ (doneBy d x || chans.any (e.closedBy · x)) = true := by
  rcases Bool.or_eq_true_iff.1 h with hd | ha
  · obtain ⟨x, hx, hxt, hdx⟩ := doneBy_event d _
      (fun x hx => List.mem_append_right _ (Option.mem_toList.2 hx)) t t' h0 hd
    exact ⟨x, hx, hxt, by rw [hdx]; rfl⟩
  · obtain ⟨c, hc, hcl⟩ := List.any_eq_true.1 ha
    -- `e.closedBy c` is `doneBy (e.closeAt c)`
    obtain ⟨x, hx, hxt, hdx⟩ := doneBy_event (e.closeAt c) _
      (fun x hx => List.mem_append_left _ (List.mem_filterMap.2 ⟨c, hc, hx⟩)) t t' h0 hcl
    exact ⟨x, hx, hxt, Bool.or_eq_true_iff.2 (.inr (List.any_eq_true.2 ⟨c, hc, hdx⟩))⟩

private theorem wakeTime_spec {e : Env} {chans : List Nat} {d : Option Nat} {t u : Nat}
    (h : wakeTime e chans d t = some u) :
    t ≤ u ∧ (doneBy d u || chans.any (e.closedBy · u)) = true ∧
      ∀ t', t ≤ t' → (doneBy d t' || chans.any (e.closedBy · t')) = true → u ≤ t' :=
  have ⟨hm, hl⟩ := minList_eq_some h
  ⟨eventTimes_ge (List.mem_filter.1 hm).1, (List.mem_filter.1 hm).2, fun _ h0 hr =>
    have ⟨x, hx, hxt, hrx⟩ := ready_at_event h0 hr
    Nat.le_trans (hl x (List.mem_filter.2 ⟨hx, hrx⟩)) hxt⟩

private theorem select_eq_some {e : Env} {o : Oracle} {chans : List Nat} {d : Option Nat} {t u : Nat} {p : Pick}
    (h : select e o chans d t = some (u, p)) :
    wakeTime e chans d t = some u ∧ p = o u (doneBy d u) (chans.filter (e.closedBy · u)) := by
  unfold select at h
  split at h
  · cases h
  · rename_i w hw; cases h; exact ⟨hw, rfl⟩

private theorem select_ge {e : Env} {o : Oracle} {chans : List Nat} {d : Option Nat} {t u : Nat} {p : Pick}
    (h : select e o chans d t = some (u, p)) : t ≤ u :=
  (wakeTime_spec (select_eq_some h).1).1

private theorem select_spec {e : Env} {o : Oracle} (hv : OracleValid o) {chans : List Nat} {d : Option Nat} {t u : Nat} {p : Pick}
    (h : select e o chans d t = some (u, p)) :
    match p with
    | .done => doneBy d u = true
    | .chan c => c ∈ chans ∧ e.closedBy c u = true := by
  have hval := hv u (doneBy d u) (chans.filter (e.closedBy · u))
  rw [← (select_eq_some h).2] at hval
  cases p with
  | done => exact hval
  | chan c => simpa [Pick.valid] using hval

private theorem select_le_deadline {e : Env} {o : Oracle} {chans : List Nat} {D t u : Nat} {p : Pick}
    (h : select e o chans (some D) t = some (u, p)) : u ≤ max t D :=
  (wakeTime_spec (select_eq_some h).1).2.2 _ (Nat.le_max_left t D)
    (Bool.or_eq_true_iff.2 (.inl (decide_eq_true (Nat.le_max_right t D))))

/-- `B` is the bound the caller knows (`u + settle`); the loop's own deadline `D` may be earlier (the context's end) -/
private theorem settleLoop_spec (e : Env) (o : Oracle) (set : List Nat) (D B : Nat) (hD : D ≤ B) :
    ∀ (fuel : Nat) (cases : List Nat) (t : Nat) (acc : List Nat), t ≤ B →
      let r := settleLoop e o (some D) fuel cases t acc
      t ≤ r.2 ∧ r.2 ≤ B ∧ (∀ c ∈ acc, c ∈ r.1) ∧
        (OracleValid o → (∀ c ∈ cases, c ∈ set) → (∀ c ∈ acc, c ∈ set ∧ e.closedBy c t = true) →
          ∀ c ∈ r.1, c ∈ set ∧ e.closedBy c r.2 = true) := by
  intro fuel
  induction fuel with
  | zero => intro cases t acc ht; exact ⟨Nat.le_refl _, ht, fun c h => h, fun _ _ hacc => hacc⟩
  | succ n ih =>
    intro cases t acc ht
    simp only [settleLoop]
    split
    · exact ⟨Nat.le_refl _, ht, fun c h => h, fun _ _ hacc => hacc⟩
    · rename_i u hs
      have hge := select_ge hs
      exact ⟨hge, Nat.le_trans (select_le_deadline hs) (Nat.max_le.2 ⟨ht, hD⟩), fun c h => h,
        fun _ _ hacc c hc => ⟨(hacc c hc).1, closedBy_mono hge (hacc c hc).2⟩⟩
    · rename_i u c hs
      have hge := select_ge hs
      obtain ⟨h1, h2, h3, h4⟩ := ih (cases.filter (· ≠ c)) u (acc ++ [c])
        (Nat.le_trans (select_le_deadline hs) (Nat.max_le.2 ⟨ht, hD⟩))
      refine ⟨Nat.le_trans hge h1, h2, fun x hx => h3 x (List.mem_append_left _ hx), fun hv hcases hacc => ?_⟩
      have ⟨hc1, hc2⟩ := select_spec hv hs
      exact h4 hv (fun x hx => hcases x (List.mem_filter.mp hx).1)
        (fun x hx => (List.mem_append.1 hx).elim
          (fun hx => ⟨(hacc x hx).1, closedBy_mono hge (hacc x hx).2⟩)
          (fun hx => by cases List.mem_singleton.1 hx; exact ⟨hcases _ hc1, hc2⟩))

private theorem minOpt_le (a : Option Nat) (b : Nat) : minOpt a b ≤ b := by
  unfold minOpt; split
  · exact Nat.min_le_right _ _
  · exact Nat.le_refl _

/-- the settle phase of `wait`, after the first wake-up at `u` picked the member `c` -/
private theorem settle_after_first {e : Env} {o : Oracle} {set : List Nat} (settle : Nat)
    {t0 u c : Nat} (hs : select e o set e.ctxAt t0 = some (u, .chan c)) :
    let r := settleLoop e o (some (minOpt e.ctxAt (u + settle))) (set.length + 1) (set.filter (· ≠ c)) u [c]
    u ≤ r.2 ∧ r.2 ≤ u + settle ∧ r.1 ≠ [] ∧ (OracleValid o → ∀ x ∈ r.1, x ∈ set ∧ e.closedBy x r.2 = true) := by
  obtain ⟨h1, h2, h3, h4⟩ := settleLoop_spec e o set _ (u + settle) (minOpt_le _ _) (set.length + 1)
    (set.filter (· ≠ c)) u [c] (Nat.le_add_right _ _)
  exact ⟨h1, h2, List.ne_nil_of_mem (h3 c (List.mem_singleton_self c)), fun hv => h4 hv
    (fun x hx => (List.mem_filter.mp hx).1)
    (fun x hx => by cases List.mem_singleton.1 hx; exact select_spec hv hs)⟩

/-- what `wait` guarantees of a result; only the last two fields need the oracle to pick ready cases -/
private structure WaitOk (e : Env) (o : Oracle) (set : List Nat) (settle t0 : Nat) (res : Result) : Prop where
  set_eq : res.set = set.filter (fun x => !res.returned.contains x)
  time_ge : t0 ≤ res.time
  err_of_empty : res.returned = [] → res.err = true
  within_settle : res.returned ≠ [] →
    ∃ u, wakeTime e set e.ctxAt t0 = some u ∧ u ≤ res.time ∧ res.time ≤ u + settle
  done_of_err : OracleValid o → res.err = true → doneBy e.ctxAt res.time = true
  closed : OracleValid o → ∀ c ∈ res.returned, c ∈ set ∧ e.closedBy c res.time = true

/-- one case per path through the code of `wait` -/
private theorem wait_spec {e : Env} {o : Oracle} {set : List Nat} {settle t0 : Nat} {res : Result}
    (h : wait e o set settle t0 = some res) : WaitOk e o set settle t0 res := by
  unfold wait at h
  by_cases hE : set.isEmpty = true
  · rw [if_pos hE] at h
    cases hc : e.ctxAt with
    | none => rw [hc] at h; cases h
    | some tc =>
      rw [hc] at h; cases h
      exact {
        set_eq := (List.filter_eq_self.2 fun _ _ => rfl).symm
        time_ge := Nat.le_max_right _ _
        err_of_empty := fun _ => rfl
        within_settle := (absurd rfl ·)
        done_of_err := fun _ _ => by rw [hc]; exact decide_eq_true (Nat.le_max_left _ _)
        closed := fun _ => nofun }
  · rw [if_neg hE] at h
    cases hs : select e o set e.ctxAt t0 with
    | none => rw [hs] at h; cases h
    | some up =>
      obtain ⟨u, p⟩ := up
      rw [hs] at h
      cases p with
      | done =>
        cases h
        exact {
          set_eq := (List.filter_eq_self.2 fun _ _ => rfl).symm
          time_ge := select_ge hs
          err_of_empty := fun _ => rfl
          within_settle := (absurd rfl ·)
          done_of_err := fun hv _ => select_spec hv hs
          closed := fun _ => nofun }
      | chan c =>
        dsimp only at h
        by_cases h0 : settle = 0
        · rw [if_pos h0] at h; cases h
          exact {
            set_eq := List.filter_congr fun x _ => by simp
            time_ge := select_ge hs
            err_of_empty := nofun
            within_settle := fun _ => ⟨u, (select_eq_some hs).1, Nat.le_refl _, Nat.le_add_right _ _⟩
            done_of_err := fun _ => nofun
            closed := fun hv x hx => by cases List.mem_singleton.1 hx; exact select_spec hv hs }
        · rw [if_neg h0] at h; cases h
          obtain ⟨h1, h2, h3, h4⟩ := settle_after_first settle hs
          exact {
            set_eq := rfl
            time_ge := Nat.le_trans (select_ge hs) h1
            err_of_empty := fun hempty => absurd hempty h3
            within_settle := fun _ => ⟨u, (select_eq_some hs).1, h1, h2⟩
            done_of_err := fun _ => id
            closed := h4 }

/-- **returned ⊆ added ∩ closed**, and the call does not return before it started -/
theorem C20_returned_members_closed (e : Env) (o : Oracle) (hv : OracleValid o) (set : List Nat) (settle t0 : Nat)
    (res : Result) (h : wait e o set settle t0 = some res) :
    t0 ≤ res.time ∧ ∀ c ∈ res.returned, c ∈ set ∧ e.closedBy c res.time = true :=
  ⟨(wait_spec h).time_ge, (wait_spec h).closed hv⟩

/-- **the set afterwards is the set minus exactly the returned channels** -/
theorem C20_set_minus_returned (e : Env) (o : Oracle) (set : List Nat) (settle t0 : Nat)
    (res : Result) (h : wait e o set settle t0 = some res) :
    res.set = set.filter (fun x => !res.returned.contains x) :=
  (wait_spec h).set_eq

/-- **no result without a closed member unless the context ended, and then the
    context's error is reported**; an error is reported only if the context ended -/
theorem C20_empty_result_only_with_ctx_error (e : Env) (o : Oracle) (hv : OracleValid o) (set : List Nat) (settle t0 : Nat)
    (res : Result) (h : wait e o set settle t0 = some res) :
    (res.returned = [] → res.err = true) ∧ (res.err = true → doneBy e.ctxAt res.time = true) :=
  ⟨(wait_spec h).err_of_empty, (wait_spec h).done_of_err hv⟩

/-! ## timing: "waiting at most the settle time to gather further ones" -/

/-- **waits at most the settle time**: if `Wait` gathers members, it returns no
    later than `settle` after the instant `u` of its first wake-up, and `u` is
    the first instant at or after the call at which a member is closed or the
    context has ended (`wakeTime`: the minimum of the ready instants ≥ t0) -/
theorem C20_returns_within_settle (e : Env) (o : Oracle) (set : List Nat) (settle t0 : Nat)
    (res : Result) (h : wait e o set settle t0 = some res) (hne : res.returned ≠ []) :
    ∃ u, wakeTime e set e.ctxAt t0 = some u ∧ u ≤ res.time ∧ res.time ≤ u + settle :=
  (wait_spec h).within_settle hne

/-- the first wake-up is at or after the call, at an instant with a ready case -/
theorem C20_first_wake_is_ready_instant (e : Env) (set : List Nat) (t0 u : Nat)
    (h : wakeTime e set e.ctxAt t0 = some u) :
    t0 ≤ u ∧ (doneBy e.ctxAt u = true ∨ set.any (e.closedBy · u) = true) :=
  have ⟨h1, h2, _⟩ := wakeTime_spec h
  ⟨h1, Bool.or_eq_true _ _ ▸ h2⟩

/-- … and it is the EARLIEST such instant: at no instant in `[t0, u)` is the context
    done or a member closed — `Wait` does not return a result while no member is closed -/
theorem C20_nothing_ready_before_first_wake (e : Env) (set : List Nat) (t0 u : Nat)
    (h : wakeTime e set e.ctxAt t0 = some u) (t' : Nat) (h0 : t0 ≤ t') (h1 : t' < u) :
    doneBy e.ctxAt t' = false ∧ set.any (e.closedBy · t') = false := by
  rw [← Bool.or_eq_false_iff]
  cases hr : doneBy e.ctxAt t' || set.any (e.closedBy · t') with
  | false => rfl
  | true => exact absurd ((wakeTime_spec h).2.2 t' h0 hr) (Nat.not_le.2 h1)

/-! ## non-vacuity: a concrete run (two members closing at 5 and 30, settle 50,
    a third member never closing) -/
example :
    let e : Env := { closeAt := fun c => if c = 1 then some 5 else if c = 2 then some 30 else none, ctxAt := none }
    wait e firstOracle [1, 2, 3] 50 0 = some { returned := [1, 2], err := false, time := 55, set := [3] } := by decide +kernel

example : OracleValid firstOracle → True := fun _ => trivial

/-- the structural facts about watchset.go that `Model.WatchSet` builds in — the context is select case
    0, the settle deadline, the loop and return conditions of `Wait`, the removal of exactly the returned
    channels, and that every method releases the set's mutex on every path — hold of the source as it
    is today (regenerated by `tools/extract` on every run) -/
theorem C20_source_facts : Gen.wsFacts = WS.expectedFacts := by decide

end Sdb
