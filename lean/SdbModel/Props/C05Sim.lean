import SdbModel.Lemmas.ConcSimLive

/-!
# C05 (simulation) — `Model.Conc` is simulated by `Model.Serial`, for every schedule

> Write transactions that share a table are serialised: from the moment WriteTxn
> returns until Commit or Abort no other transaction can write that table, and
> the transaction sees every write committed to it earlier.  No committed write
> is ever lost or overwritten by a stale state, also when transactions on
> disjoint tables commit concurrently or when tables are registered while
> transactions are open.

The theorems of C02 / C05 / C06 / C10 are about the abstract protocol
`Model.Serial`; the model compared step by step with the real goroutines is the
interleaving model `Model.Conc`, which interprets the protocol REGENERATED from
the source (`Gen.protocol`).  This file closes the gap between the two with a
proof instead of a run-time replay: for every protocol of the shape
`Protocol.simShape` (decided for `Gen.protocol`; insensitive to hooks and to the
bookkeeping actions), every state of `Model.Conc` reachable by spawning writers
on registered tables, registrations, rejected registrations and ANY sequence of
scheduler steps — any number of threads and tables, table lists in any order
with duplicates, initializer marks — is related by the abstraction relation
`Conc.R` to a `Serial.Reachable` state: same committed counters, same mutex
owners, thread `i` ↦ transaction `i` with `tabs = sortNat (dedup tables)` and a
phase matching the thread's program position.  Consequences are then stated on
`Model.Conc` itself: no lost update, mutual exclusion in terms of program
positions, exclusion of other writers while a table is held, commits are a
single instant, a fresh read is a committed state, and (C10 on this model, with
the root mutex) no deadlock: some unfinished thread is always enabled and every
scheduled step reduces the remaining work.  Proofs in
`Lemmas/ConcSim*.lean` work at the granularity of single micro steps, so they do
not depend on where the parks are nor on the fuel of `Conc.step`.
-/
namespace Sdb
open Conc

/-- the protocol read off db.go / write_txn.go / internal/sortable_mutex.go today
    has the shape the simulation is proved for -/
theorem C05_conc_protocol_shape : Gen.protocol.simShape = true := by decide

/-- the shape predicate ignores hooks and bookkeeping actions: adding, moving or
    removing them (harmless source edits) keeps the simulation applicable -/
example : ({ Gen.protocol with
    commit := .hook "extra" :: Gen.protocol.commit ++ [.hook "late"],
    writeTxn := [.dedupTables, .lockTables, .loadRoot, .hook "x", .cloneRoot, .hook "y", .cloneEntries],
    register := [.lockRoot, .loadCurrentRoot, .hook "z", .appendTable, .storeRoot, .unlockRoot] } : Protocol).simShape
    = true := by decide

/-- **simulation**: every reachable state of `Model.Conc` is `R`-related to a
    reachable state of `Model.Serial` whose transactions carry the commit flags
    the threads were spawned with -/
theorem C05_conc_simulation (P : Protocol) (hP : P.simShape = true) (n : Nat) (st : State) (cs : List Bool)
    (h : Reach P n st cs) :
    ∃ s, Serial.Reachable s ∧ R st s ∧ s.txns.map (·.commit) = cs :=
  reach_sim P hP n st cs h

/-- the same for the protocol generated from the current source -/
theorem C05_conc_simulation_generated (n : Nat) (st : State) (cs : List Bool) (h : Reach Gen.protocol n st cs) :
    ∃ s, Serial.Reachable s ∧ R st s ∧ s.txns.map (·.commit) = cs :=
  reach_sim _ C05_conc_protocol_shape n st cs h

/-- what `R` says, spelled out: committed counters agree, table-mutex owners agree
    (thread `i` is transaction `i`), every thread has a transaction over the
    sorted, de-duplicated list of the tables it requested with the commit flag it
    was spawned with, and the tables the transaction holds in its phase are exactly
    the mutexes the thread owns; the Serial state satisfies the invariant of
    `Lemmas/Serial.lean` (the full, position-by-position correspondence of the
    phases is `Conc.Local`) -/
theorem C05_conc_abstraction (P : Protocol) (hP : P.simShape = true) (n : Nat) (st : State) (cs : List Bool)
    (h : Reach P n st cs) :
    ∃ s, Serial.Reachable s ∧ Serial.Inv s ∧
      (∀ i, i < st.root.length → (getT st.root i).cnt = s.root i) ∧
      (∀ i, st.lockOwner.getD i none = s.owner i) ∧
      s.txns.length = st.threads.length ∧
      (∀ (tid : Nat) (th : Thread), st.threads[tid]? = some th →
        ∃ t : Serial.Txn, s.txns[tid]? = some t ∧ t.tabs = sortNat (dedup th.tables) ∧ Serial.Ascending t.tabs ∧
          cs[tid]? = some t.commit ∧ (∀ i, i ∈ Serial.held t ↔ st.lockOwner.getD i none = some tid)) := by
  obtain ⟨s, hs, hR, hcs⟩ := reach_sim P hP n st cs h
  refine ⟨s, hs, Serial.inv_reachable s hs, hR.root, hR.owner, hR.len, ?_⟩
  intro tid th hth
  have inv := Serial.inv_reachable s hs
  obtain ⟨t, ht, hT⟩ := hR.thr tid th hth
  refine ⟨t, ht, hT.tabs, by rw [hT.tabs]; exact (lockOrder_ascending th.tables).1, ?_, ?_⟩
  · rw [← hcs, List.getElem?_map, ht]; rfl
  · intro i
    rw [hR.owner i]
    exact (inv.owner_iff ht i).symm

/-- **no lost update in `Model.Conc`**: the committed counter of every table equals
    the number of committing writers on that table whose `storeRoot` has happened -/
theorem C05_conc_no_lost_update (P : Protocol) (hP : P.simShape = true) (n : Nat) (st : State) (cs : List Bool)
    (h : Reach P n st cs) (x : Nat) (hx : x < st.root.length) :
    (getT st.root x).cnt = committedWriters st cs x :=
  cnt_eq_committedWriters st cs (reach_sim P hP n st cs h) x hx

/-- **a fresh read is a committed state**: what `DB.ReadTxn` returns at any moment
    is, on every table, the sum over ONE set of writers — those past their
    `storeRoot`, a condition that does not depend on the table — so it contains
    all of a commit's tables or none of them -/
theorem C05_conc_read_is_committed_state (P : Protocol) (hP : P.simShape = true) (n : Nat) (st : State)
    (cs : List Bool) (h : Reach P n st cs) (x : Nat) (hx : x < (readTxn st).length) :
    (getT (readTxn st) x).cnt =
      (st.threads.zip cs).countP fun p =>
        (p.2 && !p.1.prog.contains (Micro.act .storeRoot)) && p.1.tables.contains x := by
  have := C05_conc_no_lost_update P hP n st cs h x hx
  unfold committedWriters at this
  rw [readTxn_eq, this]
  congr 1
  funext p
  cases p.2 <;> cases p.1.tables.contains x <;> simp

/-- **holding**: a thread between its acquire and its release of table `i` (it has
    `release i` ahead and no `acquire i` any more) owns the mutex of `i` -/
theorem C05_conc_between_owns (P : Protocol) (hP : P.simShape = true) (n : Nat) (st : State) (cs : List Bool)
    (h : Reach P n st cs) (tid : Nat) (th : Thread) (hth : st.threads[tid]? = some th) (i : Nat)
    (hrel : Micro.release i ∈ th.prog) (hacq : Micro.acquire i ∉ th.prog) :
    st.lockOwner.getD i none = some tid :=
  holds_of_between st cs (reach_sim P hP n st cs h) tid th hth i hrel hacq

/-- … and conversely the owner of the mutex of table `i` is a thread that is
    between its acquire and its release of `i`: `lockOwner` of `Model.Conc` is
    exactly "who is inside the critical region of the table" -/
theorem C05_conc_owner_is_between (P : Protocol) (hP : P.simShape = true) (n : Nat) (st : State) (cs : List Bool)
    (h : Reach P n st cs) (tid i : Nat) (ho : st.lockOwner.getD i none = some tid) :
    ∃ th, st.threads[tid]? = some th ∧ Micro.release i ∈ th.prog ∧ Micro.acquire i ∉ th.prog :=
  between_of_holds st cs (reach_sim P hP n st cs h) tid i ho

/-- **mutual exclusion** by program positions: two threads are never both between
    their acquire and their release of the same table -/
theorem C05_conc_table_mutex (P : Protocol) (hP : P.simShape = true) (n : Nat) (st : State) (cs : List Bool)
    (h : Reach P n st cs) (t1 t2 : Nat) (th1 th2 : Thread)
    (h1 : st.threads[t1]? = some th1) (h2 : st.threads[t2]? = some th2) (i : Nat)
    (r1 : Micro.release i ∈ th1.prog) (a1 : Micro.acquire i ∉ th1.prog)
    (r2 : Micro.release i ∈ th2.prog) (a2 : Micro.acquire i ∉ th2.prog) : t1 = t2 := by
  have o1 := C05_conc_between_owns P hP n st cs h t1 th1 h1 i r1 a1
  have o2 := C05_conc_between_owns P hP n st cs h t2 th2 h2 i r2 a2
  rw [o1] at o2; simpa using o2

/-- **only the holder writes a table**: while thread `tid0` is between its acquire
    and its release of table `i`, a scheduler step of ANY other thread leaves the
    committed version of table `i` (counter, revision, watch channels,
    initializer state) exactly as it is and leaves the mutex with `tid0` — so no
    other thread's `locked` / entries for `i` get into the root -/
theorem C05_conc_only_holder_writes (P : Protocol) (hP : P.simShape = true) (n : Nat) (st : State)
    (cs : List Bool) (h : Reach P n st cs) (tid0 : Nat) (th0 : Thread) (h0 : st.threads[tid0]? = some th0)
    (i : Nat) (hi : i < st.root.length) (hrel : Micro.release i ∈ th0.prog) (hacq : Micro.acquire i ∉ th0.prog)
    (tid : Nat) (hne : tid ≠ tid0) :
    getT (step st tid).1.root i = getT st.root i ∧ (step st tid).1.lockOwner.getD i none = some tid0 := by
  have hs := reach_sim P hP n st cs h
  have ho := holds_of_between st cs hs tid0 th0 h0 i hrel hacq
  have := holder_excludes_others st cs hs i tid0 tid hne ho hi
  exact ⟨this.2, this.1⟩

/-- **the writer sees every write committed earlier** and keeps working on the
    latest committed version: from `loadRoot` until its `storeRoot` (its writes,
    when it aborts) the root the writer loaded agrees with the committed root on
    every table it requested — no other commit to those tables happened meanwhile -/
theorem C05_conc_writer_sees_latest (P : Protocol) (hP : P.simShape = true) (n : Nat) (st : State)
    (cs : List Bool) (h : Reach P n st cs) (tid : Nat) (th : Thread) (hth : st.threads[tid]? = some th)
    (hld : Micro.act .loadRoot ∉ th.prog)
    (hw : Micro.act .storeRoot ∈ th.prog ∨ Micro.userWrites ∈ th.prog) (x : Nat) (hx : x ∈ th.tables) :
    x < th.oldRoot.length ∧ x < st.root.length ∧ (getT th.oldRoot x).cnt = (getT st.root x).cnt :=
  sees_latest st cs (reach_sim P hP n st cs h) tid th hth hld hw x hx

/-- **commit is a single instant** in `Model.Conc`: a scheduler step leaves the
    committed root unchanged, or advances ALL tables of the stepping writer by one
    write and touches no other table, or appends one new empty table -/
theorem C05_conc_commit_single_instant (P : Protocol) (hP : P.simShape = true) (n : Nat) (st : State)
    (cs : List Bool) (h : Reach P n st cs) (tid : Nat) :
    (step st tid).1.root = st.root ∨
    (∃ th, st.threads[tid]? = some th ∧ CommittedAll st.root (step st tid).1.root th.tables) ∨
    (∃ v : TableV, (step st tid).1.root = st.root ++ [v] ∧ v.cnt = 0) :=
  step_atomic st cs (reach_sim P hP n st cs h) tid

/-- the table-mutex array of `Model.Conc` has 64 entries in every reachable state:
    the side condition `x < st.lockOwner.length` of `Reach.writer` reads `x < 64` -/
theorem C05_conc_lock_table_size (P : Protocol) (n : Nat) (st : State) (cs : List Bool) (h : Reach P n st cs) :
    st.lockOwner.length = 64 := by
  induction h with
  | init => simp [initState]
  | writer st cs tabs commit mi ri _ _ ih => exact ih
  | register st cs _ ih => exact ih
  | registerDup st cs _ ih => exact ih
  | step st cs tid _ ih => rw [step_lockLen]; exact ih

/-- the fuel of `Conc.step` suffices: any fuel above the program length gives
    `runThread` the same result, so a run never stops for lack of fuel -/
theorem C05_conc_fuel_suffices (st : State) (tid : Nat) (th : Thread) (k : Nat) :
    runThread st tid th (th.prog.length + 2 + k) = runThread st tid th (th.prog.length + 2) :=
  runThread_fuel_irrelevant tid _ st th _ (by omega) (by omega)

/-! ## deadlock freedom of `Model.Conc` (C10 on the interleaving model) -/

/-- **no deadlock**: in every reachable state of `Model.Conc` — table mutexes AND
    the root mutex, any table lists, registrations — if some thread is unfinished
    then some unfinished thread is enabled -/
theorem C05_conc_no_deadlock (P : Protocol) (hP : P.simShape = true) (n : Nat) (st : State) (cs : List Bool)
    (h : Reach P n st cs)
    (hex : ∃ (tid : Nat) (th : Thread), st.threads[tid]? = some th ∧ th.done = false) :
    ∃ (tid : Nat) (th : Thread), st.threads[tid]? = some th ∧ th.done = false ∧ th.enabled st = true :=
  runnable_of_unfinished st cs (reach_sim P hP n st cs h) (reach_tidy P n st cs h) hex

/-- **progress**: a scheduler step of an enabled, unfinished thread strictly
    reduces the remaining work (remaining program steps of all threads) -/
theorem C05_conc_step_progress (st : State) (tid : Nat) (th : Thread) (hth : st.threads[tid]? = some th)
    (hd : th.done = false) (he : th.enabled st = true) : work (step st tid).1 < work st := by
  rw [step_eq st tid th hth hd he]
  have hdd : (dropPark th).done = false := by rw [dropPark_done]; exact hd
  have hthr := mstar_threads (runThread_mstar tid ((dropPark th).prog.length + 2) st (dropPark th) hdd)
  simp only at hthr
  unfold work
  simp only [install]
  rw [hthr]
  have h1 := LB.sum_map_set workT st.threads tid th
    (runThread st tid (dropPark th) ((dropPark th).prog.length + 2)).2.1 hth
  have h2 := run_work_lt st tid th hd he
  omega

/-- run a schedule (a list of thread ids) -/
def Conc.runSchedule (st : State) : List Nat → State
  | [] => st
  | tid :: rest => Conc.runSchedule (step st tid).1 rest

/-- **every transaction can be completed**: from every reachable state some finite
    schedule (of at most `work st` steps) leads to a state in which every thread —
    every write transaction, committing or aborting, and every registration — has
    finished -/
theorem C05_conc_can_always_finish (P : Protocol) (hP : P.simShape = true) (n : Nat) :
    ∀ (w : Nat) (st : State) (cs : List Bool), Reach P n st cs → work st ≤ w →
      ∃ sched : List Nat, sched.length ≤ w ∧ Reach P n (runSchedule st sched) cs ∧
        ∀ (tid : Nat) (th : Thread), (runSchedule st sched).threads[tid]? = some th → th.done = true := by
  intro w
  induction w with
  | zero =>
    intro st cs h hw
    refine ⟨[], Nat.le_refl _, h, ?_⟩
    intro tid th hth
    cases hd : th.done with
    | true => rfl
    | false =>
      exfalso
      obtain ⟨j, thj, hj, hdj, hej⟩ := C05_conc_no_deadlock P hP n st cs h ⟨tid, th, hth, hd⟩
      have := C05_conc_step_progress st j thj hj hdj hej
      omega
  | succ w ih =>
    intro st cs h hw
    by_cases hall : ∀ (tid : Nat) (th : Thread), st.threads[tid]? = some th → th.done = true
    · exact ⟨[], Nat.zero_le _, h, hall⟩
    · have hex : ∃ (tid : Nat) (th : Thread), st.threads[tid]? = some th ∧ th.done = false := by
        apply Classical.byContradiction
        intro hn
        apply hall
        intro tid th hth
        cases hd : th.done with
        | true => rfl
        | false => exact absurd ⟨tid, th, hth, hd⟩ hn
      obtain ⟨j, thj, hj, hdj, hej⟩ := C05_conc_no_deadlock P hP n st cs h hex
      have hlt := C05_conc_step_progress st j thj hj hdj hej
      obtain ⟨sched, hlen, hr, hdone⟩ := ih (step st j).1 cs (.step st cs j h) (by omega)
      exact ⟨j :: sched, by simp; omega, hr, hdone⟩

/-! ## non-vacuity: a writer on tables `[1, 0, 1]` (any order, duplicates) commits -/

private def stepsOf (st : State) (tid : Nat) : Nat → State
  | 0 => st
  | k + 1 => stepsOf (step st tid).1 tid k

private theorem reach_stepsOf (P : Protocol) (n : Nat) (tid : Nat) : ∀ (k : Nat) (st : State) (cs : List Bool),
    Reach P n st cs → Reach P n (stepsOf st tid k) cs
  | 0, _, _, h => h
  | k + 1, st, cs, h => reach_stepsOf P n tid k _ cs (.step st cs tid h)

example : ∃ st cs, Reach Gen.protocol 2 st cs ∧ (getT st.root 0).cnt = 1 ∧ (getT st.root 1).cnt = 1 ∧
    committedWriters st cs 0 = 1 := by
  refine ⟨stepsOf (spawnWriter Gen.protocol (initState 2) [1, 0, 1] true [] []) 0 10, [true],
    reach_stepsOf _ _ _ _ _ _ (.writer _ _ _ _ _ _ .init (by decide)), by decide, by decide, by decide⟩

/-- two writers; thread 0 (tables `[1, 0, 1]`) is between its acquire and its
    release of table 1 and has loaded the root, thread 1 (table `[1]`) waits: the
    hypotheses of `C05_conc_between_owns`, `C05_conc_only_holder_writes` and
    `C05_conc_writer_sees_latest` are satisfiable -/
example : ∃ st cs th0, Reach Gen.protocol 2 st cs ∧ st.threads[0]? = some th0 ∧ 1 < st.root.length ∧
    Micro.release 1 ∈ th0.prog ∧ Micro.acquire 1 ∉ th0.prog ∧ (1 : Nat) ≠ 0 ∧
    Micro.act .loadRoot ∉ th0.prog ∧ Micro.act .storeRoot ∈ th0.prog ∧ 1 ∈ th0.tables ∧ th0.done = false := by
  refine ⟨stepsOf (stepsOf (spawnWriter Gen.protocol (spawnWriter Gen.protocol (initState 2) [1, 0, 1] true [] [])
      [1] false [] []) 1 1) 0 7, [true, false], _,
    reach_stepsOf _ _ _ _ _ _ (reach_stepsOf _ _ _ _ _ _
      (.writer _ _ _ _ _ _ (.writer _ _ _ _ _ _ .init (by decide)) (by decide))),
    rfl, by decide, by decide, by decide, by decide, by decide, by decide, by decide, by decide⟩

end Sdb
