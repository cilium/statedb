import SdbModel.Lemmas.Serial
import SdbModel.Lemmas.LockOrder
import SdbModel.Generated.Protocol

/-!
# C10 — No deadlock; open writers block only transactions sharing a table

> WriteTxn on any set of tables - given in any order, with duplicates, from any
> number of goroutines - together with creating and closing change iterators,
> graveyard collection and table registration never deadlocks: every requested
> transaction is granted once the conflicting ones finish.  An open write
> transaction delays only transactions that share a table with it; transactions
> on other tables run to completion meanwhile, and readers never wait.

Theorems over `Model.Serial` for EVERY reachable state — any number of threads
and tables, any table sets, any interleaving.  Iterator close, graveyard
collection and `Changes` are write transactions on their tables (they call
`WriteTxn`), so they are threads of this model; `registerTable` and the commit
critical section only take the root mutex, which `C10_root_mutex_is_leaf` shows
is a leaf lock (nothing is acquired while it is held).
-/
namespace Sdb
open Serial

/-- a step of an existing thread (everything except a new transaction arriving) -/
def Serial.Progress (s : State) : Prop := ∃ s', Step s s' ∧ s'.txns.length = s.txns.length

private theorem ne_of_phase {t t' : Txn} (h : t'.phase ≠ t.phase) : t' ≠ t := fun e => h (e ▸ rfl)

/-- an unfinished transaction moves (keeping its tables), unless the next table of its list is held -/
private theorem moves_or_waits (s : State) (inv : Inv s) (i : Nat) (t : Txn) (hi : s.txns[i]? = some t)
    (hnd : t.phase ≠ .done) :
    (∃ s' t', Step s s' ∧ s'.txns = setTxn s.txns i t' ∧ t'.tabs = t.tabs ∧ t' ≠ t) ∨
    ∃ k tb, t.phase = .acquiring k ∧ t.tabs[k]? = some tb ∧ s.owner tb ≠ none := by
  cases hp : t.phase with
  | done => exact absurd hp hnd
  | loaded =>
    cases hc : t.commit
    · exact .inl ⟨_, _, Step.abort s i t hi hp hc, rfl, rfl, ne_of_phase (by rw [hp]; nofun)⟩
    · exact .inl ⟨_, _, Step.store s i t hi hp hc, rfl, rfl, ne_of_phase (by rw [hp]; nofun)⟩
  | stored =>
    cases htb : t.tabs[t.released]? with
    | some tb =>
      exact .inl ⟨_, _, Step.release s i t tb hi hp htb, rfl, rfl, fun e => Nat.succ_ne_self _ (congrArg Txn.released e)⟩
    | none =>
      have := inv.relBound i t hi
      rw [List.getElem?_eq_none_iff] at htb
      exact .inl ⟨_, _, Step.finish s i t hi hp (by omega), rfl, rfl, ne_of_phase (by rw [hp]; nofun)⟩
  | acquiring k =>
    cases htb : t.tabs[k]? with
    | some tb =>
      cases ho : s.owner tb with
      | none => exact .inl ⟨_, _, Step.acquire s i t k tb hi hp htb ho, rfl, rfl, ne_of_phase (by rw [hp]; simp)⟩
      | some j => exact .inr ⟨k, tb, rfl, htb, by rw [ho]; nofun⟩
    | none =>
      have := inv.bound i t k hi hp
      rw [List.getElem?_eq_none_iff] at htb
      have hk : k = t.tabs.length := by omega
      exact .inl ⟨_, _, Step.load s i t hi (hk ▸ hp), rfl, rfl, ne_of_phase (by rw [hp]; nofun)⟩

private theorem exists_bound (l : List Nat) : ∃ B, ∀ x ∈ l, x < B := by
  induction l with
  | nil => exact ⟨0, nofun⟩
  | cons a r ih =>
    obtain ⟨B, hB⟩ := ih
    refine ⟨B + a + 1, fun x hx => ?_⟩
    rcases List.mem_cons.1 hx with rfl | hx
    · omega
    · have := hB x hx; omega

/-- **deadlock freedom**: in every reachable state in which some transaction is
    not finished, some existing thread can take a step — for any number of
    threads, any table sets and any interleaving so far -/
theorem C10_no_deadlock (s : State) (hr : Reachable s) (i : Nat) (t : Txn)
    (hi : s.txns[i]? = some t) (hnd : t.phase ≠ .done) : Progress s := by
  have inv := inv_reachable s hr
  have moves : ∀ (j : Nat) (u : Txn), s.txns[j]? = some u → u.phase ≠ .done → Progress s ∨ ∃ k tb, u.phase = .acquiring k ∧
      u.tabs[k]? = some tb ∧ s.owner tb ≠ none := fun j u hj hu =>
    (moves_or_waits s inv j u hj hu).imp_left fun ⟨s', t', hst, htx, _⟩ => ⟨s', hst, by rw [htx]; simp [setTxn]⟩
  obtain ⟨B, hB⟩ := exists_bound (s.txns.flatMap (·.tabs))
  -- the holder of a held table moves, or waits for a larger held table
  have chain := wait_chain (Moves := Progress s) (fun tb => s.owner tb ≠ none) B fun tb hheld => by
    cases ho : s.owner tb with
    | none => exact absurd ho hheld
    | some j =>
      obtain ⟨u, hj, hm⟩ := inv.ownerHeld tb j ho
      refine (moves j u hj fun hd => by simp [held, hd] at hm).imp_right fun ⟨k, tb', hp, hk, ho'⟩ => ⟨tb', ?_, ?_, ho'⟩
      · simp only [held, hp] at hm
        exact ascending_take_lt u.tabs (inv.asc j u hj) k tb' hk tb hm
      · exact hB tb' (List.mem_flatMap.2 ⟨u, List.mem_of_getElem? hj, List.mem_of_getElem? hk⟩)
  rcases moves i t hi hnd with h | ⟨_, tb, _, _, ho⟩
  · exact h
  · exact chain tb ho

/-- **only sharers delay**: a transaction that cannot take its next table is
    delayed by ANOTHER, still open transaction that has that very table in its set -/
theorem C10_delayed_only_by_sharer (s : State) (hr : Reachable s) (i : Nat) (t : Txn) (k tb : Nat)
    (hi : s.txns[i]? = some t) (hp : t.phase = .acquiring k) (hk : t.tabs[k]? = some tb)
    (hblocked : s.owner tb ≠ none) :
    ∃ (j : Nat) (u : Txn), j ≠ i ∧ s.txns[j]? = some u ∧ tb ∈ u.tabs ∧ tb ∈ t.tabs ∧ u.phase ≠ .done := by
  have inv := inv_reachable s hr
  cases ho : s.owner tb with
  | none => exact absurd ho hblocked
  | some j =>
    obtain ⟨u, hj, hheld⟩ := inv.ownerHeld tb j ho
    refine ⟨j, u, ?_, hj, ?_, List.mem_of_getElem? hk, ?_⟩
    · intro hji
      subst hji
      rw [hi] at hj
      simp only [Option.some.injEq] at hj
      subst hj
      simp only [held, hp] at hheld
      have := ascending_take_lt t.tabs (inv.asc j t hi) k tb hk tb hheld
      omega
    · unfold held at hheld
      split at hheld
      · exact List.mem_of_mem_take hheld
      · exact hheld
      · exact List.mem_of_mem_drop hheld
      · simp at hheld
    · intro hd; simp [held, hd] at hheld

/-- **transactions on other tables run to completion meanwhile**, one step at a time: an unfinished
    transaction none of whose tables is held by anybody else can take its next step now (the step after
    that needs the hypothesis again in the new state) -/
theorem C10_disjoint_never_blocked (s : State) (hr : Reachable s) (i : Nat) (t : Txn)
    (hi : s.txns[i]? = some t) (hnd : t.phase ≠ .done)
    (hfree : ∀ x ∈ t.tabs, s.owner x = none ∨ s.owner x = some i) :
    ∃ s', Step s s' ∧ s'.txns.length = s.txns.length ∧ ∃ t', s'.txns[i]? = some t' ∧ t'.tabs = t.tabs ∧ t' ≠ t := by
  have inv := inv_reachable s hr
  rcases moves_or_waits s inv i t hi hnd with ⟨s', t', hst, htx, htabs, hne⟩ | ⟨k, tb, hp, hk, ho⟩
  · exact ⟨s', hst, by rw [htx]; simp [setTxn], t', by rw [htx, getElem?_setTxn _ _ _ _ ⟨t, hi⟩, if_pos rfl], htabs, hne⟩
  · -- the table it waits for would be held by itself, but it only holds smaller ones
    exfalso
    rcases hfree tb (List.mem_of_getElem? hk) with h | h
    · exact ho h
    · obtain ⟨u, hu, hheld⟩ := inv.ownerHeld tb i h
      rw [hi] at hu; cases hu
      simp only [held, hp] at hheld
      exact Nat.lt_irrefl _ (ascending_take_lt t.tabs (inv.asc i t hi) k tb hk tb hheld)

/-- the facts about the code this rests on: table mutexes are sorted by a global
    sequence number and taken in that order; the root mutex is a leaf (no table
    mutex and no second root lock is requested while it is held; WriteTxn does
    not touch it); readers take no lock at all -/
def Conc.Protocol.rootMutexLeaf (P : Conc.Protocol) : Bool :=
  P.lockSortsBySeq && P.lockInOrder && P.readIsSingleLoad &&
  !P.writeTxn.contains .lockRoot && !P.commit.contains .lockTables && !P.abort.contains .lockTables &&
  !P.abort.contains .lockRoot && !P.register.contains .lockTables &&
  decide ((P.commit.filter (· == .lockRoot)).length = 1) && decide ((P.register.filter (· == .lockRoot)).length = 1) &&
  decide ((P.writeTxn.filter (· == .lockTables)).length = 1) &&
  decide (Conc.idx P.commit .lockRoot < Conc.idx P.commit .unlockRoot) &&
  decide (Conc.idx P.register .lockRoot < Conc.idx P.register .unlockRoot) &&
  -- nothing that can block sits inside the root critical sections
  ((P.commit.drop (Conc.idx P.commit .lockRoot + 1)).take (Conc.idx P.commit .unlockRoot - Conc.idx P.commit .lockRoot - 1)).all
    (fun a => match a with | .hook _ | .loadCurrentRoot | .mergeUnlocked | .collectInit | .storeRoot => true | _ => false) &&
  ((P.register.drop (Conc.idx P.register .lockRoot + 1)).take (Conc.idx P.register .unlockRoot - Conc.idx P.register .lockRoot - 1)).all
    (fun a => match a with | .hook _ | .loadCurrentRoot | .appendTable | .storeRoot => true | _ => false)

theorem C10_root_mutex_is_leaf : Gen.protocol.rootMutexLeaf = true := by decide

theorem C10_protocol_order_facts : Gen.protocol.serialWF = true := by decide

/-- **any order, with duplicates**: the order in which a writer of `Model.Conc`
    (de-duplicate, then sort by mutex sequence number — the two steps the
    extractor found in `WriteTxn` / `SortableMutexes.Lock`) takes its table locks is
    strictly ascending and covers exactly the requested tables, whatever list the
    caller passed; so every such writer is a legal thread of `Model.Serial` -/
theorem C10_any_request_order_is_ascending (tabs : List Nat) :
    Ascending (Conc.sortNat (Conc.dedup tabs)) ∧ (∀ y, y ∈ Conc.sortNat (Conc.dedup tabs) ↔ y ∈ tabs) ∧
    (∀ s : State, Step s { s with txns := s.txns ++ [{ tabs := Conc.sortNat (Conc.dedup tabs) }] }) := by
  obtain ⟨h1, h2⟩ := Conc.lockOrder_ascending tabs
  exact ⟨h1, h2, fun s => Step.spawn s { tabs := Conc.sortNat (Conc.dedup tabs) } h1 rfl rfl⟩

/-! ## non-vacuity: a reachable state with an unfinished transaction that holds a table -/
example : ∃ s, Reachable s ∧ ∃ (i : Nat) (t : Txn), s.txns[i]? = some t ∧ t.phase ≠ .done ∧ s.owner 0 = some 0 := by
  let t : Txn := { tabs := [0] }
  have s0 : Reachable ({} : State) := .init
  have s1 := Reachable.step _ _ s0 (Step.spawn {} t (by trivial) rfl rfl)
  have s2 := Reachable.step _ _ s1 (Step.acquire _ 0 t 0 0 (by rfl) rfl (by rfl) (by rfl))
  exact ⟨_, s2, 0, _, by rfl, by simp, by simp⟩

end Sdb
