import SdbModel.Props.C06Glue
/-!
# C06 glue, retained snapshots — the channel of ANY earlier snapshot closes with the first change

`C06_glue_changed_result_closes_channel` (Props/C06Glue.lean) speaks about a query made on
the committed state directly before the committing transaction.  A reader may hold a
snapshot and its channel over many later transactions.  Here: for a query made on ANY
reachable committed state `(t0, c0)` and any later state `(t, c)` reached by committed /
aborted write transactions, the channel handed out at `(t0, c0)` is closed, or it is still
the channel the same query is given now AND the query's result is still the snapshot's
(`C06_glue_retained_snapshot_invariant`).  Hence: as soon as the result differs from the
snapshot's, the channel is closed (`C06_glue_retained_snapshot_channel_closed`) — no missed
change for any snapshot, any number of transactions later.

Built on the keep-or-close lemmas (Lemmas/TableWatchIdx.lean: the C12 frame lemmas lifted
to Commit + Notify) and the glue theorem.
-/
namespace Sdb
open Sdb.Art Sdb.Tbl Sdb.ArtW Sdb.TW

namespace TW

/-- `(t, c)` is reached from `(t0, c0)` by committed / aborted write transactions (and frame steps) -/
inductive Hist (t0 : TableS) (c0 : CTab) : TableS → CTab → Prop where
  | refl : Hist t0 c0 t0 c0
  | commit (t : TableS) (c : CTab) (ops : List TOp) : Hist t0 c0 t c →
      Hist t0 c0 (runT c (beginT t c) ops).1 (c.commit (runT c (beginT t c) ops).2)
  | abort (t : TableS) (c : CTab) (ops : List TOp) : Hist t0 c0 t c →
      Hist t0 c0 t (c.abort (runT c (beginT t c) ops).2)
  | frame (t t' : TableS) (c : CTab) : Hist t0 c0 t c → (∀ i, imap t' i = imap t i) → t'.lpm = t.lpm →
      t'.ulpm = t.ulpm → Hist t0 c0 t' c

theorem Hist.reach {t0 t : TableS} {c0 c : CTab} (h0 : Reach t0 c0) (h : Hist t0 c0 t c) : Reach t c := by
  induction h with
  | refl => exact h0
  | commit t c ops _ ih => exact Reach.commit t c ops ih
  | abort t c ops _ ih => exact Reach.abort t c ops ih
  | frame t t' c _ hi hl hu ih => exact Reach.frame t t' c ih hi hl hu

theorem chan_keep_or_close (t : TableS) (c : CTab) (h : Reach t c) (ops : List TOp) (ix : Idx) (kind : QKind)
    (key : Key) (hrev : ix ≠ .rev) :
    (c.commit (runT c (beginT t c) ops).2).isClosed (c.view.chan ix kind key).1 (c.view.chan ix kind key).2 = true ∨
    (c.commit (runT c (beginT t c) ops).2).view.chan ix kind key = c.view.chan ix kind key := by
  have hinv := h.inv
  have ht := (hinv.run ops).1
  rcases idx_cases ix hrev with ⟨i, hi⟩ | rfl | rfl
  · rw [chan_part _ hi, chan_part _ hi, isClosed_part, view_part, view_part, c.commit_part _ ht.locked i]
    rcases CIdx.keep_or_close (hinv.part i) (ht.idx i) (ht.tree i) i.unique kind key with h | h
    · exact Or.inl (List.contains_iff_mem.mpr h)
    · exact Or.inr (by rw [h])
  · rw [c.commit_locked ht.locked]
    rcases c.lpm.keep_or_close (runT c (beginT t c) ops).2.lpm with h | h
    · exact Or.inl (List.contains_iff_mem.mpr h)
    · exact Or.inr (congrArg (Prod.mk 3) h)
  · rw [c.commit_locked ht.locked]
    rcases c.ulpm.keep_or_close (runT c (beginT t c) ops).2.ulpm with h | h
    · exact Or.inl (List.contains_iff_mem.mpr h)
    · exact Or.inr (congrArg (Prod.mk 4) h)

theorem qRes_congr (t t' : TableS) (hi : ∀ i, imap t' i = imap t i) (hl : t'.lpm = t.lpm) (hu : t'.ulpm = t.ulpm)
    (ix : Idx) (kind : QKind) (key : Key) (plen : Nat) (hrev : ix ≠ .rev) (hall : kind = .all → ix = .id) :
    qRes t' ix kind key plen = qRes t ix kind key plen := by
  rcases idx_cases ix hrev with ⟨i, hix⟩ | hix
  · rw [qRes_part hix _ _ _ _ hall, qRes_part hix _ _ _ _ hall, hi i]
  · exact qRes_lpm_congr _ _ hix _ _ _ hall (fun _ => hl) (fun _ => hu)

end TW

/-- **retained snapshots**: a query `(ix, kind, key, plen)` made on any reachable committed state
    `(t0, c0)`; `(t, c)` any state reached from it by committed / aborted write transactions.  Then the
    channel handed out at `(t0, c0)` is closed in `c`, or it is still the channel the query is given in
    `c` and the query's result is still the snapshot's.  As in the glue theorem: not for a query through the
    revision index (`hrev`), `All` on the primary index only (`hall`). -/
theorem C06_glue_retained_snapshot_invariant (t0 t : TableS) (c0 c : CTab) (h0 : TW.Reach t0 c0)
    (h : TW.Hist t0 c0 t c) (ix : Idx) (kind : QKind) (key : Key) (plen : Nat) (hrev : ix ≠ .rev)
    (hall : kind = .all → ix = .id) :
    c.isClosed (c0.view.chan ix kind key).1 (c0.view.chan ix kind key).2 = true ∨
    (c.view.chan ix kind key = c0.view.chan ix kind key ∧ qRes t ix kind key plen = qRes t0 ix kind key plen) := by
  induction h with
  | refl => exact Or.inr ⟨rfl, rfl⟩
  | commit t c ops hh ih =>
    have hr := hh.reach h0
    rcases ih with hcl | ⟨hch, hres⟩
    · exact Or.inl (C06_glue_commit_keeps_closed c _ _ _ hcl)
    · by_cases hq : qRes (runT c (beginT t c) ops).1 ix kind key plen = qRes t ix kind key plen
      · rcases chan_keep_or_close t c hr ops ix kind key hrev with hk | hk
        · left; rw [← hch]; exact hk
        · right; exact ⟨hk.trans hch, hq.trans hres⟩
      · left
        have := C06_glue_changed_result_closes_channel t c hr ops ix kind key plen hrev hall hq
        rw [← hch]; exact this
  | abort t c ops _ ih =>
    rcases ih with hcl | ⟨hch, hres⟩
    · left; rw [C06_glue_abort_closes_nothing]; exact hcl
    · right; exact ⟨by rw [CTab.abort_view]; exact hch, hres⟩
  | frame t t' c _ hi hl hu ih =>
    rcases ih with hcl | ⟨hch, hres⟩
    · exact Or.inl hcl
    · right; exact ⟨hch, (qRes_congr t t' hi hl hu ix kind key plen hrev hall).trans hres⟩

/-- **no missed change for any snapshot**: whenever, any number of committed / aborted transactions
    later, the query's result differs from the result on the snapshot the channel came from, the channel
    is closed (same queries: `hrev`, `hall`) -/
theorem C06_glue_retained_snapshot_channel_closed (t0 t : TableS) (c0 c : CTab) (h0 : TW.Reach t0 c0)
    (h : TW.Hist t0 c0 t c) (ix : Idx) (kind : QKind) (key : Key) (plen : Nat) (hrev : ix ≠ .rev)
    (hall : kind = .all → ix = .id) (hres : qRes t ix kind key plen ≠ qRes t0 ix kind key plen) :
    c.isClosed (c0.view.chan ix kind key).1 (c0.view.chan ix kind key).2 = true := by
  rcases C06_glue_retained_snapshot_invariant t0 t c0 c h0 h ix kind key plen hrev hall with hcl | ⟨_, he⟩
  · exact hcl
  · exact absurd he hres

/-! ## non-vacuity: a snapshot retained over two transactions -/

namespace TW
/-- base state: objects 0x0102, 0x0104, 0x0500 (an inner node for the stem 0x01 below the root) -/
def exBaseOps : List TOp :=
  [.modify 0 exO1 false, .modify 0 { exO2 with id := [1, 4] } false, .modify 0 { exO2 with id := [5, 0] } false]
def exTB : TableS := (runT exC0 (beginT exT0 exC0) exBaseOps).1
def exCB : CTab := exC0.commit (runT exC0 (beginT exT0 exC0) exBaseOps).2
theorem exReachB : Reach exTB exCB := Reach.commit exT0 exC0 _ (Reach.init true)
end TW

-- a snapshot of exTB/exCB holds the channel of Prefix(0x01) through the primary index.  Transaction A updates
-- 0x0500 (result unchanged: channel stays open), transaction B (DeleteAll) is aborted, transaction C inserts
-- 0x0103: the result differs from the snapshot's and the channel is closed
example :
    let sA := runT exCB (beginT exTB exCB) [.modify 0 { exO2 with id := [5, 0], val := 99 } false]
    let cA := exCB.commit sA.2
    let cB := cA.abort (runT cA (beginT sA.1 cA) [.deleteAll]).2
    let sC := runT cB (beginT sA.1 cB) [.modify 0 exO2 false]
    let cC := cB.commit sC.2
    qRes sA.1 .id .prefix [1] 0 = qRes exTB .id .prefix [1] 0 ∧
    cB.isClosed (exCB.view.chan .id .prefix [1]).1 (exCB.view.chan .id .prefix [1]).2 = false ∧
    qRes sC.1 .id .prefix [1] 0 ≠ qRes exTB .id .prefix [1] 0 ∧
    cC.isClosed (exCB.view.chan .id .prefix [1]).1 (exCB.view.chan .id .prefix [1]).2 = true := by decide

example : TW.Hist exTB exCB
    (runT exCB (beginT exTB exCB) [.modify 0 exO2 false]).1
    (exCB.commit (runT exCB (beginT exTB exCB) [.modify 0 exO2 false]).2) :=
  TW.Hist.commit _ _ _ TW.Hist.refl

end Sdb
