import SdbModel.Lemmas.ReconcilerRetries
import SdbModel.Generated.RecParams

/-!
# C15 — Reconciler status write-back never misreports or clobbers

> The reconciler marks an object Done or Error only for the version it
> actually passed to Update: if the object was changed or deleted while the
> operation ran, the stale result is dropped, the newer version is neither
> overwritten nor lost nor a deleted object re-created (…).  Its writes change
> nothing but the status of the object (…).

Decision logic of `commitStatus` stated outright over `Model.Reconciler`
(`R.commitOne` is one iteration of its loop).
-/
namespace Sdb
open Rec

/-- a status is written only for the version that was reconciled: either the
    object still has the revision it was read at, or only its status changed and
    it still carries the same pending id -/
theorem C15_status_only_for_reconciled_version (r : R) (res : RObj × RObj × Nat × Nat × Bool)
    (hchg : (r.commitOne res).objs ≠ r.objs) :
    ∃ cur, r.get res.1.id = some cur ∧
      (cur.rev = res.2.2.1 ∨ (cur.kind = .pending ∧ cur.sid = res.2.2.2.1)) := by
  rcases commitOne_cases r res with ⟨e, _⟩ | ⟨cur, hg, hrev, _⟩ | ⟨cur, hg, _, hk, hs, _⟩
  · exact absurd (congrArg R.objs e) hchg
  · exact ⟨cur, hg, Or.inl hrev⟩
  · exact ⟨cur, hg, Or.inr ⟨hk, hs⟩⟩

/-- a stale result (object changed: other revision, and not merely its status)
    is dropped: the table is untouched -/
theorem C15_stale_result_dropped (r : R) (obj orig : RObj) (rev sid : Nat) (failed : Bool) (cur : RObj)
    (hcur : r.get obj.id = some cur) (hrev : cur.rev ≠ rev)
    (hst : ¬ (cur.kind = .pending ∧ cur.sid = sid)) :
    (r.commitOne (obj, orig, rev, sid, failed)).objs = r.objs ∧
    (r.commitOne (obj, orig, rev, sid, failed)).tableRev = r.tableRev := by
  rcases commitOne_cases r (obj, orig, rev, sid, failed) with ⟨e, _⟩ | ⟨c, hg, h1, _⟩ | ⟨c, hg, _, h2, h3, _⟩
  · rw [e]; exact ⟨rfl, rfl⟩
  · exact absurd (Option.some.inj (hg.symm.trans hcur) ▸ h1) hrev
  · exact absurd (Option.some.inj (hg.symm.trans hcur) ▸ ⟨h2, h3⟩) hst

/-- a deleted object is never re-created by a status write -/
theorem C15_deleted_not_recreated (r : R) (res : RObj × RObj × Nat × Nat × Bool)
    (hdel : r.get res.1.id = none) : (r.commitOne res) = r := by
  rcases commitOne_cases r res with ⟨e, _⟩ | ⟨_, hg, _⟩ | ⟨_, hg, _⟩
  · exact e
  · exact nomatch hg.symm.trans hdel
  · exact nomatch hg.symm.trans hdel

private theorem get_writeStatus_other (r : R) (base orig : RObj) (rev : Nat) (failed : Bool) (id : Nat) (h : id ≠ base.id) :
    (r.writeStatus base orig rev failed).get id = r.get id := by
  cases failed <;> exact get_setObj_ne r _ id h

/-- a status write never touches another object -/
theorem C15_other_objects_untouched (r : R) (res : RObj × RObj × Nat × Nat × Bool) (id : Nat)
    (h : id ≠ res.1.id) : (r.commitOne res).get id = r.get id := by
  rcases commitOne_cases r res with ⟨e, _⟩ | ⟨_, _, _, e⟩ | ⟨cur, hg, _, _, _, e⟩ <;> rw [e]
  · exact get_writeStatus_other r _ _ _ _ id h
  · have hid : cur.id = res.1.id := by simpa using List.find?_some hg
    exact get_writeStatus_other r _ _ _ _ id (hid ▸ h)

/-- through the "only the status changed" path the write keeps every field of
    the CURRENT object except the status (so a foreign writer's change survives) -/
theorem C15_fallback_keeps_current_fields (r : R) (obj orig : RObj) (rev sid : Nat) (cur : RObj)
    (hcur : r.get obj.id = some cur) (hrev : cur.rev ≠ rev) (hst : cur.kind = .pending ∧ cur.sid = sid) :
    ∃ o', (r.commitOne (obj, orig, rev, sid, false)).get obj.id = some o' ∧
      o'.data = cur.data ∧ o'.other = cur.other ∧ o'.id = cur.id ∧ o'.kind = .done := by
  have hid : cur.id = obj.id := by simpa using List.find?_some hcur
  rw [commitOne_eq]
  simp only [hcur, hrev, hst, and_self, if_true, if_false]
  rw [writeStatus_done, ← hid]
  exact ⟨_, get_setObj_eq r { cur with kind := .done, sid := r.nextSid }, rfl, rfl, rfl, rfl⟩

/-! ## non-vacuity -/
example :
    let r : R := ({} : R).userPut 1 5
    (r.commitOne ((r.get 1).get!, (r.get 1).get!, 1, 1, false)).objs.map (·.kind) = [.done] := by decide

/-- the structural facts about reconciler/incremental.go and reconciler/retries.go that the model
    builds in — the conditions under which `commitStatus` writes a status and queues a retry (`R.commitOne`) — hold of the source as it is today (regenerated by `tools/extract` on every run) -/
theorem C15_source_facts : Gen.recFacts = Rec.expectedFacts := by decide

end Sdb
