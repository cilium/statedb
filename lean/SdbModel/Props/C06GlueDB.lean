import SdbModel.Props.C06GlueHist
import SdbModel.Lemmas.TableWatchDB
/-!
# C06 glue, database level — the per-table theorems apply to every state of the table-suite driver

The table-suite driver keeps Model.Table's database and Model.TableWatch's database
side by side (`Driver/TableSuite.lean`: `stepCore` for Model.Table, `twStep` for
Model.TableWatch) and routes every operation to the table concerned.  `TW.PDB.step`
(Lemmas/TableWatchDB.lean) is that product step for `wtxn`, every write operation and
query through the open transaction, `commit`, `abort` and `side` (a second write
transaction on a table the open one does not hold, computed exactly as the driver does
on Model.Table's database); every other driver operation is taken to change
Model.Table's database only in fields the index trees do not depend on (`TW.DBCore`: change
iterators, trackers, initializers, collector; a hypothesis of `TW.PReach.frame`, as `PDB.step`
is a transcription of the driver and not its code).  In every product state reachable from the fresh
database both tables are `TW.Reach` pairs, and an open transaction holds for every
table it locks exactly the product run `runT` of the operations made on it — so
`C06_glue_refinement`, `C06_glue_changed_result_closes_channel`,
`C06_glue_retained_snapshot_channel_closed`, … speak about the states the
differential run compares with statedb.
-/
namespace Sdb
open Sdb.Art Sdb.Tbl Sdb.ArtW Sdb.TW

/-- the invariant of the product database holds in every reachable product state -/
theorem C06_glue_db_invariant_reachable (p : PDB) (h : PReach p) : PInv p := h.inv

/-- **both tables of every reachable product state are reachable pairs** (table 0 = "m": all indexes,
    table 1 = "a": primary + non-unique) -/
theorem C06_glue_db_tables_reachable (p : PDB) (h : PReach p) (i : Nat) (hi : i < 2) :
    TW.Reach (p.db.root.getD i default) (p.tw.tab i) := h.inv.reach i hi

/-- … hence, for instance, every part-index tree of every table of every reachable product state holds
    exactly the entries of Model.Table's index map -/
theorem C06_glue_db_refinement (p : PDB) (h : PReach p) (i : Nat) (hi : i < 2) (j : PIx) :
    allRoot ((p.tw.tab i).part.get j).tree.root = (imap (p.db.root.getD i default) j).map (fun e => (e.1, e.2.rev)) :=
  (C06_glue_refinement _ _ (C06_glue_db_tables_reachable p h i hi) j).1

/-- The glue theorem on table 0 of a reachable product state, for the transaction a `side` step runs on it (a
    second writer: begin, one Insert of `o`, commit): the commit closes the channel of every query whose result
    the Insert changes.  The statement is about `runT` / `CTab.commit` on that pair of tables, not about
    `PDB.step p (.side 0 o)`; table 1 is not stated; `hrev`, `hall` as in the glue theorem. -/
theorem C06_glue_db_side_closes_channel (p : PDB) (h : PReach p) (o : Obj) (ix : Idx) (kind : QKind) (key : Key)
    (plen : Nat) (hrev : ix ≠ .rev) (hall : kind = .all → ix = .id) :
    let t := p.db.root.getD 0 default
    let c := p.tw.tab 0
    qRes (runT c (beginT t c) [.modify 0 o false]).1 ix kind key plen ≠ qRes t ix kind key plen →
    (c.commit (runT c (beginT t c) [.modify 0 o false]).2).isClosed (c.view.chan ix kind key).1
      (c.view.chan ix kind key).2 = true := by
  intro t c hres
  exact C06_glue_changed_result_closes_channel t c (C06_glue_db_tables_reachable p h 0 (by omega)) _ ix kind key plen
    hrev hall hres

/-! ## non-vacuity: a run of the product database -/

example : PReach (((({ db := Tbl.newDB, tw := {} } : PDB).step (.beginW true false)).step
    (.op 0 (.modify 0 exO1 false))).step .commit) :=
  PReach.step _ _ (PReach.step _ _ (PReach.step _ _ PReach.init))

example :
    let p := ((((({ db := Tbl.newDB, tw := {} } : PDB).step (.beginW true false)).step
      (.op 0 (.modify 0 exO1 false))).step .commit).step (.beginW false true)).step (.side 0 exO2)
    (p.db.root.getD 0 default).primary.length = 2 ∧ p.db.wtxn.isSome = true := by decide

end Sdb
