import SdbModel.Lemmas.TableWatchTable
import SdbModel.Props.C06
import SdbModel.Props.C12
/-!
# C06 glue — table queries hand out the index tree's channel, table commits notify the index trees

> A watch channel returned by a query is closed no later than the return of the
> Commit that changes that query's result (…; for table-wide watches, any change
> to the table).  It is never closed by an aborted transaction, is not already
> closed when handed out by a fresh snapshot query …

`Props/C06.lean` proves the ordering half over `Model.Serial` and "a changed result
is a changed key" over the index maps of `Model.Table`; `Props/C12.lean` proves that
the radix tree closes the channel of every changed key / prefix.  This file proves
the glue between them over `Model.TableWatch` (the model of table.go /
write_txn.go / part_index.go / lpm_index.go that the table suite runs against the
implementation, channel identities and closed sets compared):

* (i) refinement: in every reachable state, and at every point inside a write
  transaction, each part-index tree holds exactly the entries of the corresponding
  index map of Model.Table (`C06_glue_refinement`, `C06_glue_refinement_in_txn`);
* (ii) the glue theorem: for every committed write transaction (any list of table
  operations: Insert / Modify / CompareAndSwap / Delete / CompareAndDelete / DeleteAll
  and queries made through the transaction) and every watch query on the state before
  it: if the query's result as specified by Model.Table differs after the commit, the
  channel handed out for the query is closed by that commit
  (`C06_glue_changed_result_closes_channel`), for Get / List / Prefix / LowerBound
  through the primary, unique, non-unique and both LPM indexes, and All on the primary
  index.  Queries through the revision index are excluded from every theorem here that
  names an index (`ix ≠ .rev`): Model.TableWatch has no revision index and `View.chan`
  gives such a query the nil channel;
* (iii) an aborted transaction closes nothing; a channel handed out on a committed
  state is a real channel and open; a commit never re-opens a channel.

`Reach` (Lemmas/TableWatchTable.lean): the states of one table reachable by
committed / aborted write transactions.  The two-table database with `side`
transactions of the driver only routes these steps to the table concerned.
-/
namespace Sdb
open Sdb.Art Sdb.Tbl Sdb.ArtW Sdb.TW

namespace TW

/-- the result of a table query as specified by Model.Table -/
def qRes (t : TableS) (ix : Idx) (k : QKind) (key : Key) (plen : Nat) : List Obj :=
  match k with
  | .get => (qGet t ix key plen).toList
  | .list => qList t ix key plen
  | .prefix => qPrefix t ix key plen
  | .lb => qLowerBound t ix key plen
  | .all => qAll t

/-- a query through a unique part index, on the index map -/
def uniqRes (m : OMap Obj) (k : QKind) (key : Key) : List Obj :=
  match k with
  | .get | .list => (OMap.get m key).toList
  | .prefix => (OMap.prefixQ m key).map (·.2)
  | .lb => (OMap.lowerBound m key).map (·.2)
  | .all => m.map (·.2)

/-- a query through the non-unique index, on the index map (Model.Table's `qGet` … for `Idx.tags`) -/
def tagRes (m : OMap Obj) (k : QKind) (key : Key) : List Obj :=
  let sk := P.enc key
  match k with
  | .get => (((OMap.prefixQ m sk).find? fun (k, _) => nukSecLen k == (sk.length : Int)).map (·.2)).toList
  | .list => ((OMap.prefixQ m sk).filter fun (k, _) => nukSecLen k == (sk.length : Int)).map (·.2)
  | .prefix => dedupPrimary ((OMap.prefixQ m sk).filter fun (k, _) => decide (nukSecLen k ≥ (sk.length : Int)))
  | .lb => dedupPrimary ((OMap.lowerBound m sk).filter fun (k, _) => cmpL (nukEncodedSecondary k) sk != .lt)
  | .all => m.map (·.2)

/-- the result of a query through a part index (`unique`: `partIndex.unique`) as a function of its index map -/
def partRes : Bool → OMap Obj → QKind → Key → List Obj
  | true => uniqRes
  | false => tagRes

/-- the channel of a query through a part index is closed when the query's result changes: the result is a
    function of the entry of the key (unique Get / List: `Get` channel), of the entries under a prefix (Prefix,
    non-unique Get / List: `Prefix` channel) or of the map (LowerBound, All: root watch) -/
theorem part_closed {c : CIdx} {m0 m : OMap Obj} {w : WIdx} (h : CInv c m0) (ht : Track c.wd w m0 m)
    (hw : w.tree = c.tree) (u : Bool) (k : QKind) (key : Key) (hres : partRes u m k key ≠ partRes u m0 k key) :
    partChan u (Tree.view c.tree) k key ∈ (c.commit w).wd.closed := by
  have viaGet := commit_closes_get h ht hw
  have viaPrefix : ∀ q, OMap.prefixQ m q ≠ OMap.prefixQ m0 q →
      (prefixRoot c.tree.root c.tree.rootWatch q).2 ∈ (c.commit w).wd.closed := by
    intro q hne
    obtain ⟨k', hp, hk'⟩ := C06_prefix_result_change_is_key_change m m0 ht.sorted h.sorted q hne
    exact commit_closes_prefix h ht hw q k' ((hasPrefix_iff k' q).mpr hp) hk'
  have viaRoot := commit_closes_root h ht hw
  cases u <;> cases k
  case true.get | true.list => exact viaGet key fun he => hres (by simp only [partRes, uniqRes, he])
  case true.prefix => exact viaPrefix key fun he => hres (by simp only [partRes, uniqRes, he])
  case false.get | false.list | false.prefix =>
    exact viaPrefix (P.enc key) fun he => hres (by simp only [partRes, tagRes, he])
  all_goals exact viaRoot fun he => hres (by rw [he])

theorem qRes_part {ix : Idx} {i : PIx} (hi : pixOf ix = some i) (t : TableS) (k : QKind) (key : Key) (plen : Nat)
    (hall : k = .all → ix = .id) : qRes t ix k key plen = partRes i.unique (imap t i) k key := by
  cases ix <;> cases hi <;> cases k <;> first | rfl | exact nomatch hall rfl

theorem qRes_lpm_congr (t t' : TableS) {ix : Idx} (hix : ix = .lpm ∨ ix = .ulpm) (k : QKind) (key : Key) (plen : Nat)
    (hall : k = .all → ix = .id) (hl : ix = .lpm → t.lpm = t'.lpm) (hu : ix = .ulpm → t.ulpm = t'.ulpm) :
    qRes t ix k key plen = qRes t' ix k key plen := by
  rcases hix with rfl | rfl
  · cases k with
    | all => exact nomatch hall rfl
    | _ => simp only [qRes, qGet, qList, qPrefix, qLowerBound, hl rfl]
  · cases k with
    | all => exact nomatch hall rfl
    | _ => simp only [qRes, qGet, qList, qPrefix, qLowerBound, hu rfl]

end TW

/-! ## (i) refinement -/

/-- every reachable state satisfies the table invariant: per part index the channel invariant of C12,
    the stamp invariant, the shape invariant of C11 and the refinement; per LPM index the version-channel
    invariant -/
theorem C06_glue_invariant_reachable (t : TableS) (c : CTab) (h : TW.Reach t c) : TInvW t c := h.inv

/-- **(i) refinement**: in every reachable state each part-index tree (primary `id`, unique `u`,
    non-unique `tags`) holds exactly the entries of the corresponding sorted index map of Model.Table:
    the same keys in the same order, each with the revision of the object stored there; `Len` agrees -/
theorem C06_glue_refinement (t : TableS) (c : CTab) (h : TW.Reach t c) (i : PIx) :
    allRoot (c.part.get i).tree.root = (imap t i).map (fun e => (e.1, e.2.rev)) ∧
    (c.part.get i).tree.size = (imap t i).length ∧ OMap.Sorted (imap t i) := by
  have hi := h.inv.part i
  refine ⟨hi.ent, ?_, hi.sorted⟩
  rw [hi.wf.2, hi.ent]; exact List.length_map _

/-- … and at every point inside a write transaction (after any table operations, before Commit /
    Abort) the tree a query through the transaction searches holds exactly the transaction's index map -/
theorem C06_glue_refinement_in_txn (t : TableS) (c : CTab) (h : TW.Reach t c) (ops : List TOp) (i : PIx) :
    allRoot ((runT c (beginT t c) ops).2.part.get i).view.root =
      (imap (runT c (beginT t c) ops).1 i).map (fun e => (e.1, e.2.rev)) := by
  rw [WIdx.view_root _ (c.part.get i).wd]
  exact ((h.inv.run ops).1.idx i).ent

/-- lookups through the tree are lookups in the index map (C11 composed with the refinement) -/
theorem C06_glue_get_is_index_lookup (t : TableS) (c : CTab) (h : TW.Reach t c) (i : PIx) (k : Key) :
    (getRoot (c.part.get i).tree.root (c.part.get i).tree.rootWatch k).1 = (OMap.get (imap t i) k).map (·.rev) := by
  have hi := h.inv.part i
  rw [getRoot_look _ hi.wf.1, hi.ent, look_rmap _ hi.sorted]

/-! ## (ii) the glue theorem -/

/-- **(ii) a commit that changes a query's result closes the query's channel.**
    `t`, `c`: any reachable committed state of a table (Model.Table's view, Model.TableWatch's view);
    `ops`: any list of table operations run by a write transaction holding the table;
    the query `(ix, kind, key, plen)` is made on the committed state before (`c.view.chan`: the channel
    part_index.go / lpm_index.go return).  If its result as specified by Model.Table (`qRes`) after the
    transaction differs from the result before, the channel is in the closed set of its index after
    `Commit` (commit of every index transaction + notify).
    `hall`: `All` exists on the primary index only.  `hrev`: nothing is claimed for a query through the
    revision index, which Model.TableWatch does not have. -/
theorem C06_glue_changed_result_closes_channel (t : TableS) (c : CTab) (h : TW.Reach t c) (ops : List TOp)
    (ix : Idx) (kind : QKind) (key : Key) (plen : Nat) (hrev : ix ≠ .rev) (hall : kind = .all → ix = .id)
    (hres : qRes (runT c (beginT t c) ops).1 ix kind key plen ≠ qRes t ix kind key plen) :
    (c.commit (runT c (beginT t c) ops).2).isClosed (c.view.chan ix kind key).1 (c.view.chan ix kind key).2 = true := by
  have hinv := h.inv
  obtain ⟨ht, hl⟩ := hinv.run ops
  rcases idx_cases ix hrev with ⟨i, hi⟩ | rfl | rfl
  · rw [qRes_part hi _ _ _ _ hall, qRes_part hi _ _ _ _ hall] at hres
    rw [chan_part _ hi, isClosed_part, view_part, c.commit_part _ ht.locked i, List.contains_iff_mem]
    exact part_closed (hinv.part i) (ht.idx i) (ht.tree i) _ kind key hres
  · have ho := (hl.opened (Or.inl fun he => hres (qRes_lpm_congr _ _ (.inl rfl) _ _ _ hall (fun _ => he) nofun))).1
    rw [c.commit_locked ht.locked]
    exact List.contains_iff_mem.mpr (c.lpm.commit_closes ho)
  · have ho := (hl.opened (Or.inr fun he => hres (qRes_lpm_congr _ _ (.inr rfl) _ _ _ hall nofun (fun _ => he)))).2
    rw [c.commit_locked ht.locked]
    exact List.contains_iff_mem.mpr (c.ulpm.commit_closes ho)

/-! ## (iii) aborts, hand-out, monotonicity -/

/-- **an aborted transaction closes nothing**: whatever it did, the closed set of every index of the
    table is the same after Abort -/
theorem C06_glue_abort_closes_nothing (c : CTab) (w : WTab) (ixn ch : Nat) :
    (c.abort w).isClosed ixn ch = c.isClosed ixn ch := by
  cases hl : w.locked with
  | false => rw [c.abort_unlocked w hl]
  | true =>
    rw [c.abort_locked hl]
    unfold CTab.isClosed
    split
    · exact congrArg (·.contains ch) (c.part.id.abort_closed _)
    · exact congrArg (·.contains ch) (c.part.u.abort_closed _)
    · exact congrArg (·.contains ch) (c.part.tags.abort_closed _)
    all_goals rfl

/-- **a commit never re-opens a channel** (closed sets only grow) -/
theorem C06_glue_commit_keeps_closed (c : CTab) (w : WTab) (ixn ch : Nat) (h : c.isClosed ixn ch = true) :
    (c.commit w).isClosed ixn ch = true := by
  have lift : ∀ {l l' : List Nat}, (ch ∈ l → ch ∈ l') → l.contains ch = true → l'.contains ch = true :=
    fun f hc => List.contains_iff_mem.mpr (f (List.contains_iff_mem.mp hc))
  cases hl : w.locked with
  | false => rw [c.commit_unlocked w hl]; exact h
  | true =>
    rw [c.commit_locked hl]
    unfold CTab.isClosed at h ⊢
    split at h
    · exact lift (c.part.id.commit_closed_mono _ ch) h
    · exact lift (c.part.u.commit_closed_mono _ ch) h
    · exact lift (c.part.tags.commit_closed_mono _ ch) h
    · exact lift (c.lpm.commit_closed_mono _ ch) h
    · exact lift (c.ulpm.commit_closed_mono _ ch) h
    · exact nomatch h

/-- a transaction that only reads (queries made through the write transaction) commits to the same
    committed table: no index transaction is ever created by a read, nothing is closed.  (The operations
    of an open transaction act on the transaction's copy `WTab`; the committed table `CTab`, and with it
    every closed set, changes only in `CTab.commit`.) -/
theorem C06_glue_read_only_txn_closes_nothing (t : TableS) (c : CTab) (qs : List (Idx × QKind)) :
    c.commit (runT c (beginT t c) (qs.map fun q => TOp.read q.1 q.2)).2 = c :=
  (Idle.reads qs (s := beginT t c) (Idle.begin c true)).commit c

/-- **not handed out closed / nil**: the channel a watch query returns on a reachable committed state is a
    real channel and is open, for a query through any index but the revision index (`View.chan` gives that one
    the nil channel) -/
theorem C06_glue_handed_out_channel_open (t : TableS) (c : CTab) (h : TW.Reach t c) (ix : Idx) (kind : QKind)
    (key : Key) (hrev : ix ≠ .rev) :
    (c.view.chan ix kind key).2 ≠ 0 ∧ c.isClosed (c.view.chan ix kind key).1 (c.view.chan ix kind key).2 = false := by
  have hinv := h.inv
  have notMem : ∀ {l : List Nat} {ch : Nat}, ch ∉ l → l.contains ch = false :=
    fun hn => Bool.eq_false_iff.mpr (mt List.contains_iff_mem.mp hn)
  rcases idx_cases ix hrev with ⟨i, hi⟩ | rfl | rfl
  · rw [chan_part _ hi, isClosed_part, view_part]
    exact ⟨((hinv.part i).chan_open _ kind key).1, notMem ((hinv.part i).chan_open _ kind key).2⟩
  · exact ⟨hinv.lpm.pos, notMem hinv.lpm.open_⟩
  · exact ⟨hinv.ulpm.pos, notMem hinv.ulpm.open_⟩

/-- … in particular the channels handed out by the snapshot returned by Commit itself are open -/
theorem C06_glue_fresh_channel_open_after_commit (t : TableS) (c : CTab) (h : TW.Reach t c) (ops : List TOp)
    (ix : Idx) (kind : QKind) (key : Key) (hrev : ix ≠ .rev) :
    let c' := c.commit (runT c (beginT t c) ops).2
    c'.isClosed (c'.view.chan ix kind key).1 (c'.view.chan ix kind key).2 = false :=
  (C06_glue_handed_out_channel_open _ _ (Reach.commit t c ops h) ix kind key hrev).2

/-! ## non-vacuity -/

namespace TW
/-- two objects of a full table: ids 0x0102 / 0x0103, tag "a" / no tag -/
def exO1 : Obj := { id := [1, 2], val := 7, uvar := 0, tags := [[97]], pfxs := [([10, 0], 8)], up := false, ord := 1, rev := 0 }
def exO2 : Obj := { id := [1, 3], val := 8, uvar := 1, tags := [], pfxs := [], up := false, ord := 2, rev := 0 }
def exT0 : TableS := { full := true }
def exC0 : CTab := newCTab true
/-- first transaction: Insert exO1, committed -/
def exT1 : TableS := (runT exC0 (beginT exT0 exC0) [.modify 0 exO1 false]).1
def exC1 : CTab := exC0.commit (runT exC0 (beginT exT0 exC0) [.modify 0 exO1 false]).2
theorem exReach1 : Reach exT1 exC1 := Reach.commit exT0 exC0 _ (Reach.init true)
end TW

-- the second transaction inserts exO2, reads through itself, and fails a CompareAndSwap on exO1:
-- Prefix(0x01) through the primary index changes its result …
example : qRes (runT exC1 (beginT exT1 exC1) [.modify 0 exO2 false, .read .id .prefix, .modify 5 exO1 false]).1 .id .prefix [1] 0 ≠
    qRes exT1 .id .prefix [1] 0 := by decide
-- … so the channel handed out before is closed by the commit (the theorem applied to the instance) …
example : (exC1.commit (runT exC1 (beginT exT1 exC1) [.modify 0 exO2 false, .read .id .prefix, .modify 5 exO1 false]).2).isClosed
    (exC1.view.chan .id .prefix [1]).1 (exC1.view.chan .id .prefix [1]).2 = true :=
  C06_glue_changed_result_closes_channel exT1 exC1 exReach1 _ .id .prefix [1] 0 (by decide) (by decide) (by decide)
-- … while it was open when handed out
example : exC1.isClosed (exC1.view.chan .id .prefix [1]).1 (exC1.view.chan .id .prefix [1]).2 = false :=
  (C06_glue_handed_out_channel_open exT1 exC1 exReach1 .id .prefix [1] (by decide)).2
-- the same transaction changes Get("a") through the non-unique index? no: exO2 has no tag — the result is the
-- same, and (here) the channel stays open; the LPM indexes' table-wide channel is closed although no LPM key changed
example : qRes (runT exC1 (beginT exT1 exC1) [.modify 0 exO2 false]).1 .tags .get [97] 0 = qRes exT1 .tags .get [97] 0 := by decide
example : (exC1.commit (runT exC1 (beginT exT1 exC1) [.modify 0 exO2 false]).2).isClosed
    (exC1.view.chan .tags .get [97]).1 (exC1.view.chan .tags .get [97]).2 = false := by decide
example : (exC1.commit (runT exC1 (beginT exT1 exC1) [.modify 0 exO2 false]).2).isClosed
    (exC1.view.chan .lpm .lb [] ).1 (exC1.view.chan .lpm .lb []).2 = true := by decide
-- the converse of (ii) does not hold (known finding K3): a transaction whose only write is a CompareAndSwap
-- rejected by its guard leaves the primary index map, hence the result of every query through the primary index, as
-- it was, but closes the Get channel of the key and the primary root watch
example : (runT exC1 (beginT exT1 exC1) [.modify 5 exO1 false]).1.primary = exT1.primary ∧
    (exC1.commit (runT exC1 (beginT exT1 exC1) [.modify 5 exO1 false]).2).isClosed
      (exC1.view.chan .id .get [1, 2]).1 (exC1.view.chan .id .get [1, 2]).2 = true ∧
    (exC1.commit (runT exC1 (beginT exT1 exC1) [.modify 5 exO1 false]).2).isClosed
      (exC1.view.chan .id .all []).1 (exC1.view.chan .id .all []).2 = true := by decide
-- an aborted transaction with the same operations closes nothing
example : (exC1.abort (runT exC1 (beginT exT1 exC1) [.modify 0 exO2 false, .deleteAll]).2).isClosed
    (exC1.view.chan .id .prefix [1]).1 (exC1.view.chan .id .prefix [1]).2 = false := by decide

end Sdb
