import SdbModel.Model.Lpm
import SdbModel.Generated.SliceParams
/-!
  C13, the iterator: "full iteration and LowerBound(q) yield entries in ascending order …
  later transactions never alter what an earlier trie or ITERATOR returns".

  The C13 theorems describe iteration results through `Lpm.preorder` / `Lpm.lowerBound`
  (lists).  The code's iterator is an explicit stack (`lpm/iterator.go`: `Next`, and the loop of
  `All` on a copy of the stack) that `Txn.LowerBound` pre-loads with the larger siblings along
  the search path.  `Lpm.Iter.next` / `Lpm.lbStack` model exactly that machine — the lpm driver
  executes them — and the theorems below show that the machine yields the lists the other C13
  theorems are about, one entry per `Next`, for every trie and every stack.
-/
namespace Sdb
open Lpm

variable {α : Type}

private def mu (st : List (Trie α)) : Nat := 2 * stackNodes st + st.length

private theorem stackNodes_cons (t : Trie α) (st : List (Trie α)) : stackNodes (t :: st) = t.nodes + stackNodes st := by
  simp [stackNodes]

private theorem push_flat (c : Trie α) (st : List (Trie α)) :
    (if c.isNil then st else c :: st).flatMap preorder = preorder c ++ st.flatMap preorder := by
  cases c <;> rfl

private theorem push_mu (c : Trie α) (st : List (Trie α)) :
    mu (if c.isNil then st else c :: st) ≤ 2 * c.nodes + mu st + 1 := by
  cases c with
  | nil => show mu st ≤ 2 * 0 + mu st + 1; omega
  | node => simp only [Trie.isNil, Bool.false_eq_true, if_false, mu, stackNodes_cons, List.length_cons]; omega

private theorem pushKids_flat (c0 c1 : Trie α) (rest : List (Trie α)) :
    (pushKids c0 c1 rest).flatMap preorder = preorder c0 ++ preorder c1 ++ rest.flatMap preorder := by
  rw [pushKids, push_flat, push_flat, List.append_assoc]

private theorem pushKids_mu (c0 c1 : Trie α) (rest : List (Trie α)) :
    mu (pushKids c0 c1 rest) ≤ 2 * c0.nodes + 2 * c1.nodes + mu rest + 2 := by
  have h1 := push_mu c1 rest
  have h0 := push_mu c0 (if c1.isNil then rest else c1 :: rest)
  rw [pushKids]
  omega

private theorem next_spec (fuel : Nat) (st : List (Trie α)) (hf : mu st < fuel) :
    (Iter.next fuel st = none ∧ st.flatMap preorder = []) ∨
    (∃ e st', Iter.next fuel st = some (e, st') ∧ st.flatMap preorder = e :: st'.flatMap preorder ∧ mu st' < mu st) := by
  induction fuel generalizing st with
  | zero => omega
  | succ fuel ih =>
    match st with
    | [] => exact Or.inl ⟨rfl, rfl⟩
    | .nil :: rest =>
      have hmu : mu (Trie.nil :: rest) = mu rest + 1 := by
        simp only [mu, stackNodes_cons, Trie.nodes, List.length_cons]; omega
      rcases ih rest (by omega) with h | ⟨e, st', h1, h2, h3⟩
      · exact Or.inl h
      · exact Or.inr ⟨e, st', h1, h2, by omega⟩
    | .node d p v c0 c1 :: rest =>
      have hk := pushKids_mu c0 c1 rest
      have hmu : mu (Trie.node d p v c0 c1 :: rest) = 2 * c0.nodes + 2 * c1.nodes + mu rest + 3 := by
        simp only [mu, stackNodes_cons, Trie.nodes, List.length_cons]; omega
      -- what is left after the node itself
      have hflat : (Trie.node d p none c0 c1 :: rest).flatMap preorder = (pushKids c0 c1 rest).flatMap preorder := by
        rw [pushKids_flat]; rfl
      cases v with
      | some x => exact Or.inr ⟨(d, p, x), pushKids c0 c1 rest, rfl, congrArg (_ :: ·) hflat, by omega⟩
      | none =>
        rcases ih (pushKids c0 c1 rest) (by omega) with ⟨h1, h2⟩ | ⟨e, st', h1, h2, h3⟩
        · exact Or.inl ⟨h1, hflat.trans h2⟩
        · exact Or.inr ⟨e, st', h1, hflat.trans h2, by omega⟩

/-- **One `Next`**: it returns nothing exactly when nothing is left, and otherwise the first
    entry of what is left, leaving an iterator over the rest — so a partially consumed iterator
    continues where it stopped. -/
theorem C13_iterator_next (st : List (Trie α)) :
    (Iter.next (iterFuel st) st = none ∧ st.flatMap preorder = []) ∨
    (∃ e st', Iter.next (iterFuel st) st = some (e, st') ∧ st.flatMap preorder = e :: st'.flatMap preorder) := by
  rcases next_spec (iterFuel st) st (by simp [iterFuel, mu]) with h | ⟨e, st', h1, h2, _⟩
  · exact Or.inl h
  · exact Or.inr ⟨e, st', h1, h2⟩

private theorem drain_spec (fuel : Nat) (st : List (Trie α)) (hf : mu st < fuel) :
    Iter.drain fuel st = st.flatMap preorder := by
  induction fuel generalizing st with
  | zero => omega
  | succ fuel ih =>
    unfold Iter.drain
    rcases next_spec (iterFuel st) st (by simp [iterFuel, mu]) with ⟨h1, h2⟩ | ⟨e, st', h1, h2, h3⟩
    · simp [h1, h2]
    · simp only [h1, h2]
      rw [ih st' (by omega)]

/-- **The stack machine yields the pre-order listing**: draining an iterator whose stack is
    `st` yields the entries of the stacked subtrees, top first, each in node / child 0 / child 1
    order — `preorder`, which the ordering theorems of C13 are about. -/
theorem C13_iterator_stack_refines_preorder (st : List (Trie α)) :
    Iter.drain (iterFuel st) st = st.flatMap preorder :=
  drain_spec _ st (by simp [iterFuel, mu])

/-- iteration from a start node (`All`, `Prefix`) -/
theorem C13_iterator_from_start (t : Trie α) :
    Iter.drain (iterFuel (Iter.ofStart t).stack) (Iter.ofStart t).stack = preorder t := by
  rw [C13_iterator_stack_refines_preorder, Iter.ofStart, push_flat, List.flatMap_nil, List.append_nil]

/-- **`LowerBound` pre-loads the right stack**: what the iterator yields from the stack that
    the search loop of `Txn.LowerBound` builds is the list `Lpm.lowerBound`
    (`C13_lowerBound_is_suffix`: the entries not below the query, ascending). -/
theorem C13_lowerBound_stack (data : List Nat) (plen : Nat) (t : Trie α) (m : Nat) (pend : List (Trie α)) :
    (lbStack data plen t m pend).flatMap preorder = lowerBound data plen t m pend := by
  induction t generalizing m pend with
  | nil => simp [lbStack, lowerBound]
  | node nd npl nv c0 c1 ih0 ih1 =>
    simp only [lbStack, lowerBound]
    generalize longestMatch m nd npl data plen = ml
    by_cases h1 : ml = plen
    · rw [if_pos h1, if_pos h1, List.flatMap_cons]
    · rw [if_neg h1, if_neg h1]
      by_cases h2 : ml < npl
      · rw [if_pos h2, if_pos h2]
        by_cases h3 : (cmpL (nd ++ be 2 npl) data != .lt) = true
        · rw [if_pos h3, if_pos h3, List.flatMap_cons]
        · rw [if_neg h3, if_neg h3, List.nil_append]
      · rw [if_neg h2, if_neg h2]
        by_cases h3 : getBitAt data npl = 0
        · rw [if_pos h3, if_pos h3]; exact ih0 _ _
        · rw [if_neg h3, if_neg h3]; exact ih1 _ _

theorem C13_lowerBound_iterator (data : List Nat) (plen : Nat) (t : Trie α) :
    Iter.drain (iterFuel (lbStack data plen t 0 [])) (lbStack data plen t 0 []) = lowerBound data plen t 0 [] := by
  rw [C13_iterator_stack_refines_preorder, C13_lowerBound_stack]

/-- what a partially consumed iterator has yielded is a function of its stack, that is of subtrees of
    the trie it was made from.  Those are immutable values here, so that no later transaction alters
    it holds by construction in this model; for the code it is the stamp discipline of C01. -/
theorem C13_iterator_result_determined_by_stack (st : List (Trie α)) (k : Nat) :
    (Iter.drain (iterFuel st) st).take k = (st.flatMap preorder).take k := by
  rw [C13_iterator_stack_refines_preorder]

/-- `Iter.drain` leaves its argument alone (values); in the code `All()` "can be called multiple
    times" because it pops and pushes on a COPY of the iterator's stack — a fact the extractor
    regenerates from `lpm/iterator.go` on every run (a `slices.Clip` of `it.stack`, seeded change C13l, turns it false) -/
theorem C13_iterator_all_works_on_a_copy : Gen.lpmIteratorAllWorksOnACopy = true := by decide

/-! non-vacuity -/
private def t3 : Trie Nat :=
  .node [] 0 none (.node [0] 1 (some 1) .nil .nil) (.node [128] 1 none (.node [128] 2 (some 2) .nil .nil) (.node [192] 2 (some 3) .nil .nil))

example : Iter.drain (iterFuel [t3]) [t3] = [([0], 1, 1), ([128], 2, 2), ([192], 2, 3)] := by decide
example : (Iter.next (iterFuel [t3]) [t3]).map (·.1) = some ([0], 1, 1) := by decide

end Sdb
