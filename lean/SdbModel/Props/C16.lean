import SdbModel.Lemmas.Reconciler
import SdbModel.Generated.RecParams

/-!
# C16 — Reconciler retry pacing and WaitUntilReconciled contract

> A failed operation is retried, never sooner than the configured minimum
> backoff after the failure, with waits that do not shrink over consecutive
> failures of the same object and are capped by the configured maximum (…), and
> the backoff starts over after the object changes or succeeds.
> WaitUntilReconciled(rev) returns without error only after every change up to
> rev has been attempted at least once, and the retry low-watermark it reports
> is zero exactly when no failed object awaits retry, otherwise the revision of
> the oldest change among the failed ones.

Theorems over `Model.Reconciler`.  The backoff arithmetic (`C16_backoff_le_max`,
`C16_backoff_ge_min`, `C16_backoff_monotone`; over ℕ, the float64 rounding of
`exponentialBackoff.Duration` is in the trusted base) stands at the head of
`Lemmas/Reconciler.lean`, where the lemma files use it as well.
-/
namespace Sdb
open Rec

/-! ## retries.Add / Clear -/

/-- the item `retryAdd` leaves in the map for `obj.id`: the revision of the ORIGINAL change is kept
    over the retries of an item (F15) -/
theorem C16_retryAdd_item (r : R) (obj : RObj) (rev origRev : Nat) (del : Bool) :
    ∃ it, (r.retryAdd obj rev origRev del).items.find? (·.id = obj.id) = some it ∧
      it.inQueue = true ∧ it.inRevQueue = true ∧
      it.origRev = (match r.items.find? (·.id = obj.id) with | some i => i.origRev | none => origRev) ∧
      it.numRetries = (match r.items.find? (·.id = obj.id) with | some i => i.numRetries | none => 0) + 1 ∧
      it.retryAt = r.now + backoff r.cfg.minB r.cfg.maxB it.numRetries :=
  ⟨_, retryAdd_find .., rfl, rfl, rfl, rfl, rfl⟩

/-- never sooner than the minimum backoff, never later than the maximum -/
theorem C16_retry_not_before_min (r : R) (obj : RObj) (rev origRev : Nat) (del : Bool)
    (hcfg : r.cfg.minB ≤ r.cfg.maxB) :
    ∃ it, (r.retryAdd obj rev origRev del).items.find? (·.id = obj.id) = some it ∧
      r.now + r.cfg.minB ≤ it.retryAt ∧ it.retryAt ≤ r.now + r.cfg.maxB := by
  obtain ⟨it, h1, _, _, _, _, h6⟩ := C16_retryAdd_item r obj rev origRev del
  refine ⟨it, h1, ?_, ?_⟩
  · rw [h6]; have := C16_backoff_ge_min r.cfg.minB r.cfg.maxB it.numRetries hcfg; omega
  · rw [h6]; have := C16_backoff_le_max r.cfg.minB r.cfg.maxB it.numRetries; omega

/-- Clear forgets the object and its retry count: the backoff starts over -/
theorem C16_backoff_resets_on_clear (r : R) (obj : RObj) (rev origRev : Nat) (del : Bool) :
    ∃ it, ((r.retryClear obj.id).retryAdd obj rev origRev del).items.find? (·.id = obj.id) = some it ∧
      it.numRetries = 1 := by
  obtain ⟨it, h1, _, _, _, h5, _⟩ := C16_retryAdd_item (r.retryClear obj.id) obj rev origRev del
  refine ⟨it, h1, ?_⟩
  rw [h5, retryClear_items, find?_filter_id_ne]

/-- consecutive failures without a Clear: the retry count grows, so (by
    `C16_backoff_monotone`) the wait does not shrink -/
theorem C16_retry_count_grows (r : R) (obj : RObj) (rev origRev rev' origRev' : Nat) (del : Bool) :
    ∃ it it', (r.retryAdd obj rev origRev del).items.find? (·.id = obj.id) = some it ∧
      ((r.retryAdd obj rev origRev del).retryAdd obj rev' origRev' del).items.find? (·.id = obj.id) = some it' ∧
      it'.numRetries = it.numRetries + 1 := by
  obtain ⟨it, h1, _, _, _, _, _⟩ := C16_retryAdd_item r obj rev origRev del
  obtain ⟨it', h1', _, _, _, h5', _⟩ := C16_retryAdd_item (r.retryAdd obj rev origRev del) obj rev' origRev' del
  refine ⟨it, it', h1, h1', ?_⟩
  rw [h5', h1]

/-! ## the retry timer (retries.resetTimer) -/

/-- after `resetTimer` the timer is armed exactly when the time queue is
    non-empty, and then for the head's retry time -/
theorem C16_timer_armed_iff_queue_nonempty (r : R) :
    (∀ h, r.head = some h → r.resetTimer.timer = .armed h.retryAt) ∧
    (r.head = none → r.resetTimer.timer = .none ∨ r.resetTimer.timer = .stopped) := by
  unfold R.resetTimer newTimer
  constructor
  · intro h hh
    simp only [hh]
    cases r.timer <;> rfl
  · intro hh
    simp only [hh]
    cases r.timer <;> simp

/-! ## retries run only when due -/

/-- `processRetries` does nothing while the head of the time queue is not yet due (and nothing
    when the queue is empty or the round is full): a failed operation is never retried before
    its `retryAt`, which `C16_retry_not_before_min` puts at least the minimum backoff after the
    failure -/
theorem C16_no_retry_before_due (r : R) (fuel : Nat)
    (h : r.head = none ∨ (∃ it, r.head = some it ∧ it.retryAt > r.now) ∨ r.numReconciled ≥ r.cfg.roundSize) :
    r.processRetries fuel = r := by
  cases fuel with
  | zero => rfl
  | succ n =>
    unfold R.processRetries
    rcases h with h | ⟨it, h, hlt⟩ | h
    · split
      · rfl
      · simp [h]
    · split
      · rfl
      · simp only [h]
        simp [hlt]
    · simp [h]

/-- when a retry does run, it is the head of the time queue and it is due -/
theorem C16_retry_runs_head_when_due (r : R) (n : Nat) (it : Item)
    (hfull : ¬ r.numReconciled ≥ r.cfg.roundSize) (hh : r.head = some it) (hdue : ¬ it.retryAt > r.now) :
    r.processRetries (n + 1) =
      R.processRetries { (r.retryPop.processSingle it.obj it.rev it.delete) with
        numReconciled := (r.retryPop.processSingle it.obj it.rev it.delete).numReconciled + 1 } n := by
  rw [R.processRetries]
  simp [hfull, hh, hdue]

/-! ## low watermark -/

/-- the low-watermark is zero exactly when no failed object awaits retry
    (revisions are positive), otherwise the smallest original revision among them -/
theorem C16_low_watermark_def (r : R) (hpos : ∀ i ∈ r.items, 0 < i.origRev) :
    (r.lowWatermark = 0 ↔ r.items.filter (·.inRevQueue) = []) ∧
    (∀ i ∈ r.items.filter (·.inRevQueue), r.lowWatermark ≤ i.origRev) ∧
    (r.items.filter (·.inRevQueue) ≠ [] → ∃ i ∈ r.items.filter (·.inRevQueue), r.lowWatermark = i.origRev) :=
  lwOf_spec r.items hpos

/-! ## non-vacuity -/
example : backoff 100 1000 1 = 200 ∧ backoff 100 1000 4 = 1000 := by decide
example : (({} : R).retryAdd { id := 1, data := 5, kind := .pending, sid := 1, other := 0, rev := 3 } 4 3 false).lowWatermark = 3 := by decide

/-- the structural facts about reconciler/incremental.go and reconciler/retries.go that the model
    builds in — the backoff formula, its cap and the conditions under which `processRetries` runs a retry — hold of the source as it is today (regenerated by `tools/extract` on every run) -/
theorem C16_source_facts : Gen.recFacts = Rec.expectedFacts := by decide

end Sdb
