import SdbModel.Model.Table
import SdbModel.Props.C19
/-!
  C19 over whole histories, any number of NAMED initializers: "Initialized(snapshot) is true
  exactly when every initializer registered in transactions committed up to that snapshot has
  been marked done in a committed transaction, PendingInitializers lists exactly the others …
  registrations and marks made in aborted transactions have no effect on the committed state."

  (`Props/C19Conc.lean` proves the same for every SCHEDULE of the interleaving model, which keeps
  one initializer per table; this file is the sequential table model with any number of names.)
-/
namespace Sdb
open Tbl

/-- what a transaction does to the initializers of one table -/
inductive InitOp where
  | reg (name : String)
  | done (name : String)
  deriving Repr, DecidableEq

def InitOp.apply (t : TableS) : InitOp → TableS
  | .reg n => tblRegister t n
  | .done n => tblMarkDone t n

/-- a history: transactions in commit order, each with its operations and whether it was committed
    (`false` = aborted: the table state it built is dropped) -/
def runInitHistory (t : TableS) : List (List InitOp × Bool) → TableS
  | [] => t
  | (ops, true) :: rest => runInitHistory (ops.foldl InitOp.apply t) rest
  | (_, false) :: rest => runInitHistory t rest

/-- the operations of the committed transactions, in order -/
def committedOps : List (List InitOp × Bool) → List InitOp
  | [] => []
  | (ops, true) :: rest => ops ++ committedOps rest
  | (_, false) :: rest => committedOps rest

private theorem committedOps_append (h more : List (List InitOp × Bool)) :
    committedOps (h ++ more) = committedOps h ++ committedOps more := by
  induction h with
  | nil => rfl
  | cons x rest ih =>
    obtain ⟨ops, c⟩ := x
    cases c <;> simp [committedOps, ih]

private theorem run_eq_fold (t : TableS) (h : List (List InitOp × Bool)) :
    runInitHistory t h = (committedOps h).foldl InitOp.apply t := by
  induction h generalizing t with
  | nil => rfl
  | cons x rest ih =>
    obtain ⟨ops, c⟩ := x
    cases c with
    | true => simp [runInitHistory, committedOps, List.foldl_append, ih]
    | false => simp [runInitHistory, committedOps, ih]

/-- **Aborted transactions have no effect**: the committed initializer state is a function of the
    committed transactions' operations alone -/
theorem C19_hist_aborted_have_no_effect (t : TableS) (h : List (List InitOp × Bool)) :
    runInitHistory t h = runInitHistory t (h.filter (·.2)) := by
  rw [run_eq_fold, run_eq_fold]
  congr 1
  induction h with
  | nil => rfl
  | cons x rest ih =>
    obtain ⟨ops, c⟩ := x
    cases c <;> simp [committedOps, ih]

private theorem exists_split_cons {α : Type} (c x : α) (cs : List α) (Q : List α → Prop) :
    (∃ pre post, c :: cs = pre ++ x :: post ∧ Q post) ↔
      (c = x ∧ Q cs) ∨ ∃ pre post, cs = pre ++ x :: post ∧ Q post := by
  constructor
  · rintro ⟨pre, post, he, hq⟩
    cases pre with
    | nil =>
      obtain ⟨rfl, rfl⟩ := List.cons.inj he
      exact Or.inl ⟨rfl, hq⟩
    | cons p pre => exact Or.inr ⟨pre, post, (List.cons.inj he).2, hq⟩
  · rintro (⟨rfl, hq⟩ | ⟨pre, post, rfl, hq⟩)
    · exact ⟨[], cs, rfl, hq⟩
    · exact ⟨c :: pre, post, rfl, hq⟩

private theorem mem_fold (cs : List InitOp) (t : TableS) (n : String) :
    n ∈ tblPending (cs.foldl InitOp.apply t) ↔
      (n ∈ tblPending t ∧ InitOp.done n ∉ cs) ∨ (∃ pre post, cs = pre ++ InitOp.reg n :: post ∧ InitOp.done n ∉ post) := by
  induction cs generalizing t with
  | nil => simp
  | cons c cs ih =>
    rw [List.foldl_cons, ih, exists_split_cons]
    cases c with
    | reg m =>
      simp only [InitOp.apply, tblPending_register, List.mem_append, List.mem_cons, List.not_mem_nil, or_false, reduceCtorEq,
        false_or, InitOp.reg.injEq, or_and_right, or_assoc, eq_comm]
    | done m =>
      simp only [InitOp.apply, tblPending_markDone, List.mem_filter, decide_eq_true_eq, List.mem_cons, InitOp.done.injEq,
        reduceCtorEq, false_and, false_or, not_or, and_assoc]

/-- **PendingInitializers is exact over every history.**  Starting from a table without
    initializers, after any sequence of committed and aborted transactions with any
    registrations and marks: `name` is pending in the committed state IF AND ONLY IF some
    COMMITTED transaction registered it and no committed mark of that name follows the
    registration (in the same or a later committed transaction). -/
theorem C19_hist_pending_exact (t : TableS) (ht : tblPending t = []) (h : List (List InitOp × Bool)) (n : String) :
    n ∈ tblPending (runInitHistory t h) ↔
      ∃ pre post, committedOps h = pre ++ InitOp.reg n :: post ∧ InitOp.done n ∉ post := by
  rw [run_eq_fold, mem_fold]
  simp [ht]

/-- **Initialized is exact over every history**: true exactly when every committed registration is
    followed by a committed mark of its name -/
theorem C19_hist_initialized_exact (t : TableS) (ht : tblPending t = []) (h : List (List InitOp × Bool)) :
    tblInitialized (runInitHistory t h) = true ↔
      ∀ n pre post, committedOps h = pre ++ InitOp.reg n :: post → InitOp.done n ∈ post := by
  rw [C19_initialized_iff_no_pending, List.eq_nil_iff_forall_not_mem]
  simp only [C19_hist_pending_exact t ht, not_exists, not_and, Decidable.not_not]

private theorem pending_append (t : TableS) (h more : List (List InitOp × Bool)) (n : String) :
    n ∈ tblPending (runInitHistory t (h ++ more)) ↔
      (n ∈ tblPending (runInitHistory t h) ∧ InitOp.done n ∉ committedOps more) ∨
      (∃ pre post, committedOps more = pre ++ InitOp.reg n :: post ∧ InitOp.done n ∉ post) := by
  rw [run_eq_fold, committedOps_append, List.foldl_append, ← run_eq_fold t h, mem_fold]

/-- **Once initialized it stays so unless a new initializer is registered**: appending transactions
    that register nothing (committed or not, marking whatever they like) keeps it initialized -/
theorem C19_hist_stays_initialized (t : TableS) (ht : tblPending t = []) (h more : List (List InitOp × Bool))
    (hi : tblInitialized (runInitHistory t h) = true)
    (hno : ∀ n, InitOp.reg n ∉ committedOps more) :
    tblInitialized (runInitHistory t (h ++ more)) = true := by
  rw [C19_initialized_iff_no_pending] at hi ⊢
  rw [List.eq_nil_iff_forall_not_mem]
  intro n hn
  rw [pending_append, hi] at hn
  rcases hn with ⟨hn, _⟩ | ⟨pre, post, he, _⟩
  · exact nomatch hn
  · exact hno n (he ▸ List.mem_append_right _ List.mem_cons_self)

/-- … "unless a new initializer is registered": a committed transaction that registers a name and
    does not mark it makes the table uninitialized again, with exactly that name added -/
theorem C19_hist_new_registration_makes_pending (t : TableS) (ht : tblPending t = []) (h : List (List InitOp × Bool))
    (n : String) (ops : List InitOp) (hreg : InitOp.reg n ∈ ops) (hnd : InitOp.done n ∉ ops) :
    n ∈ tblPending (runInitHistory t (h ++ [(ops, true)])) ∧ tblInitialized (runInitHistory t (h ++ [(ops, true)])) = false := by
  have hmem : n ∈ tblPending (runInitHistory t (h ++ [(ops, true)])) := by
    rw [pending_append]
    obtain ⟨pre, post, hsplit⟩ := List.append_of_mem hreg
    refine Or.inr ⟨pre, post, by simp [committedOps, hsplit], fun hd => hnd ?_⟩
    rw [hsplit]
    exact List.mem_append_right _ (List.mem_cons_of_mem _ hd)
  refine ⟨hmem, Bool.eq_false_iff.2 fun hi => ?_⟩
  rw [C19_initialized_iff_no_pending] at hi
  rw [hi] at hmem
  exact nomatch hmem

/-! non-vacuity -/
example :
    tblPending (runInitHistory {} [([.reg "a", .reg "b"], true), ([.done "a", .reg "ghost"], false), ([.done "b"], true), ([.reg "c"], true)])
      = ["a", "c"] := by decide +kernel

end Sdb
