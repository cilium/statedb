import SdbModel.Lemmas.Enc
import SdbModel.Generated.EncParams

/-!
# C18 — Index key encodings are injective and order-preserving

> The composite key stored for a non-unique index entry is an injective,
> order-preserving encoding of the pair (secondary key, primary key) — ordered
> by secondary key first, then primary key, bytewise, for arbitrary byte values
> including 0x00, 0x01 and empty keys — from which the two parts can be
> separated again.  For the fixed-width integer, boolean and string encoders
> equal values give equal keys and different values different keys, unsigned
> integers order numerically under bytewise comparison, and LPM keys round-trip
> with the data masked to the prefix length.

Generic theorems are stated for ANY `EncParams` satisfying `WellFormed`; the
`C18_*` theorems instantiate them with the constants regenerated from the
current source (`Gen.encParams`), the side condition being discharged by
`decide`.  A source edit that keeps the scheme valid keeps them green; one that
does not makes `Gen.encParams_wf` fail to build.
-/
namespace Sdb

/-! ## generic theorems -/

theorem enc_cmp (P : EncParams) (h : P.WellFormed) (a b : Key) :
    cmpL (P.enc a) (P.enc b) = cmpL a b := by
  obtain ⟨x, y, hx, hxy, _, he⟩ := P.enc_eq h
  rw [he]; exact encXY_cmp hxy a b

theorem enc_injective (P : EncParams) (h : P.WellFormed) (a b : Key)
    (hab : P.enc a = P.enc b) : a = b := by
  obtain ⟨x, y, hx, hxy, _, he⟩ := P.enc_eq h
  rw [he] at hab; exact encXY_injective hxy a b hab

theorem enc_hasPrefix (P : EncParams) (h : P.WellFormed) (k p : Key) :
    hasPrefix (P.enc k) (P.enc p) = hasPrefix k p := by
  obtain ⟨x, y, hx, hxy, _, he⟩ := P.enc_eq h
  rw [he]; exact encXY_hasPrefix hxy k p

theorem enc_zeroFree (P : EncParams) (h : P.WellFormed) (k : Key) : ZeroFree (P.enc k) := by
  obtain ⟨x, y, hx, hxy, _, he⟩ := P.enc_eq h
  rw [he]; exact encXY_zeroFree hx hxy k

theorem composite_eq (P : EncParams) (h : P.WellFormed) (p s : Key) :
    P.composite p s = P.enc s ++ 0 :: (P.enc p ++ be 2 (P.enc p).length) := by
  obtain ⟨h0, _⟩ := h
  simp [EncParams.composite, h0]

/-- No length bound is needed: the first zero byte splits the key, and the suffix always has two bytes. -/
theorem composite_injective (P : EncParams) (h : P.WellFormed) (p s p' s' : Key)
    (he : P.composite p s = P.composite p' s') : p = p' ∧ s = s' := by
  rw [composite_eq P h, composite_eq P h] at he
  obtain ⟨h1, h2⟩ := sep_split_unique (enc_zeroFree P h s) (enc_zeroFree P h s') he
  have hs := enc_injective P h _ _ h1
  have hl : (P.enc p).length = (P.enc p').length := by
    have := congrArg List.length h2
    simp at this; exact this
  have hp : P.enc p = P.enc p' := List.append_inj_left h2 hl
  exact ⟨enc_injective P h _ _ hp, hs⟩

theorem composite_cmp (P : EncParams) (h : P.WellFormed) (p s p' s' : Key) :
    cmpL (P.composite p s) (P.composite p' s') = Ordering.thenO (cmpL s s')
      (cmpL (P.enc p ++ be 2 (P.enc p).length) (P.enc p' ++ be 2 (P.enc p').length)) := by
  rw [composite_eq P h, composite_eq P h, cmpL_sep _ _ (enc_zeroFree P h s) (enc_zeroFree P h s'), enc_cmp P h]

/-- order: secondary first, ties by primary — for primaries whose ENCODED
    length is below 256 (see `C18_composite_order_refuted` for why the bound is
    needed: known finding K2) -/
theorem composite_cmp_partial (P : EncParams) (h : P.WellFormed) (p s p' s' : Key)
    (hp : (P.enc p).length < 256) (hp' : (P.enc p').length < 256) :
    cmpL (P.composite p s) (P.composite p' s') = Ordering.thenO (cmpL s s') (cmpL p p') := by
  rw [composite_cmp P h, be2_small hp, be2_small hp',
    cmpL_lenSuffix (enc_zeroFree P h p) (enc_zeroFree P h p') (fun e => e), enc_cmp P h]

/-- `nonUniqueKey.primaryLen` reads back the uint16 stored behind the primary part: its length
    modulo 2^16 -/
theorem composite_primaryLen (P : EncParams) (h : P.WellFormed) (p s : Key) :
    nukPrimaryLen (P.composite p s) = (P.enc p).length % 65536 := by
  have hl : (P.enc s ++ 0 :: P.enc p ++ be 2 (P.enc p).length).length
      = (P.enc s).length + (P.enc p).length + 1 + 2 := by
    rw [List.length_append, List.length_append, List.length_cons, be_length]; rfl
  rw [nukPrimaryLen, composite_eq P h, ← List.cons_append, ← List.append_assoc, hl, Nat.add_sub_cancel]
  split
  · rw [show (P.enc p).length = 0 by omega]
  · rw [List.drop_left' (by rw [List.length_append, List.length_cons]; rfl), unbe_be]

/-- once the stored length reads back as the primary part's, the `nonUniqueKey` accessors return
    the parts of: secondary part, separator, primary part, two length bytes -/
theorem nuk_split (S E B k : List Nat) (hk : k = S ++ 0 :: E ++ B) (hB : B.length = 2)
    (hpl : nukPrimaryLen k = E.length) :
    nukSecondaryLen k = S.length ∧ nukEncodedPrimary k = E ∧ nukEncodedSecondary k = S := by
  have hA : (S ++ 0 :: E).length = S.length + 1 + E.length := by
    rw [List.length_append, List.length_cons, Nat.add_right_comm]; rfl
  have hl : k.length = S.length + 1 + E.length + 2 := by rw [hk, List.length_append, hB, hA]
  have hsl : nukSecondaryLen k = S.length := by
    rw [nukSecondaryLen, hpl, hl]; omega
  refine ⟨hsl, ?_, ?_⟩
  · show List.drop _ (List.take _ _) = E
    rw [hpl, hl, Nat.add_sub_cancel, Nat.add_sub_cancel, hk, List.take_left' hA, List.append_cons]
    exact List.drop_left' List.length_append
  · rw [nukEncodedSecondary, hsl, Int.toNat_natCast, hk, List.append_assoc, List.take_left]

/-- the parts can be separated again (the code's `nonUniqueKey` accessors),
    for encoded primaries shorter than 2^16 (the length is stored in a uint16) -/
theorem composite_split (P : EncParams) (h : P.WellFormed) (p s : Key)
    (hp : (P.enc p).length < 65536) :
    nukPrimaryLen (P.composite p s) = (P.enc p).length ∧
    nukSecondaryLen (P.composite p s) = (P.enc s).length ∧
    nukEncodedPrimary (P.composite p s) = P.enc p ∧
    nukEncodedSecondary (P.composite p s) = P.enc s :=
  have hpl := (composite_primaryLen P h p s).trans (Nat.mod_eq_of_lt hp)
  ⟨hpl, nuk_split _ _ _ _ (by rw [composite_eq P h, List.append_assoc]; rfl) (be_length 2 _) hpl⟩

/-! ## instances for the constants in today's source -/

theorem Gen.encParams_wf : Gen.encParams.WellFormed :=
  (EncParams.wf_iff _).mp (by decide)

theorem C18_enc_injective (a b : Key) (h : Gen.encParams.enc a = Gen.encParams.enc b) : a = b :=
  enc_injective _ Gen.encParams_wf a b h

theorem C18_enc_order (a b : Key) :
    cmpL (Gen.encParams.enc a) (Gen.encParams.enc b) = cmpL a b :=
  enc_cmp _ Gen.encParams_wf a b

theorem C18_enc_prefix (k p : Key) :
    hasPrefix (Gen.encParams.enc k) (Gen.encParams.enc p) = hasPrefix k p :=
  enc_hasPrefix _ Gen.encParams_wf k p

theorem C18_encodedLength (k : Key) :
    Gen.encParams.encodedLength k = (Gen.encParams.enc k).length :=
  EncParams.encodedLength_eq _ Gen.encParams_wf k

theorem C18_composite_injective (p s p' s' : Key)
    (h : Gen.encParams.composite p s = Gen.encParams.composite p' s') : p = p' ∧ s = s' :=
  composite_injective _ Gen.encParams_wf p s p' s' h

theorem C18_composite_split (p s : Key) (hp : (Gen.encParams.enc p).length < 65536) :
    nukPrimaryLen (Gen.encParams.composite p s) = (Gen.encParams.enc p).length ∧
    nukSecondaryLen (Gen.encParams.composite p s) = (Gen.encParams.enc s).length ∧
    nukEncodedPrimary (Gen.encParams.composite p s) = Gen.encParams.enc p ∧
    nukEncodedSecondary (Gen.encParams.composite p s) = Gen.encParams.enc s :=
  composite_split _ Gen.encParams_wf p s hp

theorem C18_composite_order_partial (p s p' s' : Key)
    (hp : (Gen.encParams.enc p).length < 256) (hp' : (Gen.encParams.enc p').length < 256) :
    cmpL (Gen.encParams.composite p s) (Gen.encParams.composite p' s')
      = Ordering.thenO (cmpL s s') (cmpL p p') :=
  composite_cmp_partial _ Gen.encParams_wf p s p' s' hp hp'

theorem enc_zeros_succ (n : Nat) :
    Gen.encParams.enc (List.replicate (n + 1) 0) = Gen.encParams.enc (List.replicate n 0) ++ [1, 1] := by
  rw [List.replicate_succ', EncParams.enc_append]
  rfl

theorem enc_zeros_length (n : Nat) : (Gen.encParams.enc (List.replicate n 0)).length = 2 * n := by
  induction n with
  | zero => rfl
  | succ n ih => rw [enc_zeros_succ, List.length_append, ih]; simp; omega

theorem cmpL_zeros_succ (n : Nat) : cmpL (List.replicate n 0) (List.replicate (n + 1) 0) = .lt := by
  induction n with
  | zero => rfl
  | succ n ih => rw [List.replicate_succ, List.replicate_succ (n := n + 1), cmpL_cons_cons]; simpa using ih

/-- K2's witness with explicit keys: 256 and 257 zero bytes, empty secondary key -/
theorem comp_zeros_gt :
    cmpL (Gen.encParams.composite (List.replicate 256 0) []) (Gen.encParams.composite (List.replicate 257 0) [])
      = .gt := by
  rw [composite_cmp _ Gen.encParams_wf, enc_zeros_length, enc_zeros_length, enc_zeros_succ 256, List.append_assoc,
    cmpL_append_left]
  decide

/-- **K2 (known finding).**  The full-strength statement (no length bound) is
    FALSE for today's source: two primaries, one a prefix of the other, with
    encoded length 512 — the length suffix's high byte (0x02) is compared with a
    key byte (0x01) and wins. -/
theorem C18_composite_order_refuted :
    ∃ p p' s, cmpL p p' = .lt ∧
      cmpL (Gen.encParams.composite p s) (Gen.encParams.composite p' s) = .gt :=
  ⟨_, _, [], cmpL_zeros_succ 256, comp_zeros_gt⟩

/-! ### integer and bool encoders (index/int.go, index/bool.go) -/

theorem C18_uint_injective (w n m : Nat) (hn : n < 256 ^ w) (hm : m < 256 ^ w)
    (h : encUint w n = encUint w m) : n = m := be_injective w n m hn hm h

/-- unsigned integers order numerically under bytewise comparison (any width;
    the code uses 2, 4, 8) -/
theorem C18_uint_order (w n m : Nat) (hn : n < 256 ^ w) (hm : m < 256 ^ w) :
    cmpL (encUint w n) (encUint w m) = cmpN n m := be_cmp w n m hn hm

private theorem twos_inj (M : Nat) (i j : Int) (hM : 0 < M)
    (hi : -((M : Int)) ≤ 2 * i ∧ 2 * i < M) (hj : -((M : Int)) ≤ 2 * j ∧ 2 * j < M)
    (h : (i % (M : Int)).toNat = (j % (M : Int)).toNat) : i = j := by
  have hM' : (M : Int) ≠ 0 := Int.ne_of_gt (Int.natCast_pos.2 hM)
  have h3 : i % (M : Int) = j % (M : Int) := by
    rw [← Int.toNat_of_nonneg (Int.emod_nonneg i hM'), ← Int.toNat_of_nonneg (Int.emod_nonneg j hM'), h]
  -- on the signed range a number is its own balanced remainder, which `% M` determines
  have bi : i.bmod M = i := Int.bmod_eq_of_le_mul_two (Int.mul_comm 2 i ▸ hi.1) (Int.mul_comm 2 i ▸ hi.2)
  have bj : j.bmod M = j := Int.bmod_eq_of_le_mul_two (Int.mul_comm 2 j ▸ hj.1) (Int.mul_comm 2 j ▸ hj.2)
  rw [← bi, ← bj, ← Int.emod_bmod, h3, Int.emod_bmod]

/-- signed encoders (two's complement then big-endian) are injective on the
    range of the w-byte signed type -/
theorem C18_int_injective (w : Nat) (i j : Int)
    (hi : -((256 ^ w : Nat) : Int) ≤ 2 * i ∧ 2 * i < ((256 ^ w : Nat) : Int))
    (hj : -((256 ^ w : Nat) : Int) ≤ 2 * j ∧ 2 * j < ((256 ^ w : Nat) : Int))
    (h : encInt w i = encInt w j) : i = j := by
  have hpos : 0 < 256 ^ w := Nat.pow_pos (by decide)
  have hlt : ∀ k : Int, twos w k < 256 ^ w := fun k =>
    (Int.toNat_lt' hpos).2 (Int.emod_lt_of_pos k (Int.natCast_pos.2 hpos))
  exact twos_inj _ i j hpos hi hj (be_injective w _ _ (hlt i) (hlt j) h)

/-- **K1 (known finding).** `index.Int(n)` converts through `int32`; on a
    platform whose `int` is wider than the encoder it delegates to, two
    different values give the same key. -/
theorem C18_platformInt_refuted :
    ∃ i j : Int, i ≠ j ∧
      -((256 ^ Gen.intParams.platformIntBytes : Nat) : Int) ≤ 2 * i ∧
      2 * i < ((256 ^ Gen.intParams.platformIntBytes : Nat) : Int) ∧
      -((256 ^ Gen.intParams.platformIntBytes : Nat) : Int) ≤ 2 * j ∧
      2 * j < ((256 ^ Gen.intParams.platformIntBytes : Nat) : Int) ∧
      encPlatformInt Gen.intParams i = encPlatformInt Gen.intParams j :=
  ⟨1, 1 + 4294967296, by decide, by decide, by decide, by decide, by decide, by decide⟩

/-- what does hold for `index.Int`: injective on the range of the type it
    delegates to -/
theorem C18_platformInt_injective_partial (i j : Int)
    (hi : -((256 ^ Gen.intParams.intDelegateBytes : Nat) : Int) ≤ 2 * i ∧
          2 * i < ((256 ^ Gen.intParams.intDelegateBytes : Nat) : Int))
    (hj : -((256 ^ Gen.intParams.intDelegateBytes : Nat) : Int) ≤ 2 * j ∧
          2 * j < ((256 ^ Gen.intParams.intDelegateBytes : Nat) : Int))
    (h : encPlatformInt Gen.intParams i = encPlatformInt Gen.intParams j) : i = j :=
  C18_int_injective _ i j hi hj h

theorem C18_bool_injective (a b : Bool) (h : encBool a = encBool b) : a = b := by
  cases a <;> cases b <;> simp [encBool] at h ⊢

/-! ### LPM keys (lpm/key.go) -/

theorem encodeLPM_some (d : List Nat) (l : Nat) (k : List Nat) (h : encodeLPM d l = some k) :
    ∃ data, k = data ++ be 2 l ∧ data.length = (l + 7) / 8 ∧
      data.take ((l + 7) / 8 - 1) = d.take ((l + 7) / 8 - 1) ∧
      (l % 8 = 0 → data = d.take ((l + 7) / 8)) ∧
      (0 < (l + 7) / 8 → l % 8 ≠ 0 →
        data[(l + 7) / 8 - 1]? = some (Nat.land (d.getD ((l + 7) / 8 - 1) 0) (lpmMask (l % 8)))) := by
  rw [encodeLPM_eq] at h
  generalize (l + 7) / 8 = n at h ⊢
  by_cases hlen : d.length < n
  · rw [if_pos hlen] at h; cases h
  · rw [if_neg hlen] at h
    have hn : n ≤ d.length := Nat.le_of_not_lt hlen
    cases h
    by_cases hc : 0 < n ∧ l % 8 ≠ 0
    · obtain ⟨m, rfl⟩ := Nat.exists_eq_succ_of_ne_zero (Nat.ne_of_gt hc.1)
      have hm : (List.take m d).length = m := List.length_take_of_le (Nat.le_of_succ_le hn)
      rw [if_pos hc, Nat.succ_sub_one]
      refine ⟨_, rfl, by rw [List.length_append, hm]; rfl, List.take_left' hm, fun h0 => absurd h0 hc.2,
        fun _ _ => ?_⟩
      rw [List.getElem?_append_right (Nat.le_of_eq hm), hm, Nat.sub_self]
      rfl
    · rw [if_neg hc]
      exact ⟨_, rfl, List.length_take_of_le hn, by rw [List.take_take, Nat.min_eq_left (Nat.sub_le _ _)],
        fun _ => rfl, fun h1 h2 => absurd ⟨h1, h2⟩ hc⟩

theorem decodeLPM_append (data : List Nat) (l : Nat) (hl : l < 65536) (h : (l + 7) / 8 ≤ data.length) :
    decodeLPM (data ++ be 2 l) = some (data, l) := by
  unfold decodeLPM
  rw [if_neg (by rw [List.length_append, be_length]; exact Nat.not_lt.2 (Nat.le_add_left _ _))]
  simp only [drop_len_sub_two _ _ (be_length 2 l), take_len_sub_two _ _ (be_length 2 l), unbe_be,
    Nat.mod_eq_of_lt (show l < 256 ^ 2 from hl), if_neg (Nat.not_lt.2 h)]

/-- LPM keys round-trip: decoding an encoded key gives back the prefix length
    and the data part that was stored (which is the first ⌈l/8⌉ bytes of the
    input with the last byte masked, see `C18_lpm_masked`). -/
theorem C18_lpm_roundtrip (d : List Nat) (l : Nat) (k : List Nat) (hl : l < 65536)
    (h : encodeLPM d l = some k) :
    ∃ data, decodeLPM k = some (data, l) ∧ k = data ++ be 2 l ∧ data.length = (l + 7) / 8 := by
  obtain ⟨data, rfl, hlen, _⟩ := encodeLPM_some d l k h
  exact ⟨data, decodeLPM_append data l hl (Nat.le_of_eq hlen.symm), rfl, hlen⟩

/-- the stored data is the input masked to the prefix length: all bytes before
    the last are copied, the last byte keeps its top `l % 8` bits -/
theorem C18_lpm_masked (d : List Nat) (l : Nat) (k : List Nat)
    (h : encodeLPM d l = some k) :
    let n := (l + 7) / 8
    k.take (n - 1) = d.take (n - 1) ∧
    (0 < n → l % 8 = 0 → k.take n = d.take n) ∧
    (0 < n → l % 8 ≠ 0 → k[n - 1]? = some (Nat.land (d.getD (n - 1) 0) (lpmMask (l % 8)))) := by
  obtain ⟨data, rfl, hlen, h1, h2, h3⟩ := encodeLPM_some d l k h
  refine ⟨?_, fun _ h0 => ?_, fun hn h0 => ?_⟩
  · rw [List.take_append_of_le_length (by rw [hlen]; exact Nat.sub_le _ _), h1]
  · rw [List.take_left' hlen, h2 h0]
  · rw [List.getElem?_append_left (by rw [hlen]; exact Nat.sub_lt hn Nat.one_pos), h3 hn h0]

/-- mask shape: exactly the top `r` bits (table over the finite domain) -/
theorem C18_lpm_mask_table :
    lpmMask 1 = 128 ∧ lpmMask 2 = 192 ∧ lpmMask 3 = 224 ∧ lpmMask 4 = 240 ∧
    lpmMask 5 = 248 ∧ lpmMask 6 = 252 ∧ lpmMask 7 = 254 := by decide

/-! ## non-vacuity: concrete instances meeting the hypotheses -/

example : Gen.encParams.enc [0, 1, 2, 255] = [1, 1, 1, 2, 2, 255] := by decide +kernel
example : cmpL (Gen.encParams.composite [97] [0]) (Gen.encParams.composite [97, 0] [0]) = .lt := by decide +kernel
example : (Gen.encParams.enc [97, 0]).length < 256 := by decide +kernel
example : encodeLPM [255, 255] 12 = some [255, 240, 0, 12] := by decide +kernel
example : decodeLPM [255, 240, 0, 12] = some ([255, 240], 12) := by decide +kernel
example : encUint 2 258 = [1, 2] := by decide +kernel

end Sdb
