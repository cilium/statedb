import SdbModel.Model.ReconcilerBatch
import SdbModel.Props.C14
import SdbModel.Lemmas.ReconcilerBatchMeasure
import SdbModel.Lemmas.ReconcilerBatchSim

/-!
# C14 (batch mode) — Reconciler converges: target equals table once failures stop

> For any history of inserts, updates and deletes on the reconciled table and
> any pattern of failing Update/Delete operations, once operations stop failing
> and the table stops changing the reconciler reaches, within a bounded number
> of retry periods, a state where the target equals the table (…).  No object is
> forgotten, whatever the round size, rate limits, batch or single operations,
> or retry timing.

> "… the last successful operation for every live object is an Update with its
> latest contents and its status is Done, and the last operation for every
> removed object is a successful Delete."

The batch counterparts of the theorems of `Props/C14.lean`, proved over
`Model.ReconcilerBatch` (`roundB`, `quiesceB`, `advanceB`: the changes of a round
are collected, `DeleteBatch` runs before `UpdateBatch`, retries run through the
single operations; no writes from inside an Update: `injects = []`), for ALL
reachable states, configurations and fuels, with the SAME invariant `WInv`, the
SAME measure `Mz` and the same hypotheses as in single mode:

* `WInv` is preserved by a batch round, by `quiesceB` and by `advanceB`, hence it
  holds in every state reachable by user writes / deletes / failure switches /
  batch rounds / time (`C14_batch_inv_round` … `C14_batch_inv_reachable`; also for
  reconcilers that mix both kinds of rounds, `C14_batch_inv_reachable_mixed`);
* nothing is forgotten (`C14_batch_nothing_forgotten`, `C14_batch_idle_nothing_forgotten`,
  `C14_batch_timer_armed_for_head`);
* progress: once nothing fails every triggered batch round decreases `Mz`
  (`C14_batch_round_decreases_measure`, `C14_batch_quiesce_goes_idle`);
* convergence: `C14_batch_converged_quiesce` (any size, any round size ≥ 1),
  `C14_batch_converged_when_idle` (through `advanceB`, any fuel),
  `C14_batch_converged_advance_partial` (≤ 10 queued retries, the model's inner fuel 64);
* the two modes (no writes from inside an Update): from the same state a batch
  round and a single round make the same calls up to their order — the batch
  round the Deletes first, then the Updates, then the retries — and end in the same
  state up to the order of the log and the unobservable timer/tie ghost: same
  objects and statuses, same retries, same iterator, same wake-up condition
  (`C14_batch_round_same_calls`, `C14_batch_round_calls_deletes_first`,
  `C14_batch_round_same_state`, `C14_batch_round_same_statuses`,
  `C14_batch_round_same_wakeup`); a batch round that is handed no changes IS the
  single round (`C14_batch_round_without_changes_eq_single`).

As in single mode the one hypothesis beyond the configuration's validity is
that no foreign writer touches an object while its status is Error (finding K4,
`C14_touch_on_error_refuted`).
-/
namespace Sdb
open Rec

/-! ## the invariant of the reachable states -/

/-- the states of a reconciler with batch operations reachable from the initial
    one by user writes and deletes, foreign status writes on objects whose status
    is NOT Error (finding K4), switching failures on and off, running the batch
    loop (`quiesceB`, any fuel) and letting time pass (`advanceB`, any fuel) -/
inductive C14BatchReachable : R → Prop
  | init (c : Cfg) : C14BatchReachable { cfg := c }
  | put {r : R} (id data : Nat) : C14BatchReachable r → C14BatchReachable (r.userPut id data)
  | del {r : R} (id : Nat) : C14BatchReachable r → C14BatchReachable (r.delObj id)
  | touch {r : R} (id : Nat) : C14BatchReachable r → (∀ o, r.get id = some o → o.kind ≠ .error) → C14BatchReachable (r.touch id)
  | fail {r : R} (l : List Nat) : C14BatchReachable r → C14BatchReachable { r with failing := l }
  | quiesceB {r : R} (fuel : Nat) : C14BatchReachable r → C14BatchReachable (r.quiesceB fuel)
  | advanceB {r : R} (ms fuel : Nat) : C14BatchReachable r → C14BatchReachable (r.advanceB ms fuel)

/-- the same with single and batch rounds mixed at will (a superset of both
    `C14Reachable` and `C14BatchReachable`) -/
inductive C14MixedReachable : R → Prop
  | init (c : Cfg) : C14MixedReachable { cfg := c }
  | put {r : R} (id data : Nat) : C14MixedReachable r → C14MixedReachable (r.userPut id data)
  | del {r : R} (id : Nat) : C14MixedReachable r → C14MixedReachable (r.delObj id)
  | touch {r : R} (id : Nat) : C14MixedReachable r → (∀ o, r.get id = some o → o.kind ≠ .error) → C14MixedReachable (r.touch id)
  | fail {r : R} (l : List Nat) : C14MixedReachable r → C14MixedReachable { r with failing := l }
  | round {r : R} : C14MixedReachable r → C14MixedReachable r.fireTimer.round
  | roundB {r : R} : C14MixedReachable r → C14MixedReachable r.fireTimer.roundB
  | quiesce {r : R} (fuel : Nat) : C14MixedReachable r → C14MixedReachable (r.quiesce fuel)
  | advance {r : R} (ms fuel : Nat) : C14MixedReachable r → C14MixedReachable (r.advance ms fuel)
  | quiesceB {r : R} (fuel : Nat) : C14MixedReachable r → C14MixedReachable (r.quiesceB fuel)
  | advanceB {r : R} (ms fuel : Nat) : C14MixedReachable r → C14MixedReachable (r.advanceB ms fuel)

/-- the invariant `WInv` of single mode (`Props/C14.lean`: bookkeeping `InvL`, iterator
    position `Sync`, exact retry timer and retry times `QInv`) is preserved by one batch
    reconciliation round, … -/
theorem C14_batch_inv_round (r : R) (h : WInv r) : WInv r.roundB := h.roundB

/-- … by running the batch loop until it goes idle or the fuel ends, … -/
theorem C14_batch_inv_quiesce (r : R) (fuel : Nat) (h : WInv r) : WInv (r.quiesceB fuel) := h.quiesceB fuel

/-- … and by letting time pass. -/
theorem C14_batch_inv_advance (r : R) (ms fuel : Nat) (h : WInv r) : WInv (r.advanceB ms fuel) := h.advanceB ms fuel

/-- hence it holds in every state reachable with batch operations (the steps
    other than the rounds are those of `C14_inv_userPut` … `C14_inv_set_failing`) -/
theorem C14_batch_inv_reachable {r : R} (h : C14BatchReachable r) : WInv r := by
  induction h with
  | init c => exact C14_inv_initial c
  | put id data _ ih => exact C14_inv_userPut _ id data ih
  | del id _ ih => exact C14_inv_delObj _ id ih
  | touch id _ hne ih => exact C14_inv_touch_not_error _ id ih hne
  | fail l _ ih => exact C14_inv_set_failing _ l ih
  | quiesceB fuel _ ih => exact ih.quiesceB fuel
  | advanceB ms fuel _ ih => exact ih.advanceB ms fuel

/-- … and in every state reachable with single and batch rounds mixed at will -/
theorem C14_batch_inv_reachable_mixed {r : R} (h : C14MixedReachable r) : WInv r := by
  induction h with
  | init c => exact C14_inv_initial c
  | put id data _ ih => exact C14_inv_userPut _ id data ih
  | del id _ ih => exact C14_inv_delObj _ id ih
  | touch id _ hne ih => exact C14_inv_touch_not_error _ id ih hne
  | fail l _ ih => exact C14_inv_set_failing _ l ih
  | round _ ih => exact ih.fireTimer.round
  | roundB _ ih => exact ih.fireTimer.roundB
  | quiesce fuel _ ih => exact ih.quiesce fuel
  | advance ms fuel _ ih => exact ih.advance ms fuel
  | quiesceB fuel _ ih => exact ih.quiesceB fuel
  | advanceB ms fuel _ ih => exact ih.advanceB ms fuel

/-- **nothing is forgotten** (between any two batch rounds): in every state
    reachable with batch operations every live object is Done and the last call
    logged for it is a successful Update with its current data, or it still is
    to be delivered to the loop (Pending, revision beyond the iterator), or it is
    Error and a retry of exactly this version is queued, due within the maximal
    backoff; every retained deletion is still to be delivered, or its Delete is
    queued for a retry, or the last call logged for it is a successful Delete -/
theorem C14_batch_nothing_forgotten {r : R} (h : C14BatchReachable r) :
    (∀ o ∈ r.objs,
      (o.kind = .done ∧ lastCall r.log o.id = some ⟨"U", o.id, o.data, true⟩) ∨
      ((o.kind = .pending ∨ o.kind = .refreshing) ∧ o.rev > r.itRev) ∨
      (o.kind = .error ∧ ∃ it ∈ r.items, it.id = o.id ∧ it.delete = false ∧ it.rev = o.rev ∧ it.inQueue = true ∧
        it.retryAt ≤ r.now + r.cfg.maxB)) ∧
    (∀ d ∈ r.dels,
      d.2 > r.itDelRev ∨
      (∃ it ∈ r.items, it.id = d.1.id ∧ it.delete = true ∧ it.inQueue = true ∧ it.retryAt ≤ r.now + r.cfg.maxB) ∨
      (∃ c, lastCall r.log d.1.id = some c ∧ c.op = "D" ∧ c.ok = true)) :=
  C14_inv_nothing_forgotten (C14_batch_inv_reachable h)

/-- the same after any further batch round, from any state satisfying the invariant -/
theorem C14_batch_round_nothing_forgotten {r : R} (h : WInv r) :
    (∀ o ∈ r.roundB.objs,
      (o.kind = .done ∧ lastCall r.roundB.log o.id = some ⟨"U", o.id, o.data, true⟩) ∨
      ((o.kind = .pending ∨ o.kind = .refreshing) ∧ o.rev > r.roundB.itRev) ∨
      (o.kind = .error ∧ ∃ it ∈ r.roundB.items, it.id = o.id ∧ it.delete = false ∧ it.rev = o.rev ∧ it.inQueue = true ∧
        it.retryAt ≤ r.roundB.now + r.roundB.cfg.maxB)) ∧
    (∀ d ∈ r.roundB.dels,
      d.2 > r.roundB.itDelRev ∨
      (∃ it ∈ r.roundB.items, it.id = d.1.id ∧ it.delete = true ∧ it.inQueue = true ∧ it.retryAt ≤ r.roundB.now + r.roundB.cfg.maxB) ∨
      (∃ c, lastCall r.roundB.log d.1.id = some c ∧ c.op = "D" ∧ c.ok = true)) :=
  C14_inv_nothing_forgotten h.roundB

/-- in an IDLE state of the batch loop (states returned by `quiesceB` with enough
    fuel) nothing is left to be delivered: every live object is Done with the
    target or Error with a queued retry, every retained deletion was applied or
    has a queued retry -/
theorem C14_batch_idle_nothing_forgotten {r : R} (h : C14BatchReachable r) (hidle : r.triggered = false) :
    (∀ o ∈ r.objs,
      (o.kind = .done ∧ lastCall r.log o.id = some ⟨"U", o.id, o.data, true⟩) ∨
      (o.kind = .error ∧ ∃ it ∈ r.items, it.id = o.id ∧ it.delete = false ∧ it.rev = o.rev ∧ it.inQueue = true)) ∧
    (∀ d ∈ r.dels,
      (∃ c, lastCall r.log d.1.id = some c ∧ c.op = "D" ∧ c.ok = true) ∨
      (∃ it ∈ r.items, it.id = d.1.id ∧ it.delete = true ∧ it.inQueue = true)) :=
  C14_idle_nothing_forgotten (C14_batch_inv_reachable h) hidle

/-- the retry timer is armed exactly for the earliest queued retry (or has fired
    for one that is due); no retry is due later than the maximal backoff from now -/
theorem C14_batch_timer_armed_for_head {r : R} (h : C14BatchReachable r) :
    (∀ hd, r.head = some hd → r.timer = .armed hd.retryAt ∨ (r.timer = .fired ∧ hd.retryAt ≤ r.now)) ∧
    (r.head = none → r.timer = .none ∨ r.timer = .stopped) ∧
    (∀ it ∈ r.items, it.inQueue = true ∧ it.retryAt ≤ r.now + r.cfg.maxB) :=
  C14_inv_timer_armed_for_head (C14_batch_inv_reachable h)

/-! ## progress: the batch loop goes idle (explicit fuel) -/

/-- **progress.**  Once nothing fails, every triggered batch round strictly
    decreases the measure `Mz` of the outstanding work (the same measure as in
    single mode); the round size must be positive, as `reconciler.Config.validate` demands. -/
theorem C14_batch_round_decreases_measure {r : R} (h : WInv r) (hf : r.failing = []) (hrs : 1 ≤ r.cfg.roundSize)
    (htr : r.triggered = true) : Mz r.roundB < Mz r :=
  mz_roundB h.rinv h.q hf hrs htr

/-- hence `quiesceB` reaches an idle state when its fuel exceeds
    3·(2·#objects + #retained deletions + 2·#retry items) + 2, whatever the round size -/
theorem C14_batch_quiesce_goes_idle {r : R} (h : WInv r) (hf : r.failing = []) (hrs : 1 ≤ r.cfg.roundSize) (fuel : Nat)
    (hfuel : 3 * (2 * r.objs.length + r.dels.length + 2 * r.items.length) + 2 < fuel) :
    (r.quiesceB fuel).triggered = false :=
  ((h.toSInv hf).quiesceB_idle hrs fuel (by have := mz_le_sizes r; omega)).1

/-! ## convergence -/

/-- **convergence, any size (batch mode).**  From any state satisfying the invariant
    in which nothing fails any more: at any time `T` later than the maximal
    backoff from now, running the batch loop with fuel beyond 3·(2·#objects +
    #deletions + 2·#retries) + 2 ends idle with target = table: every live object
    is Done and its last logged call is a successful Update with its current
    data, the last logged call of every retained deletion is a successful
    Delete, no retry is left, the retry low-watermark is 0.  Any round size ≥ 1,
    any backoff. -/
theorem C14_batch_converged_quiesce {r : R} (h : WInv r) (hf : r.failing = []) (hrs : 1 ≤ r.cfg.roundSize) (T fuel : Nat)
    (hT : r.now + r.cfg.maxB < T)
    (hfuel : 3 * (2 * r.objs.length + r.dels.length + 2 * r.items.length) + 2 < fuel) :
    let f := ({ r with now := T } : R).quiesceB fuel
    f.triggered = false ∧
    (∀ o ∈ f.objs, o.kind = .done ∧ lastCall f.log o.id = some ⟨"U", o.id, o.data, true⟩) ∧
    (∀ d ∈ f.dels, ∃ c, lastCall f.log d.1.id = some c ∧ c.op = "D" ∧ c.ok = true) ∧
    f.items = [] ∧ f.lowWatermark = 0 := by
  intro f
  have h0 : SInv (r.now + r.cfg.maxB) ({ r with now := T } : R) := (h.toSInv hf).setNow T (by omega)
  have hidle := (h0.quiesceB_idle (r := { r with now := T }) hrs fuel (by have := mz_le_sizes r; exact Nat.lt_of_le_of_lt this hfuel)).1
  obtain ⟨h1, e1⟩ := h0.quiesceB fuel
  exact ⟨hidle, idle_converged h1.rinv h1.q (by rw [e1]; exact hT) hidle⟩

/-- **target equals table (batch mode, through `advanceB`).**  From any state
    satisfying the invariant in which no operation fails any more, let more than
    the maximal backoff pass (`advanceB ms fuel`, `ms > maxB`, no further user
    action).  If the loop has gone idle by then, every live object is Done and
    the last call logged for it is a successful Update with its current data,
    the last call logged for every retained deletion is a successful Delete, no
    retry is left and the retry low-watermark is 0.  Any round size, backoff, fuel. -/
theorem C14_batch_converged_when_idle {r : R} (h : WInv r) (hf : r.failing = []) (ms fuel : Nat) (hms : r.cfg.maxB < ms)
    (hidle : (r.advanceB ms fuel).triggered = false) :
    (∀ o ∈ (r.advanceB ms fuel).objs, o.kind = .done ∧
      lastCall (r.advanceB ms fuel).log o.id = some ⟨"U", o.id, o.data, true⟩) ∧
    (∀ d ∈ (r.advanceB ms fuel).dels, ∃ c, lastCall (r.advanceB ms fuel).log d.1.id = some c ∧ c.op = "D" ∧ c.ok = true) ∧
    (r.advanceB ms fuel).items = [] ∧ (r.advanceB ms fuel).lowWatermark = 0 := by
  obtain ⟨hs, hnow⟩ := (h.toSInv hf).advanceB ms fuel
  exact idle_converged hs.rinv hs.q (by rw [hnow]; omega) hidle

/-- `advanceB` (which wakes the loop at every timer instant, each time with the
    model's inner fuel 64) ends idle when started in an idle state with at most
    10 queued retries and fuel beyond 6·#retries.  PARTIAL in the same sense as
    `C14_advance_goes_idle_partial`: states with more queued retries need more than
    the inner fuel 64 that `Model.ReconcilerBatch.advanceB` hard-codes;
    `C14_batch_converged_quiesce` has no such bound. -/
theorem C14_batch_advance_goes_idle_partial {r : R} (h : WInv r) (hf : r.failing = []) (hrs : 1 ≤ r.cfg.roundSize)
    (hidle : r.triggered = false) (ms fuel : Nat) (h64 : 6 * r.items.length < 64) (hfuel : 6 * r.items.length < fuel) :
    (r.advanceB ms fuel).triggered = false := by
  have hm := h.rinv.mz_idle hidle
  exact advanceB_eq r ms fuel ▸ (sround_batch _).advance_idle (h.toSInv hf) hrs hidle ms fuel (by omega) (by omega)

/-- **convergence through `advanceB`** (PARTIAL in the same sense): from an idle
    state satisfying the invariant in which nothing fails any more, with at most
    10 queued retries, after more than the maximal backoff (`fuel > 6·#retries`)
    the batch loop is idle and target = table -/
theorem C14_batch_converged_advance_partial {r : R} (h : WInv r) (hf : r.failing = []) (hrs : 1 ≤ r.cfg.roundSize)
    (hidle : r.triggered = false) (ms fuel : Nat) (hms : r.cfg.maxB < ms)
    (h64 : 6 * r.items.length < 64) (hfuel : 6 * r.items.length < fuel) :
    (r.advanceB ms fuel).triggered = false ∧
    (∀ o ∈ (r.advanceB ms fuel).objs, o.kind = .done ∧
      lastCall (r.advanceB ms fuel).log o.id = some ⟨"U", o.id, o.data, true⟩) ∧
    (∀ d ∈ (r.advanceB ms fuel).dels, ∃ c, lastCall (r.advanceB ms fuel).log d.1.id = some c ∧ c.op = "D" ∧ c.ok = true) ∧
    (r.advanceB ms fuel).items = [] ∧ (r.advanceB ms fuel).lowWatermark = 0 := by
  have hi := C14_batch_advance_goes_idle_partial h hf hrs hidle ms fuel h64 hfuel
  exact ⟨hi, C14_batch_converged_when_idle h hf ms fuel hms hi⟩

/-! ## the two modes -/

/-- a batch round that is handed no changes by the iterator (it only commits and
    processes due retries, which go through the single operations in both
    modes) is exactly the single-mode round -/
theorem C14_batch_round_without_changes_eq_single (r : R) (h : r.nextChanges.2 = []) : r.roundB = r.round :=
  roundB_eq_round_of_nil r h

/-- **same calls.**  From any state satisfying the invariant a batch round and a
    single round both only append to the call log, and the calls the batch round
    appends are a permutation of those the single round appends (the same
    multiset of Update / Delete calls, with the same data and outcomes) -/
theorem C14_batch_round_same_calls {r : R} (h : WInv r) :
    ∃ cs cb, r.round.log = r.log ++ cs ∧ r.roundB.log = r.log ++ cb ∧ cs.Perm cb :=
  round_calls_perm h.rinv

/-- the calls of a batch round in order: Deletes, then Updates, then further calls
    `rt`, for some entries `ds`, `us` (`Rec.roundB_log_prefix`: the two batches the
    round collected, and `rt` the calls made for due retries) -/
theorem C14_batch_round_calls_deletes_first {r : R} (h : WInv r) :
    ∃ (ds us : List (RObj × Nat)) (rt : List Call), r.roundB.log = r.log ++
      (ds.map (fun e => (⟨"D", e.1.id, e.1.data, !r.isFailing e.1.id⟩ : Call)) ++
       us.map (fun e => (⟨"U", e.1.id, e.1.data, !r.isFailing e.1.id⟩ : Call)) ++ rt) :=
  let ⟨rt, e⟩ := roundB_log_prefix h.rinv
  ⟨_, _, rt, e⟩

/-- **same state.**  The state after a single round is the state after a batch
    round from the same state, except for the call log (a permutation,
    `C14_batch_round_same_calls`), the retry timer (equivalent,
    `C14_batch_round_same_wakeup`) and the tie ghost -/
theorem C14_batch_round_same_state {r : R} (h : WInv r) :
    r.round = { r.roundB with log := r.round.log, timer := r.round.timer, tieSeen := r.round.tieSeen } ∧
    r.round.log.Perm r.roundB.log :=
  round_sim h.rinv

/-- **same statuses**: in particular the objects with their statuses, the retained
    deletions, the queued retries (same retry times), the iterator positions, the
    pending flag and the reported progress agree -/
theorem C14_batch_round_same_statuses {r : R} (h : WInv r) :
    r.roundB.objs = r.round.objs ∧ r.roundB.dels = r.round.dels ∧ r.roundB.items = r.round.items ∧
    r.roundB.itRev = r.round.itRev ∧ r.roundB.itDelRev = r.round.itDelRev ∧ r.roundB.pending = r.round.pending ∧
    r.roundB.tableRev = r.round.tableRev ∧ r.roundB.refreshedAt = r.round.refreshedAt ∧
    r.roundB.progressRev = r.round.progressRev ∧ r.roundB.progressLW = r.round.progressLW ∧
    r.roundB.lowWatermark = r.round.lowWatermark := by
  have e := (round_sim h.rinv).1
  -- `r.round` is made a variable first: the `rfl`s below would otherwise unfold it
  generalize r.round = x at e ⊢
  generalize r.roundB = y at e ⊢
  rw [e]
  exact ⟨rfl, rfl, rfl, rfl, rfl, rfl, rfl, rfl, rfl, rfl, rfl⟩

/-- **same wake-up**: after the round the loop has something to wake up for in one
    mode iff it has in the other -/
theorem C14_batch_round_same_wakeup {r : R} (h : WInv r) : r.roundB.triggered = r.round.triggered := by
  have h1 := h.round.q
  rw [(round_sim h.rinv).1] at h1 ⊢
  exact (triggered_asm h1 h.roundB.q).symm

/-! ## non-vacuity -/

/-- a state reachable with batch operations, non-trivial: one object Done, one Error with a queued retry, one deletion applied -/
def c14BEx : R :=
  let r : R := { (((({} : R).userPut 1 7).userPut 2 8).userPut 3 9) with failing := [2] }
  ((r.quiesceB 10).delObj 3).quiesceB 10

example : C14BatchReachable c14BEx :=
  .quiesceB 10 (.del 3 (.quiesceB 10 (.fail [2] (.put 3 9 (.put 2 8 (.put 1 7 (.init {})))))))

example : WInv c14BEx := C14_batch_inv_reachable
  (.quiesceB 10 (.del 3 (.quiesceB 10 (.fail [2] (.put 3 9 (.put 2 8 (.put 1 7 (.init {}))))))))

example : c14BEx.triggered = false ∧ c14BEx.objs.map (·.kind) = [.done, .error] ∧ c14BEx.items.length = 1 ∧ c14BEx.dels.length = 1 := by
  decide +kernel

/-- a batch round with a delete batch and an update batch, one Delete and one Update failing:
    the calls are the Deletes first, then the Updates -/
example :
    let r : R := ((((({} : R).userPut 1 7).userPut 2 8).quiesceB 10).delObj 1).delObj 2
    let r : R := { ((r.userPut 3 9).userPut 4 5) with failing := [2, 4] }
    (r.roundB.log.drop 2).map (fun c => (c.op, c.id, c.ok)) = [("D", 1, true), ("D", 2, false), ("U", 3, true), ("U", 4, false)] ∧
    r.roundB.objs.map (fun o => (o.id, o.kind)) = [(3, .done), (4, .error)] ∧ r.roundB.items.map (fun i => (i.id, i.delete)) = [(2, true), (4, false)] := by
  decide +kernel

/-- the two modes really differ in the order of the calls: an Update written before a Delete is
    called after it by the batch round (and `C14_batch_round_same_calls` is about a non-trivial permutation) -/
example :
    let r : R := (((({} : R).userPut 1 7).quiesceB 10).userPut 3 9).delObj 1
    (r.round.log.drop 1).map (fun c => (c.op, c.id)) = [("U", 3), ("D", 1)] ∧
    (r.roundB.log.drop 1).map (fun c => (c.op, c.id)) = [("D", 1), ("U", 3)] ∧
    r.roundB.objs = r.round.objs ∧ r.roundB.items.map (fun i => (i.id, i.retryAt)) = r.round.items.map (fun i => (i.id, i.retryAt)) := by
  decide +kernel

/-- the hypotheses of `C14_batch_converged_when_idle` are satisfiable: after the failure stops the loop is idle at the end -/
example : (({ c14BEx with failing := [] } : R).advanceB 1001 10).triggered = false ∧
    (({ c14BEx with failing := [] } : R).advanceB 1001 10).objs.map (·.kind) = [.done, .done] := by decide +kernel

/-- the hypotheses of `C14_batch_converged_advance_partial` hold of the example state -/
example : ({ c14BEx with failing := [] } : R).triggered = false ∧ 1 ≤ ({ c14BEx with failing := [] } : R).cfg.roundSize ∧
    6 * ({ c14BEx with failing := [] } : R).items.length < 64 ∧ ({ c14BEx with failing := [] } : R).cfg.maxB < 1001 := by decide +kernel

/-- … and of `C14_batch_converged_quiesce` (fuel 30 > 3·(2·2 + 1 + 2·1) + 2 = 23), and of
    `C14_batch_round_decreases_measure` (a triggered state in which nothing fails) -/
example : 3 * (2 * c14BEx.objs.length + c14BEx.dels.length + 2 * c14BEx.items.length) + 2 < 30 ∧ c14BEx.now + c14BEx.cfg.maxB < 5000 ∧
    ({ c14BEx with failing := [], now := 5000 } : R).fireTimer.triggered = true := by
  decide +kernel

/-- `C14_batch_round_without_changes_eq_single` is not vacuous: a triggered state whose round finds no changes -/
example : ({ c14BEx with failing := [], now := 5000 } : R).fireTimer.nextChanges.2 = [] := by decide +kernel

end Sdb
