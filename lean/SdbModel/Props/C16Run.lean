import SdbModel.Props.C14
import SdbModel.Lemmas.ReconcilerProgressPace
import SdbModel.Lemmas.ReconcilerProgressIdle
import SdbModel.Lemmas.ReconcilerProgressOrig

/-!
# C16 over whole runs — the WaitUntilReconciled contract and retry pacing in every reachable state

> A failed operation is retried, never sooner than the configured minimum
> backoff after the failure, with waits that do not shrink over consecutive
> failures of the same object and are capped by the configured maximum (an
> otherwise idle reconciler retries within the maximum plus one round), and the
> backoff starts over after the object changes or succeeds.
> WaitUntilReconciled(rev) returns without error only after every change up to
> rev has been attempted at least once, and the retry low-watermark it reports
> is zero exactly when no failed object awaits retry, otherwise the revision of
> the oldest change among the failed ones.

`Props/C16.lean` has the step-level facts.  Here the same clauses are proved as
INVARIANTS of `Model.Reconciler` (single operations, `injects = []`), for every
state reachable by the steps of `C14Reachable` (user writes and deletes, foreign
status writes on non-Error objects, failure switches, `quiesce`, `advance`; any
configuration, any fuel), and as statements about EVERY round of every run.  The
run invariant `PInv` (`C16_run_inv_*`: initial, preserved by every step,
`C16_run_inv_reachable`) extends the invariant `WInv` of C14 by what every retry
item stores, by the soundness of the progress tracker's revision `progressRev`
(WaitUntilReconciled(rev) returns once `progressRev ≥ rev`) and by the meaning
of the reported low-watermark `progressLW`.  The low-watermark clause holds of the
repaired `retries.Add`, which keeps `origRev` over the retries of an item; of the
code before the repair it is false (`C16_run_lw_stays_at_failed_change_example`).
-/
namespace Sdb
open Rec

/-! ## the run invariant holds in every reachable state -/

/-- the run invariant holds initially … -/
theorem C16_run_inv_initial (c : Cfg) : PInv { cfg := c } := PInv.init c
/-- … is preserved by a user write, … -/
theorem C16_run_inv_userPut (r : R) (id data : Nat) (h : PInv r) : PInv (r.userPut id data) := h.userPut id data
/-- … a user delete, … -/
theorem C16_run_inv_delObj (r : R) (id : Nat) (h : PInv r) : PInv (r.delObj id) := h.delObj id
/-- … a foreign status write on an object that is not in Error state (K4), … -/
theorem C16_run_inv_touch_not_error (r : R) (id : Nat) (h : PInv r) (hne : ∀ o, r.get id = some o → o.kind ≠ .error) :
    PInv (r.touch id) := h.touch id hne
/-- … switching failures, … -/
theorem C16_run_inv_set_failing (r : R) (l : List Nat) (h : PInv r) : PInv { r with failing := l } := h.setFailing l
/-- … the retry timer firing (what `quiesce` does before a round), … -/
theorem C16_run_inv_fireTimer (r : R) (h : PInv r) : PInv r.fireTimer := h.fireTimer
/-- … time passing, … -/
theorem C16_run_inv_setNow (r : R) (t : Nat) (ht : r.now ≤ t) (h : PInv r) : PInv { r with now := t } := h.setNow t ht
/-- … one reconciliation round (so every round of every run starts in a state satisfying the
    invariant: the round-level theorems below take `PInv r` as their hypothesis), … -/
theorem C16_run_inv_round (r : R) (h : PInv r) : PInv r.round := h.round
/-- … running the loop, … -/
theorem C16_run_inv_quiesce (r : R) (fuel : Nat) (h : PInv r) : PInv (r.quiesce fuel) := h.quiesce fuel
/-- … and letting time pass. -/
theorem C16_run_inv_advance (r : R) (ms fuel : Nat) (h : PInv r) : PInv (r.advance ms fuel) := h.advance ms fuel

/-- the invariant, and with it what every Update item holds under a valid backoff configuration
    (`OI`; the configuration never changes along a run) -/
theorem reach_inv {r : R} (h : C14Reachable r) : PInv r ∧ (PosB r.cfg → OI r) := by
  induction h with
  | init c => exact ⟨PInv.init c, fun _ it hit => nomatch hit⟩
  | put id data _ ih => exact ⟨ih.1.userPut id data, fun hp => (ih.2 hp).congr rfl⟩
  | @del r id _ ih =>
    have f := frameW_delObj r id
    exact ⟨ih.1.delObj id, fun hp => (ih.2 (f.cfg ▸ hp)).congr f.items⟩
  | @touch r id _ hne ih =>
    have f := frameW_touch r id
    exact ⟨ih.1.touch id hne, fun hp => (ih.2 (f.cfg ▸ hp)).congr f.items⟩
  | fail l _ ih => exact ⟨ih.1.setFailing l, fun hp => (ih.2 hp).congr rfl⟩
  | @quiesce r fuel _ ih =>
    have hc := (ih.1.w.quiesce_frame fuel).cfg
    exact ⟨ih.1.quiesce fuel, fun hp => (ih.2 (hc ▸ hp)).quiesce ih.1 (hc ▸ hp) fuel⟩
  | @advance r ms fuel _ ih =>
    have hc := (ih.1.w.advance_frame ms fuel).2
    exact ⟨ih.1.advance ms fuel, fun hp => (ih.2 (hc ▸ hp)).advance ih.1 (hc ▸ hp) ms fuel⟩

/-- hence it holds in every reachable state -/
theorem C16_run_inv_reachable {r : R} (h : C14Reachable r) : PInv r := (reach_inv h).1

/-! ## 1. everything up to `progressRev` has been attempted -/

/-- the progress tracker never runs ahead of the table -/
theorem C16_run_progressRev_le_tableRev {r : R} (h : C14Reachable r) : r.progressRev ≤ r.tableRev :=
  (C16_run_inv_reachable h).x.prog.le

/-- **WaitUntilReconciled(rev) returns only after every change up to `rev` was attempted.**
    In every reachable state with `rev ≤ progressRev` (the condition under which
    `WaitUntilReconciled(rev)` returns without error): every live object whose revision is
    at most `rev` is no longer waiting for the loop — it is Done and the last call logged for it is
    a successful Update with its current data, or it is Error, the last call logged for it is a
    FAILED Update with its current data and a retry of exactly this version is queued — and for
    every retained deletion with a revision up to `rev` the last call logged is a Delete:
    a successful one, or a failed one whose retry is queued. -/
theorem C16_run_attempted_up_to_progressRev {r : R} (h : C14Reachable r) (rev : Nat) (hrev : rev ≤ r.progressRev) :
    (∀ o ∈ r.objs, o.rev ≤ rev →
      (o.kind = .done ∧ lastCall r.log o.id = some ⟨"U", o.id, o.data, true⟩) ∨
      (o.kind = .error ∧ lastCall r.log o.id = some ⟨"U", o.id, o.data, false⟩ ∧
        ∃ it ∈ r.items, it.id = o.id ∧ it.delete = false ∧ it.rev = o.rev ∧ it.inQueue = true)) ∧
    (∀ d ∈ r.dels, d.2 ≤ rev →
      (∃ c, lastCall r.log d.1.id = some c ∧ c.op = "D" ∧ c.ok = true) ∨
      ((∃ c, lastCall r.log d.1.id = some c ∧ c.op = "D" ∧ c.ok = false) ∧
        ∃ it ∈ r.items, it.id = d.1.id ∧ it.delete = true ∧ it.inQueue = true)) := by
  have hp := C16_run_inv_reachable h
  have hI := hp.w.rinv.inv
  refine ⟨fun o ho hle => ?_, fun d hd hle => ?_⟩
  · have hit : o.rev ≤ r.itRev := hp.x.prog.obj o ho (Nat.le_trans hle hrev)
    cases hk : o.kind with
    | done => exact Or.inl ⟨rfl, ((hI.objOK o ho).1 hk).1⟩
    | error =>
      obtain ⟨it, hit', b1, b2, b3, b4⟩ := hI.error_item ho hk
      have hi := hp.x.items it hit'
      have hc := hi.call
      rw [b2, b1, ← hi.data b2 o ho b1.symm b3.symm] at hc
      exact Or.inr ⟨rfl, hc, it, hit', b1, b2, b3, b4⟩
    | pending => exact absurd (hI.waiting_gt ho (Or.inl hk)) (Nat.not_lt.2 hit)
    | refreshing => exact absurd (hI.waiting_gt ho (Or.inr hk)) (Nat.not_lt.2 hit)
  · have hit : d.2 ≤ r.itDelRev := hp.x.prog.del d hd (Nat.le_trans hle hrev)
    rcases hI.delOK d hd with a | ⟨it, hit', b1, b2, b3⟩ | a
    · exact absurd a (Nat.not_lt.2 hit)
    · have hc := (hp.x.items it hit').call
      rw [b2, b1] at hc
      exact Or.inr ⟨⟨_, hc, rfl, rfl⟩, it, hit', b1, b2, b3⟩
    · exact Or.inl a.1

/-- no live object whose revision is at most `progressRev` still waits for the loop (Pending or
    Refreshing), and every such object and every such retained deletion has been passed by the
    change iterator -/
theorem C16_run_nothing_pending_up_to_progressRev {r : R} (h : C14Reachable r) :
    (∀ o ∈ r.objs, o.rev ≤ r.progressRev → o.rev ≤ r.itRev ∧ o.kind ≠ .pending ∧ o.kind ≠ .refreshing) ∧
    (∀ d ∈ r.dels, d.2 ≤ r.progressRev → d.2 ≤ r.itDelRev) := by
  have hp := C16_run_inv_reachable h
  refine ⟨fun o ho hle => ?_, fun d hd hle => hp.x.prog.del d hd hle⟩
  have hit : o.rev ≤ r.itRev := hp.x.prog.obj o ho hle
  exact ⟨hit, fun hk => absurd (hp.w.rinv.inv.waiting_gt ho (Or.inl hk)) (Nat.not_lt.2 hit),
    fun hk => absurd (hp.w.rinv.inv.waiting_gt ho (Or.inr hk)) (Nat.not_lt.2 hit)⟩

/-- one step of a run: the constructors of `C14Reachable` as a relation, and a single round -/
inductive C16Step : R → R → Prop
  | put (r : R) (id data : Nat) : C16Step r (r.userPut id data)
  | del (r : R) (id : Nat) : C16Step r (r.delObj id)
  | touch (r : R) (id : Nat) : (∀ o, r.get id = some o → o.kind ≠ .error) → C16Step r (r.touch id)
  | fail (r : R) (l : List Nat) : C16Step r { r with failing := l }
  | round (r : R) : C16Step r r.round
  | quiesce (r : R) (fuel : Nat) : C16Step r (r.quiesce fuel)
  | advance (r : R) (ms fuel : Nat) : C16Step r (r.advance ms fuel)

/-- `progressRev` never decreases along a run: a `WaitUntilReconciled(rev)` that could return
    keeps being able to return -/
theorem C16_run_progressRev_monotone {r r' : R} (h : C14Reachable r) (hs : C16Step r r') : r.progressRev ≤ r'.progressRev := by
  cases hs with
  | put id data => exact Nat.le_refl _
  | del id => exact Nat.le_of_eq (frameW_delObj r id).progressRev.symm
  | touch id _ => exact Nat.le_of_eq (frameW_touch r id).progressRev.symm
  | fail l => exact Nat.le_refl _
  | round => exact round_progressRev_ge r
  | quiesce fuel => exact quiesce_progressRev_ge r fuel
  | advance ms fuel => exact advance_progressRev_ge r ms fuel

/-- a round moves `progressRev` up to the revision of the last change it consumed (`roundLast`,
    0 when it consumed none): `r.progress.update(lastRevision, …)` -/
theorem C16_run_round_progressRev {r : R} (hp : PInv r) :
    r.round.progressRev = max (roundLast r) r.progressRev :=
  round_progressRev_max r

/-- between rounds the change iterator is never ahead of `progressRev` -/
theorem C16_run_iterator_le_progressRev {r : R} (h : C14Reachable r) : r.itRev ≤ r.progressRev ∧ r.itDelRev ≤ r.progressRev :=
  (C16_run_inv_reachable h).itle

/-- **once the loop is idle, `WaitUntilReconciled(rev)` returns for every revision of the table**:
    in a reachable idle state `progressRev = tableRev` (the complement of
    `C16_run_attempted_up_to_progressRev`: the tracker does not lag behind for ever) -/
theorem C16_run_idle_progress_complete {r : R} (h : C14Reachable r) (hidle : r.triggered = false) :
    r.progressRev = r.tableRev := by
  have hp := C16_run_inv_reachable h
  obtain ⟨c1, c2⟩ := hp.w.rinv.idle_caughtUp hidle
  refine Nat.le_antisymm hp.x.prog.le ?_
  by_cases h0 : 0 < r.tableRev
  · -- the newest revision is that of an object or of a deletion, and the idle loop has passed it
    rcases hp.x.tab.top h0 with ⟨o, ho, e⟩ | ⟨d, hd, e⟩
    · exact Nat.le_trans (Nat.le_of_eq e.symm) (Nat.le_trans (c1 o ho) hp.itle.1)
    · exact Nat.le_trans (Nat.le_of_eq e.symm) (Nat.le_trans (c2 d hd) hp.itle.2)
  · exact Nat.le_trans (Nat.le_of_not_gt h0) (Nat.zero_le _)

/-! ## 2. the retry low-watermark -/

/-- what every retry item stores, in every reachable state: it awaits retry (`inRevQueue`) and is
    in the time queue, and `0 < origRev ≤ rev ≤ tableRev`.  Unless a newer change for its object is
    still waiting in the change stream (`Stale`: that change will clear the item),
    * a Delete item stands for a retained deletion and `origRev = rev` is that deletion's revision;
    * an Update item stands for the live object, which is Error, has the item's data, and whose
      revision is `rev` — the revision of the LAST status write that marked it Error — while
      `origRev < rev` is the revision at which the change that failed FIRST was read (kept over the
      retries, `C16_run_round_item_transitions`). -/
theorem C16_run_item_revisions {r : R} (h : C14Reachable r) (it : Item) (hit : it ∈ r.items) :
    it.inRevQueue = true ∧ it.inQueue = true ∧ 0 < it.origRev ∧ it.origRev ≤ it.rev ∧ it.rev ≤ r.tableRev ∧
    (it.delete = true → it.origRev = it.rev) ∧ (it.delete = false → it.origRev < it.rev) ∧
    (Stale r.objs r.dels r.itRev r.itDelRev it.id ∨ (it.delete = true ∧ (it.obj, it.rev) ∈ r.dels) ∨
      (it.delete = false ∧ ∃ o ∈ r.objs, o.id = it.id ∧ o.kind = .error ∧ o.rev = it.rev ∧ o.data = it.obj.data)) := by
  have hp := C16_run_inv_reachable h
  have hi := hp.x.items it hit
  refine ⟨hi.rq, hp.w.rinv.items_queued it hit, hi.opos, hi.ole, hi.rle, hi.delrev, hi.updrev, ?_⟩
  rcases (hp.w.rinv.inv.itemOK it hit).reason with a | ⟨a, d, hd, hid⟩ | ⟨a, o, ho, hid, hk, hrev⟩
  · exact Or.inl a
  · by_cases hgt : d.2 > r.itDelRev
    · exact Or.inl (Or.inr ⟨d, hd, hid, hgt⟩)
    · have := hi.deld a d hd hid (Nat.le_of_not_gt hgt)
      rw [this] at hd
      exact Or.inr (Or.inl ⟨a, hd⟩)
  · exact Or.inr (Or.inr ⟨a, o, ho, hid, hk, hrev, hi.data a o ho hid hrev⟩)

/-- **the reported low-watermark is the retry low-watermark of the current items**, in EVERY
    reachable state (it is read before the status commits of a round's retries re-queue the ones
    that failed again, but those keep `origRev`) -/
theorem C16_run_lw_exact {r : R} (h : C14Reachable r) : r.progressLW = r.lowWatermark :=
  (C16_run_inv_reachable h).lw

/-- the same right after any round of any run -/
theorem C16_run_lw_exact_after_round {r : R} (hp : PInv r) : r.round.progressLW = r.round.lowWatermark := hp.round.lw

/-- **the reported low-watermark is zero exactly when no failed object awaits retry** (every retry
    item is in the revision queue, `C16_run_item_revisions`) -/
theorem C16_run_lw_zero_iff_no_retry {r : R} (h : C14Reachable r) :
    (r.progressLW = 0 ↔ r.items = []) ∧ (r.items = [] ↔ r.items.filter (·.inRevQueue) = []) := by
  have hp := C16_run_inv_reachable h
  refine ⟨by rw [hp.lw]; exact hp.x.isLw.zero_iff, ?_⟩
  have : r.items.filter (·.inRevQueue) = r.items := List.filter_eq_self.2 (fun i hi => (hp.x.items i hi).rq)
  rw [this]

/-- the reported low-watermark is a lower bound of the `origRev` of every item awaiting retry -/
theorem C16_run_lw_lower_bound {r : R} (h : C14Reachable r) : ∀ it ∈ r.items, r.progressLW ≤ it.origRev := by
  have hp := C16_run_inv_reachable h
  rw [hp.lw]; exact hp.x.isLw.le

/-- **… otherwise the revision of the oldest change among the failed ones.**  In every reachable
    state with a failed object awaiting retry, `progressLW` is the `origRev` of one of the retry
    items and at most that of all others; and `origRev` is the revision at which the change that
    failed FIRST was read: it is set when the item is created (`C16_run_round_item_transitions`,
    case FRESH: the revision of the deletion, or of the Pending / Refreshing object version the
    first attempt was given) and kept for as long as the item lives (case AGAIN; the item is
    cleared when the object changes or succeeds).  In particular this holds whenever the loop has
    seen the latest table revision and in every idle state. -/
theorem C16_run_lw_is_oldest_failed_change {r : R} (h : C14Reachable r) (hne : r.items ≠ []) :
    ∃ it ∈ r.items, r.progressLW = it.origRev ∧ (∀ it' ∈ r.items, it.origRev ≤ it'.origRev) ∧ 0 < r.progressLW := by
  have hp := C16_run_inv_reachable h
  obtain ⟨it, hit, e⟩ := hp.x.isLw.attained hne
  rw [hp.lw]
  refine ⟨it, hit, e, fun it' hit' => ?_, ?_⟩
  · exact e ▸ hp.x.isLw.le it' hit'
  · rw [e]; exact (hp.x.items it hit).opos

/-- **`origRev` of an Update item is the revision of the user's version that failed first** (valid
    backoff configuration `0 < minB ≤ maxB`).  In every reachable state every Update item still
    stores, as `it.obj`, the object version its FIRST failed Update was given: that version is
    Pending / Refreshing (written by the user, or refreshed), `it.origRev` is its revision, and — by
    `C16_run_item_revisions` — unless a newer change is waiting, the live object is Error, has
    the same data and the revision `it.rev` of the last status write. -/
theorem C16_run_origRev_is_first_read {r : R} (h : C14Reachable r) (hmin : 0 < r.cfg.minB) (hcfg : r.cfg.minB ≤ r.cfg.maxB) :
    ∀ it ∈ r.items, it.delete = false → it.origRev = it.obj.rev ∧ (it.obj.kind = .pending ∨ it.obj.kind = .refreshing) ∧ it.obj.id = it.id :=
  (reach_inv h).2 ⟨hmin, hcfg⟩

/-- under the recipe's condition on the low-watermark every retry item stems from a change that
    was first read beyond `untilRev` -/
theorem origRev_gt_of_lw {r : R} (h : C14Reachable r) {untilRev : Nat} (hlw : r.progressLW = 0 ∨ untilRev < r.progressLW) :
    ∀ it ∈ r.items, untilRev < it.origRev := by
  intro it hit
  rcases hlw with h0 | h1
  · rw [(C16_run_lw_zero_iff_no_retry h).1.1 h0] at hit; cases hit
  · exact Nat.lt_of_lt_of_le h1 (C16_run_lw_lower_bound h it hit)

/-- **the recipe in the documentation of `WaitUntilReconciled` is sound**: "call repeatedly until
    both revision and retryLowWatermark are past the desired untilRevision".  In every reachable
    state with `untilRev ≤ progressRev` and (`progressLW = 0` or `untilRev < progressLW`):
    * every live object whose revision is at most `untilRev` is Done and the last call logged for
      it is a successful Update with its current data;
    * for every retained deletion with a revision up to `untilRev` the last call logged is a
      successful Delete;
    * every retry item stands for a change that was first read at a revision beyond `untilRev`,
      and so does the item of every Error object: no change that failed and has not succeeded since
      was made at or before `untilRev`.
    What the state cannot say: the revision of the user's write of a Done or Error object is not
    recorded in the table (status writes bump `rev`); it is recorded in the item (`origRev`), whose
    meaning over runs is given by `C16_run_round_item_transitions`. -/
theorem C16_run_wait_until_reconciled_success {r : R} (h : C14Reachable r) (untilRev : Nat) (hrev : untilRev ≤ r.progressRev)
    (hlw : r.progressLW = 0 ∨ untilRev < r.progressLW) :
    (∀ o ∈ r.objs, o.rev ≤ untilRev → o.kind = .done ∧ lastCall r.log o.id = some ⟨"U", o.id, o.data, true⟩) ∧
    (∀ d ∈ r.dels, d.2 ≤ untilRev → ∃ c, lastCall r.log d.1.id = some c ∧ c.op = "D" ∧ c.ok = true) ∧
    (∀ it ∈ r.items, untilRev < it.origRev) ∧
    (∀ o ∈ r.objs, o.kind = .error → ∃ it ∈ r.items, it.id = o.id ∧ it.delete = false ∧ it.rev = o.rev ∧ untilRev < it.origRev) := by
  have hp := C16_run_inv_reachable h
  have hitems := origRev_gt_of_lw h hlw
  obtain ⟨a, b⟩ := C16_run_attempted_up_to_progressRev h untilRev hrev
  refine ⟨fun o ho hle => ?_, fun d hd hle => ?_, hitems, fun o ho hk => ?_⟩
  · rcases a o ho hle with x | ⟨_, _, it, hit, _, b2, b3, _⟩
    · exact x
    · exact absurd (Nat.lt_trans (hitems it hit) ((hp.x.items it hit).updrev b2)) (Nat.not_lt.2 (b3 ▸ hle))
  · rcases b d hd hle with x | ⟨_, it, hit, b1, b2, _⟩
    · exact x
    · -- `d` is the deletion the item stands for, and the item's `origRev = rev` is beyond `untilRev`
      have hi := hp.x.items it hit
      have hlt : untilRev < it.rev := hi.delrev b2 ▸ hitems it hit
      rw [hi.deld b2 d hd b1.symm (hp.x.prog.del d hd (Nat.le_trans hle hrev))] at hle
      exact absurd hle (Nat.not_le.2 hlt)
  · obtain ⟨it, hit, b1, b2, b3, _⟩ := hp.w.rinv.inv.error_item ho hk
    exact ⟨it, hit, b1, b2, b3, hitems it hit⟩

/-- … and in terms of the user's versions (valid backoff configuration): under the same
    hypotheses, for every object that is Error its retry item still holds the version `v` whose
    Update failed first — the same object (`id`), the same contents (`data`), Pending / Refreshing —
    and that version was written at a revision beyond `untilRev`: every user version written at or
    before `untilRev` has succeeded or been superseded by a later write -/
theorem C16_run_failed_versions_are_newer {r : R} (h : C14Reachable r) (hmin : 0 < r.cfg.minB) (hcfg : r.cfg.minB ≤ r.cfg.maxB)
    (untilRev : Nat) (hlw : r.progressLW = 0 ∨ untilRev < r.progressLW) :
    ∀ o ∈ r.objs, o.kind = .error → ∃ v : RObj, v.id = o.id ∧ v.data = o.data ∧ (v.kind = .pending ∨ v.kind = .refreshing) ∧
      untilRev < v.rev ∧ v.rev < o.rev := by
  have hp := C16_run_inv_reachable h
  intro o ho hk
  obtain ⟨it, hit, b1, b2, b3, _⟩ := hp.w.rinv.inv.error_item ho hk
  obtain ⟨c1, c2, c3⟩ := C16_run_origRev_is_first_read h hmin hcfg it hit b2
  have hi := hp.x.items it hit
  have hlt := origRev_gt_of_lw h hlw it hit
  have hup := hi.updrev b2
  rw [c1] at hlt hup
  exact ⟨it.obj, c3.trans b1, (hi.data b2 o ho b1.symm b3.symm).symm, c2, hlt, b3 ▸ hup⟩

/-! ### the repaired `retries.Add` -/

/-- the scenario of the defect: one object is written once (revision 1); its Update fails for ever -/
def c16Ex : R := (({ (({} : R).userPut 1 7) with failing := [1] } : R).quiesce 10).advance 250 10

/-- with `origRev` kept over retries the low-watermark stays at the revision of the user's write
    (1) however often the retry fails (before the repair of `retries.Add` it climbed to 2, 3, …:
    `WaitUntilReconciled(1)` returned revision 3 and low-watermark 2) -/
theorem C16_run_lw_stays_at_failed_change_example :
    C14Reachable c16Ex ∧ c16Ex.triggered = false ∧
    c16Ex.objs.map (fun o => (o.id, o.data, o.kind)) = [(1, 7, .error)] ∧
    c16Ex.log = [⟨"U", 1, 7, false⟩, ⟨"U", 1, 7, false⟩] ∧
    c16Ex.progressRev = 3 ∧ c16Ex.progressLW = 1 ∧
    (c16Ex.advance 5000 20).progressLW = 1 ∧ (c16Ex.advance 5000 20).items.map (·.numRetries) = [7] := by
  refine ⟨.advance 250 10 (.quiesce 10 (.fail [1] (.put 1 7 (.init {})))), ?_⟩
  decide +kernel

/-! ## 3. pacing -/

/-- retry items change inside rounds only: user writes and deletes, foreign status writes and the
    failure switches leave them (and the reported low-watermark) alone -/
theorem C16_run_user_steps_keep_items (r : R) (id data : Nat) (l : List Nat) :
    (r.userPut id data).items = r.items ∧ (r.delObj id).items = r.items ∧ (r.touch id).items = r.items ∧
    ({ r with failing := l } : R).items = r.items ∧
    (r.userPut id data).progressLW = r.progressLW ∧ (r.delObj id).progressLW = r.progressLW ∧ (r.touch id).progressLW = r.progressLW := by
  exact ⟨rfl, (frameW_delObj r id).items, (frameW_touch r id).items, rfl, rfl, (frameW_delObj r id).progressLW,
    (frameW_touch r id).progressLW⟩

/-- a retry time that is at least one backoff is the time `t` of a failure plus that backoff; with
    `minB ≤ maxB` the wait lies in `[minB, maxB]` -/
theorem backoff_since {minB maxB n a : Nat} (h : backoff minB maxB n ≤ a) :
    ∃ t, a = t + backoff minB maxB n ∧ (minB ≤ maxB → t + minB ≤ a ∧ a ≤ t + maxB) := by
  refine ⟨a - backoff minB maxB n, by omega, fun hc => ?_⟩
  have := C16_backoff_ge_min minB maxB n hc
  have := C16_backoff_le_max minB maxB n
  omega

/-- **pacing invariant of every retry item in every reachable state**: the item counts at least one
    failure, and its retry time is the time `t` of a past failure (`t ≤ now`; at the moment
    `retries.Add` stores the item `t = now`, `C16_retryAdd_item`) plus the backoff for its count.
    With `minB ≤ maxB` the wait lies in `[minB, maxB]`; in any case the retry is due no later than
    `now + maxB`. -/
theorem C16_run_item_pacing {r : R} (h : C14Reachable r) (it : Item) (hit : it ∈ r.items) :
    1 ≤ it.numRetries ∧
    (∃ t, t ≤ r.now ∧ it.retryAt = t + backoff r.cfg.minB r.cfg.maxB it.numRetries ∧
      (r.cfg.minB ≤ r.cfg.maxB → t + r.cfg.minB ≤ it.retryAt ∧ it.retryAt ≤ t + r.cfg.maxB)) ∧
    it.retryAt ≤ r.now + r.cfg.maxB := by
  have hp := C16_run_inv_reachable h
  have hi := hp.x.items it hit
  obtain ⟨t, e, f⟩ := backoff_since (show backoff r.cfg.minB r.cfg.maxB it.numRetries ≤ it.retryAt from hi.pace1)
  have h2 : it.retryAt ≤ r.now + backoff r.cfg.minB r.cfg.maxB it.numRetries := hi.pace2
  exact ⟨hi.npos, ⟨t, by omega, e, f⟩, hp.w.q.times it hit⟩

/-- **a retry never runs before its retry time, hence never sooner than the minimum backoff after
    the failure** (whole rounds, any configuration).  The calls a round logs — any round of any
    run: it starts in a state satisfying the invariant — are, in this order: attempts `L1` of
    changes that were waiting in the change stream (live objects that are Pending / Refreshing and
    deletions beyond the iterator's position), then retries `L2`, and every retry call is for an
    item whose `retryAt` had come — an item that counted `n ≥ 1` failures and whose `retryAt` was
    `t + backoff n` for the time `t` of its last failure, so that (`minB ≤ maxB`) at least `minB`
    has passed since `t` -/
theorem C16_run_round_retries_only_when_due {r : R} (hp : PInv r) :
    ∃ L1 L2, r.round.log = r.log ++ L1 ++ L2 ∧
      (∀ c ∈ L1, (c.op = "U" ∧ ∃ o ∈ r.objs, needs o.kind ∧ r.itRev < o.rev ∧ c.id = o.id ∧ c.data = o.data) ∨
                 (c.op = "D" ∧ ∃ d ∈ r.dels, r.itDelRev < d.2 ∧ c.id = d.1.id ∧ c.data = d.1.data)) ∧
      (∀ c ∈ L2, ∃ it : Item, it.retryAt ≤ r.now ∧ c.op = (if it.delete then "D" else "U") ∧ c.id = it.id ∧ c.data = it.obj.data ∧
        ∃ t, it.retryAt = t + backoff r.cfg.minB r.cfg.maxB it.numRetries ∧ (r.cfg.minB ≤ r.cfg.maxB → t + r.cfg.minB ≤ r.now)) := by
  obtain ⟨L1, L2, e, f1, f2⟩ := round_calls_due hp.w.rinv hp.x hp.itle
  refine ⟨L1, L2, e, f1, fun c hc => ?_⟩
  obtain ⟨it, a1, _, a3, a4, a5, a6⟩ := f2 c hc
  obtain ⟨t, e, f⟩ := backoff_since a3
  exact ⟨it, a1, a4, a5, a6, t, e, fun hcfg => Nat.le_trans (f hcfg).1 a1⟩

/-- **what a round does to the retry items** (any round of any run; valid backoff configuration
    `0 < minB ≤ maxB`).
    The retry calls of the round are for items that were queued BEFORE the round and were due; and
    every retry item the round leaves is
    * untouched (the same item as before), or
    * FRESH: queued by the first failure for a change consumed in this round — the count starts
      over at 1 whatever was counted for the object before ("the backoff starts over after the
      object changes"), `retryAt = now + backoff 1`, and `origRev` is the revision of that change
      (of the deletion, or of the Pending / Refreshing object version), or
    * AGAIN: queued by the failure of the retry of an item `it` that was due and for whose object no
      change was waiting in the change stream (a waiting change makes the round clear the item
      instead: the count never survives a change of the object) — the count is
      `it.numRetries + 1`, `retryAt = now + backoff (it.numRetries + 1)`, and `origRev = it.origRev`:
      the revision of the change that failed first is kept for as long as the item lives. -/
theorem C16_run_round_item_transitions {r : R} (hp : PInv r) (hmin : 0 < r.cfg.minB) (hcfg : r.cfg.minB ≤ r.cfg.maxB) :
    (∃ L1 L2, r.round.log = r.log ++ L1 ++ L2 ∧ (∀ c ∈ L1, FirstAttempt r.v c) ∧
      (∀ c ∈ L2, ∃ it ∈ r.items, it.retryAt ≤ r.now ∧ c.op = (if it.delete then "D" else "U") ∧ c.id = it.id ∧ c.data = it.obj.data)) ∧
    (∀ it' ∈ r.round.items, it' ∈ r.items ∨
      (it'.numRetries = 1 ∧ it'.retryAt = r.now + backoff r.cfg.minB r.cfg.maxB 1 ∧ it'.id = it'.obj.id ∧
        ((it'.delete = true ∧ (it'.obj, it'.origRev) ∈ r.dels ∧ r.itDelRev < it'.origRev ∧ it'.rev = it'.origRev) ∨
         (it'.delete = false ∧ it'.obj ∈ r.objs ∧ needs it'.obj.kind ∧ r.itRev < it'.obj.rev ∧ it'.origRev = it'.obj.rev))) ∨
      (∃ it ∈ r.items, ¬ Stale r.objs r.dels r.itRev r.itDelRev it.id ∧ it.id = it'.id ∧ it.retryAt ≤ r.now ∧
        it'.numRetries = it.numRetries + 1 ∧
        it'.retryAt = r.now + backoff r.cfg.minB r.cfg.maxB (it.numRetries + 1) ∧ it'.origRev = it.origRev ∧
        it'.delete = it.delete ∧ it'.obj = it.obj)) := by
  obtain ⟨a, b⟩ := round_items_calls hp.w.rinv ⟨hmin, hcfg⟩
  refine ⟨a, fun it' hit' => ?_⟩
  rcases b it' hit' with c | c | ⟨it, hit, d⟩
  · exact Or.inl c
  · exact Or.inr (Or.inl ⟨c.count, c.retryAt, c.objId, c.change⟩)
  · exact Or.inr (Or.inr ⟨it, hit, d.notStale, d.id, d.due, d.count, d.retryAt, d.origRev, d.delete, d.obj⟩)

/-- **the backoff starts over after the object changes**: if a change for the object of a retry
    item `it` is waiting in the change stream (the user wrote or deleted the object after the
    failure), then whatever a round leaves for that object is `it` itself, untouched (the round
    was cut short before it got to the change), or an item counting from 1 — never `it.numRetries + 1` -/
theorem C16_run_backoff_starts_over_after_change {r : R} (hp : PInv r) (hmin : 0 < r.cfg.minB) (hcfg : r.cfg.minB ≤ r.cfg.maxB)
    (it : Item) (hit : it ∈ r.items) (hst : Stale r.objs r.dels r.itRev r.itDelRev it.id) :
    ∀ it' ∈ r.round.items, it'.id = it.id →
      it' = it ∨ (it'.numRetries = 1 ∧ it'.retryAt = r.now + backoff r.cfg.minB r.cfg.maxB 1) := by
  obtain ⟨_, b⟩ := round_items_calls hp.w.rinv ⟨hmin, hcfg⟩
  intro it' hit' hid
  rcases b it' hit' with c | c | ⟨it0, hit0, d⟩
  · exact Or.inl (eq_of_id hp.w.rinv.inv.items_pw c hit hid)
  · exact Or.inr ⟨c.count, c.retryAt⟩
  · have := d.notStale
    rw [eq_of_id hp.w.rinv.inv.items_pw hit0 hit (d.id.trans hid)] at this
    exact absurd hst this

/-- **the waits do not shrink over consecutive failures and are capped**: when a due retry of `it`
    fails again (case AGAIN above), the new wait `backoff (it.numRetries + 1)` is at least the
    previous wait `backoff it.numRetries`, at least `minB` and at most `maxB` -/
theorem C16_run_waits_do_not_shrink (minB maxB n : Nat) (hcfg : minB ≤ maxB) :
    backoff minB maxB n ≤ backoff minB maxB (n + 1) ∧ minB ≤ backoff minB maxB (n + 1) ∧ backoff minB maxB (n + 1) ≤ maxB :=
  ⟨C16_backoff_monotone minB maxB n (n + 1) (Nat.le_succ n), C16_backoff_ge_min minB maxB (n + 1) hcfg, C16_backoff_le_max minB maxB (n + 1)⟩

/-- **the backoff starts over after a success**: in every reachable state an object that was
    reconciled successfully (Done) has no retry item — its next failure is counted from 1
    (`C16_backoff_resets_on_clear`, case FRESH of `C16_run_round_item_transitions`) -/
theorem C16_run_done_has_no_retry_item {r : R} (h : C14Reachable r) :
    ∀ o ∈ r.objs, o.kind = .done → ∀ it ∈ r.items, it.id ≠ o.id := by
  intro o ho hk
  exact ((C16_run_inv_reachable h).w.rinv.inv.objOK o ho).1 hk |>.2

/-- `minB ≤ maxB` is needed for "never sooner than the minimum": `reconciler.config.validate` only
    demands both to be positive, and with `min > max` every wait is `max` -/
theorem C16_run_wait_at_least_min_without_min_le_max_refuted :
    ¬ ∀ minB maxB n : Nat, 0 < minB → 0 < maxB → minB ≤ backoff minB maxB n := by
  intro hall
  have := hall 500 100 1 (by omega) (by omega)
  revert this
  decide

/-! ## 4. an otherwise idle reconciler retries within the maximum (plus one wake-up) -/

/-- **every queued retry runs within `maxB`.**  From any reachable state let more than the maximal
    backoff pass with nothing else happening (`advance ms fuel`, `maxB < ms`).  If the loop is idle
    at the end (which the run of `advance` decides: C14 proves it once failures have stopped; with
    failures going on it holds whenever the fuel suffices, see the example below), then for EVERY
    retry item that was queued an operation for its object was attempted meanwhile: the log grew by
    `L`, and `L` has a call for the item's object. -/
theorem C16_run_retried_within_max {r : R} (h : C14Reachable r) (ms fuel : Nat) (hms : r.cfg.maxB < ms)
    (hidle : (r.advance ms fuel).triggered = false) :
    ∃ L, (r.advance ms fuel).log = r.log ++ L ∧ ∀ it ∈ r.items, ∃ c ∈ L, c.id = it.id :=
  retried_within_max (C16_run_inv_reachable h).w ms fuel hms hidle

/-- a retry item can only disappear or change together with a call on the target for its object
    (any run of `quiesce` / `advance`, any fuel) -/
theorem C16_run_item_changes_only_with_call {r : R} (h : C14Reachable r) (ms fuel : Nat) :
    ∃ L, (r.advance ms fuel).log = r.log ++ L ∧ ∀ it ∈ r.items, it ∈ (r.advance ms fuel).items ∨ ∃ c ∈ L, c.id = it.id :=
  Tr.advance (C16_run_inv_reachable h).w.rinv ms fuel

/-! ## non-vacuity -/

/-- a reachable state with a queued retry (`c16Ex`: one object, failing, retried once) … -/
example : C14Reachable c16Ex ∧ c16Ex.items.map (fun i => (i.id, i.origRev, i.rev, i.numRetries, i.retryAt)) = [(1, 1, 3, 2, 600)] ∧
    c16Ex.now = 250 ∧ c16Ex.refreshedAt = c16Ex.tableRev := by
  refine ⟨.advance 250 10 (.quiesce 10 (.fail [1] (.put 1 7 (.init {})))), ?_⟩
  decide +kernel

/-- the invariant holds of it -/
example : PInv c16Ex := C16_run_inv_reachable (.advance 250 10 (.quiesce 10 (.fail [1] (.put 1 7 (.init {})))))

/-- the hypotheses of `C16_run_backoff_starts_over_after_change` are satisfiable: the user rewrites
    the failing object of `c16Ex` (count 2); a change for the item's object is now waiting, and the
    next round leaves an item counting from 1 again -/
example :
    let r : R := c16Ex.userPut 1 8
    r.items.map (fun i => (i.id, i.numRetries)) = [(1, 2)] ∧
    r.objs.map (fun o => (o.id, o.kind, decide (o.rev > r.itRev))) = [(1, .pending, true)] ∧
    r.round.items.map (fun i => (i.id, i.numRetries, i.origRev)) = [(1, 1, 4)] := by
  decide +kernel

/-- … and one with a Done object, an Error object with a queued retry and an applied deletion
    (`c14Ex`): the hypothesis `rev ≤ progressRev` of `C16_run_attempted_up_to_progressRev` holds for
    the revisions of all of them -/
example : c14Ex.progressRev = 7 ∧ c14Ex.objs.map (fun o => (o.id, o.rev, o.kind)) = [(1, 4, .done), (2, 5, .error)] ∧
    c14Ex.dels.map (fun d => (d.1.id, d.2)) = [(3, 7)] ∧ c14Ex.progressLW = 2 ∧ c14Ex.items.map (·.origRev) = [2] := by
  decide +kernel

/-- the hypotheses of `C16_run_retried_within_max` are satisfiable with failures going on: object 2
    keeps failing, more than `maxB` passes, the loop is idle at the end and the retry did run
    (twice: the log grew by two failed Updates of object 2) -/
example : c14Ex.cfg.maxB < 1001 ∧ (c14Ex.advance 1001 10).triggered = false ∧ c14Ex.items.length = 1 ∧
    (c14Ex.advance 1001 10).log = c14Ex.log ++ [⟨"U", 2, 8, false⟩, ⟨"U", 2, 8, false⟩] := by
  decide +kernel

/-- the cases FRESH and AGAIN of `C16_run_round_item_transitions` occur: the first failure queues
    the item with count 1 and `origRev` = the change's revision, the failed retry re-queues it with
    count 2 and the same `origRev` -/
example :
    let r0 : R := { (({} : R).userPut 1 7) with failing := [1] }
    let r1 : R := { r0.round.round with now := 200 }
    0 < r0.cfg.minB ∧ r0.cfg.minB ≤ r0.cfg.maxB ∧
    r0.round.items.map (fun i => (i.origRev, i.rev, i.numRetries, i.retryAt)) = [(1, 2, 1, 200)] ∧
    r1.fireTimer.round.items.map (fun i => (i.origRev, i.rev, i.numRetries, i.retryAt)) = [(1, 3, 2, 600)] := by
  decide +kernel

end Sdb
