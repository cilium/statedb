import SdbModel.Lemmas.Reconciler

/-!
  The bookkeeping invariant of the reconciler model: every object, retained deletion, retry item
  and uncommitted result is accounted for by one of the others or by the call log.  `InvL` is the
  invariant of the rounds during which no write lands (`injects = []`), `JInv`
  (`Lemmas.ReconcilerInject`) the one of the rounds with writes landing while an Update runs.
  `Core` is what the two have in common; `InvL` is `Core` with `Calm` (nothing has landed in this
  round), `JInv` is `Core` with `Fresh`.  The steps of a round are proved once, for `Core`
  (`Lemmas.ReconcilerStep`).
-/
namespace Sdb.Rec
open LB

/-- an entry of `R.results`: the clone handed to the operation, the object as it was read, the
    revision and the status id it was read with, whether the operation failed -/
abbrev Res := RObj × RObj × Nat × Nat × Bool

/-- a result for this very version of `o` is waiting to be committed -/
def HasRes (rs : List Res) (o : RObj) : Prop := ∃ res ∈ rs, res.1.id = o.id ∧ res.2.2.1 = o.rev

def ObjOK (log : List Call) (items : List Item) (itRev : Nat) (rs : List Res) (o : RObj) : Prop :=
  (o.kind = .done → lastCall log o.id = some ⟨"U", o.id, o.data, true⟩ ∧ ∀ it ∈ items, it.id ≠ o.id) ∧
  (o.kind = .error → (∃ it ∈ items, it.id = o.id ∧ it.delete = false ∧ it.rev = o.rev ∧ it.inQueue = true) ∨ HasRes rs o) ∧
  (needs o.kind → o.rev > itRev ∨ HasRes rs o)

theorem ObjOK.of_done {log items itRev rs o} (h : ObjOK log items itRev rs o) (hk : o.kind = .done) :
    lastCall log o.id = some ⟨"U", o.id, o.data, true⟩ ∧ ∀ it ∈ items, it.id ≠ o.id := h.1 hk

theorem ObjOK.of_error {log items itRev rs o} (h : ObjOK log items itRev rs o) (hk : o.kind = .error) :
    (∃ it ∈ items, it.id = o.id ∧ it.delete = false ∧ it.rev = o.rev ∧ it.inQueue = true) ∨ HasRes rs o := h.2.1 hk

theorem ObjOK.of_needs {log items itRev rs o} (h : ObjOK log items itRev rs o) (hn : needs o.kind) :
    o.rev > itRev ∨ HasRes rs o := h.2.2 hn

def DelOK (log : List Call) (items : List Item) (itDelRev : Nat) (d : RObj × Nat) : Prop :=
  d.2 > itDelRev ∨ (∃ it ∈ items, it.id = d.1.id ∧ it.delete = true ∧ it.inQueue = true) ∨
  ((∃ c, lastCall log d.1.id = some c ∧ c.op = "D" ∧ c.ok = true) ∧ ∀ it ∈ items, it.id ≠ d.1.id)

/-- a change for `id` is still to be delivered to the loop (it will clear the retry item) -/
def Stale (objs : List RObj) (dels : List (RObj × Nat)) (itRev itDelRev : Nat) (id : Nat) : Prop :=
  (∃ o ∈ objs, o.id = id ∧ o.rev > itRev ∧ needs o.kind) ∨ (∃ d ∈ dels, d.1.id = id ∧ d.2 > itDelRev)

def ErrAt (objs : List RObj) (it : Item) : Prop :=
  ∃ o ∈ objs, o.id = it.id ∧ o.kind = .error ∧ o.rev = it.rev

/-- `inQueue = false`: the item was popped and its Update run again -/
def ItemOK (objs : List RObj) (dels : List (RObj × Nat)) (itRev itDelRev : Nat) (rs : List Res) (it : Item) : Prop :=
  it.obj.id = it.id ∧
  (Stale objs dels itRev itDelRev it.id ∨ (it.delete = true ∧ ∃ d ∈ dels, d.1.id = it.id) ∨
    (it.delete = false ∧ ∃ o ∈ objs, o.id = it.id ∧ o.kind = .error ∧ o.rev = it.rev)) ∧
  (it.inQueue = false → it.delete = false ∧ (∃ o ∈ objs, o.id = it.id ∧ o.kind = .error ∧ o.rev = it.rev) ∧
    ∃ res ∈ rs, res.1.id = it.id ∧ res.2.2.1 = it.rev ∧ res.2.2.2.2 = true)

theorem ItemOK.obj_id {objs dels a b rs it} (h : ItemOK objs dels a b rs it) : it.obj.id = it.id := h.1

theorem ItemOK.reason {objs dels a b rs it} (h : ItemOK objs dels a b rs it) :
    Stale objs dels a b it.id ∨ (it.delete = true ∧ ∃ d ∈ dels, d.1.id = it.id) ∨ (it.delete = false ∧ ErrAt objs it) := h.2.1

theorem ItemOK.popped {objs dels a b rs it} (h : ItemOK objs dels a b rs it) (hq : it.inQueue = false) :
    it.delete = false ∧ ErrAt objs it ∧ ∃ res ∈ rs, res.1.id = it.id ∧ res.2.2.1 = it.rev ∧ res.2.2.2.2 = true := h.2.2 hq

/-- the current object of a waiting result is the version read, or was since written by a status commit -/
def ResOK (objs : List RObj) (log : List Call) (items : List Item) (tableRev : Nat) (res : Res) : Prop :=
  res.2.1.id = res.1.id ∧ res.2.2.1 ≤ tableRev ∧ ∀ cur ∈ objs, cur.id = res.1.id →
    (cur.rev = res.2.2.1 ∧ lastCall log res.1.id = some ⟨"U", res.1.id, res.1.data, !res.2.2.2.2⟩ ∧
      ∀ it ∈ items, it.id = res.1.id → it.inQueue = false ∧ res.2.2.2.2 = true) ∨
    (cur.rev ≠ res.2.2.1 ∧ (cur.kind = .done ∨ cur.kind = .error))

theorem ResOK.orig_id {objs log items t res} (h : ResOK objs log items t res) : res.2.1.id = res.1.id := h.1

theorem ResOK.rev_le {objs log items t res} (h : ResOK objs log items t res) : res.2.2.1 ≤ t := h.2.1

theorem ResOK.current {objs log items t res} (h : ResOK objs log items t res) {cur : RObj} (hc : cur ∈ objs) (hid : cur.id = res.1.id) :
    (cur.rev = res.2.2.1 ∧ lastCall log res.1.id = some ⟨"U", res.1.id, res.1.data, !res.2.2.2.2⟩ ∧
      ∀ it ∈ items, it.id = res.1.id → it.inQueue = false ∧ res.2.2.2.2 = true) ∨
    (cur.rev ≠ res.2.2.1 ∧ (cur.kind = .done ∨ cur.kind = .error)) := h.2.2 cur hc hid

/-- `rs`: the results still to be committed (`r.results` inside a round, `[]` between rounds) -/
structure InvL (r : R) (rs : List Res) : Prop where
  tinv : TInv r
  noinj : r.injects = []
  items_pw : r.items.Pairwise (fun a b => a.id ≠ b.id)
  objOK : ∀ o ∈ r.objs, ObjOK r.log r.items r.itRev rs o
  delOK : ∀ d ∈ r.dels, DelOK r.log r.items r.itDelRev d
  itemOK : ∀ it ∈ r.items, ItemOK r.objs r.dels r.itRev r.itDelRev rs it
  resOK : ∀ res ∈ rs, ResOK r.objs r.log r.items r.tableRev res

/-- the result `res` still applies to the current object `cur`: exactly the condition under
    which `commitOne` writes a status -/
def ResLive (res : Res) (cur : RObj) : Prop :=
  cur.rev = res.2.2.1 ∨ (cur.kind = .pending ∧ cur.sid = res.2.2.2.1)

/-- an item outside the time queue either has its failed result waiting to be committed or
    belongs to an object that changed meanwhile (the change stream will clear it) -/
structure CItemOK (objs : List RObj) (dels : List (RObj × Nat)) (itRev itDelRev : Nat) (rs : List Res) (it : Item) : Prop where
  obj_id : it.obj.id = it.id
  reason : Stale objs dels itRev itDelRev it.id ∨ (it.delete = true ∧ ∃ d ∈ dels, d.1.id = it.id) ∨
    (it.delete = false ∧ ErrAt objs it)
  popped : it.inQueue = false → Stale objs dels itRev itDelRev it.id ∨
    (it.delete = false ∧ ErrAt objs it ∧ ∃ res ∈ rs, res.1.id = it.id ∧ res.2.2.1 = it.rev ∧ res.2.2.2.2 = true)

/-- as long as the result applies, its call is the last one logged for the object and no retry
    of the object is queued -/
structure CResOK (objs : List RObj) (log : List Call) (items : List Item) (tableRev : Nat) (res : Res) : Prop where
  orig_id : res.2.1.id = res.1.id
  rev_le : res.2.2.1 ≤ tableRev
  live : ∀ cur ∈ objs, cur.id = res.1.id → ResLive res cur →
    lastCall log res.1.id = some ⟨"U", res.1.id, res.1.data, !res.2.2.2.2⟩ ∧
    ∀ it ∈ items, it.id = res.1.id → it.inQueue = false ∧ res.2.2.2.2 = true

structure Core (r : R) (rs : List Res) : Prop where
  tinv : TInv r
  items_pw : r.items.Pairwise (fun a b => a.id ≠ b.id)
  objOK : ∀ o ∈ r.objs, ObjOK r.log r.items r.itRev rs o
  delOK : ∀ d ∈ r.dels, DelOK r.log r.items r.itDelRev d
  itemOK : ∀ it ∈ r.items, CItemOK r.objs r.dels r.itRev r.itDelRev rs it
  resOK : ∀ res ∈ rs, CResOK r.objs r.log r.items r.tableRev res

/-- no write has landed in this round: the object of an item outside the time queue is unchanged,
    the object of a waiting result is unchanged or was written by an earlier status commit -/
structure Calm (r : R) (rs : List Res) : Prop where
  noinj : r.injects = []
  settled : ∀ it ∈ r.items, it.inQueue = false → ¬ Stale r.objs r.dels r.itRev r.itDelRev it.id
  only_commits : ∀ res ∈ rs, ∀ cur ∈ r.objs, cur.id = res.1.id → cur.rev ≠ res.2.2.1 → cur.kind = .done ∨ cur.kind = .error

theorem eq_of_id {l : List Item} (hpw : l.Pairwise (fun a b => a.id ≠ b.id)) {a b : Item} (ha : a ∈ l) (hb : b ∈ l)
    (hid : a.id = b.id) : a = b :=
  eq_of_key Item.id hpw ha hb hid

def CaughtUp (r : R) : Prop :=
  (∀ o ∈ r.objs, needs o.kind → o.rev ≤ r.itRev) ∧ (∀ d ∈ r.dels, d.2 ≤ r.itDelRev)

theorem CaughtUp.objs {r : R} (h : CaughtUp r) {o : RObj} (ho : o ∈ r.objs) (hn : needs o.kind) : o.rev ≤ r.itRev := h.1 o ho hn

theorem CaughtUp.dels {r : R} (h : CaughtUp r) {d : RObj × Nat} (hd : d ∈ r.dels) : d.2 ≤ r.itDelRev := h.2 d hd

theorem CaughtUp.not_stale {r : R} (h : CaughtUp r) (id : Nat) : ¬ Stale r.objs r.dels r.itRev r.itDelRev id := by
  rintro (⟨o, ho, _, h1, h2⟩ | ⟨d, hd, _, h1⟩)
  · have := h.objs ho h2; omega
  · have := h.dels hd; omega

theorem CaughtUp.congr {r r' : R} (h : CaughtUp r) (hobjs : r'.objs = r.objs) (hdels : r'.dels = r.dels)
    (hitRev : r'.itRev = r.itRev) (hitDelRev : r'.itDelRev = r.itDelRev) : CaughtUp r' := by
  unfold CaughtUp; rw [hobjs, hdels, hitRev, hitDelRev]; exact h

theorem CItemOK.errAt {objs : List RObj} {dels : List (RObj × Nat)} {a b : Nat} {rs : List Res} {it : Item}
    (h : CItemOK objs dels a b rs it) (hd : it.delete = false) (hs : ¬ Stale objs dels a b it.id) : ErrAt objs it :=
  (h.reason.resolve_left hs).elim (fun x => nomatch x.1.symm.trans hd) (·.2)

theorem InvL.congr {r r' : R} {rs : List Res} (h : InvL r rs) (hobjs : r'.objs = r.objs) (hdels : r'.dels = r.dels) (htableRev : r'.tableRev = r.tableRev)
    (hitRev : r'.itRev = r.itRev) (hitDelRev : r'.itDelRev = r.itDelRev) (hrefreshedAt : r'.refreshedAt = r.refreshedAt)
    (hitems : r'.items = r.items) (hlog : r'.log = r.log) (hinjects : r'.injects = r.injects) : InvL r' rs := by
  obtain ⟨a, b, c, d, e, f, g⟩ := h
  refine ⟨a.congr hobjs hdels htableRev hitRev hitDelRev hrefreshedAt, ?_, ?_, ?_, ?_, ?_, ?_⟩ <;> simp only [hobjs, hdels, htableRev, hitRev, hitDelRev, hitems, hlog, hinjects] <;> assumption

theorem InvL.set_refreshedAt {r : R} {rs : List Res} (h : InvL r rs) (v : Nat) (hv : v ≤ r.tableRev) :
    InvL { r with refreshedAt := v } rs :=
  ⟨h.tinv.set_refreshedAt hv, h.noinj, h.items_pw, h.objOK, h.delOK, h.itemOK, h.resOK⟩

theorem Core.congr {r r' : R} {rs : List Res} (h : Core r rs) (hobjs : r'.objs = r.objs) (hdels : r'.dels = r.dels) (htableRev : r'.tableRev = r.tableRev)
    (hitRev : r'.itRev = r.itRev) (hitDelRev : r'.itDelRev = r.itDelRev) (hrefreshedAt : r'.refreshedAt = r.refreshedAt)
    (hitems : r'.items = r.items) (hlog : r'.log = r.log) : Core r' rs := by
  obtain ⟨a, b, c, d, e, f⟩ := h
  refine ⟨a.congr hobjs hdels htableRev hitRev hitDelRev hrefreshedAt, ?_, ?_, ?_, ?_, ?_⟩ <;> simp only [hobjs, hdels, htableRev, hitRev, hitDelRev, hitems, hlog] <;> assumption

theorem ErrAt.not_stale {r : R} (ht : TInv r) {it : Item} {a b : Nat} (he : ErrAt r.objs it) : ¬ Stale r.objs r.dels a b it.id := by
  obtain ⟨o, ho, e1, e2, _⟩ := he
  rintro (⟨x, hx, x1, _, x3⟩ | ⟨d, hd, d1, _⟩)
  · rw [ht.obj_eq hx ho (x1.trans e1.symm), e2] at x3
    exact absurd rfl (needs_ne x3).2
  · exact ht.disj o ho d hd (e1.trans d1.symm)

theorem InvL.core {r : R} {rs : List Res} (h : InvL r rs) : Core r rs :=
  ⟨h.tinv, h.items_pw, h.objOK, h.delOK,
    fun it hit => have i := h.itemOK it hit; ⟨i.obj_id, i.reason, fun hq => Or.inr (i.popped hq)⟩,
    fun res hr => have c := h.resOK res hr
      ⟨c.orig_id, c.rev_le, fun _ hc hid hl => (c.current hc hid).elim (·.2) fun ⟨n, k⟩ =>
        hl.elim (absurd · n) fun p => k.elim (fun e => nomatch p.1.symm.trans e) (fun e => nomatch p.1.symm.trans e)⟩⟩

theorem InvL.calm {r : R} {rs : List Res} (h : InvL r rs) : Calm r rs :=
  ⟨h.noinj, fun it hit hq => ErrAt.not_stale h.tinv ((h.itemOK it hit).popped hq).2.1,
    fun res hr _ hc hid hne => ((h.resOK res hr).current hc hid).elim (absurd ·.1 hne) (·.2)⟩

theorem Core.invL {r : R} {rs : List Res} (h : Core r rs) (c : Calm r rs) : InvL r rs :=
  ⟨h.tinv, c.noinj, h.items_pw, h.objOK, h.delOK,
    fun it hit => have i := h.itemOK it hit; ⟨i.obj_id, i.reason, fun hq => (i.popped hq).resolve_left (c.settled it hit hq)⟩,
    fun res hr => have d := h.resOK res hr
      ⟨d.orig_id, d.rev_le, fun cur hc hid => (Decidable.em (cur.rev = res.2.2.1)).imp (fun e => ⟨e, d.live cur hc hid (Or.inl e)⟩)
        fun ne => ⟨ne, c.only_commits res hr cur hc hid ne⟩⟩⟩

theorem invL_iff_core_calm {r : R} {rs : List Res} : InvL r rs ↔ Core r rs ∧ Calm r rs :=
  ⟨fun h => ⟨h.core, h.calm⟩, fun h => h.1.invL h.2⟩

/-- where nothing has landed, a result that applies does so through the revision -/
theorem Calm.not_live {r : R} {rs : List Res} {res : Res} (c : Calm r rs) (hr : res ∈ rs) {cur : RObj} (hc : cur ∈ r.objs)
    (hid : cur.id = res.1.id) (hne : cur.rev ≠ res.2.2.1) : ¬ ResLive res cur :=
  fun hl => hl.elim hne fun p =>
    (c.only_commits res hr cur hc hid hne).elim (fun e => nomatch p.1.symm.trans e) (fun e => nomatch p.1.symm.trans e)

theorem Calm.tail {r : R} {res : Res} {rs : List Res} (c : Calm r (res :: rs)) : Calm r rs :=
  ⟨c.noinj, c.settled, fun res' hr => c.only_commits res' (List.mem_cons_of_mem _ hr)⟩

/-! A step of a round works on one id `X`: it logs a call for `X` and replaces the items of `X`
  (`hL`, `hI`).  The clauses for the other ids survive. -/

theorem mem_filter_id_ne {items : List Item} {X : Nat} {it : Item} :
    it ∈ items.filter (·.id ≠ X) ↔ it ∈ items ∧ it.id ≠ X := by
  rw [List.mem_filter]; simp

theorem mem_filter_append_off {items tail : List Item} {X : Nat} (ht : ∀ it ∈ tail, it.id = X) (it : Item) (hid : it.id ≠ X) :
    it ∈ items.filter (·.id ≠ X) ++ tail ↔ it ∈ items := by
  rw [List.mem_append, mem_filter_id_ne]
  exact ⟨fun h => h.elim (·.1) (fun a => absurd (ht it a) hid), fun a => Or.inl ⟨a, hid⟩⟩

theorem mem_filter_off {items : List Item} {X : Nat} (it : Item) (hid : it.id ≠ X) :
    it ∈ items.filter (·.id ≠ X) ↔ it ∈ items :=
  mem_filter_id_ne.trans (and_iff_left hid)

theorem lastCall_append_off {log : List Call} {c : Call} {X : Nat} (hc : c.id = X) (id : Nat) (hid : id ≠ X) :
    lastCall (log ++ [c]) id = lastCall log id :=
  lastCall_append_other _ _ _ (fun e => hid (e.symm.trans hc))

theorem ObjOK.frame {X : Nat} {log log' : List Call} {items items' : List Item} {a a' : Nat} {rs rs' : List Res} {o : RObj}
    (h : ObjOK log items a rs o) (hid : o.id ≠ X)
    (hI : ∀ it : Item, it.id ≠ X → (it ∈ items' ↔ it ∈ items))
    (hL : ∀ id, id ≠ X → lastCall log' id = lastCall log id)
    (hR : HasRes rs o → HasRes rs' o) (hA : needs o.kind → o.rev > a → o.rev > a') : ObjOK log' items' a' rs' o :=
  ⟨fun e => ⟨(hL _ hid).trans (h.of_done e).1, fun it hit hi => (h.of_done e).2 it ((hI it (hi ▸ hid)).1 hit) hi⟩,
   fun e => (h.of_error e).imp (fun ⟨it, hit, b⟩ => ⟨it, (hI it (b.1 ▸ hid)).2 hit, b⟩) hR,
   fun e => (h.of_needs e).imp (hA e) hR⟩

theorem DelOK.frame {X : Nat} {log log' : List Call} {items items' : List Item} {b b' : Nat} {d : RObj × Nat}
    (h : DelOK log items b d) (hid : d.1.id ≠ X)
    (hI : ∀ it : Item, it.id ≠ X → (it ∈ items' ↔ it ∈ items))
    (hL : ∀ id, id ≠ X → lastCall log' id = lastCall log id)
    (hB : d.2 > b → d.2 > b') : DelOK log' items' b' d :=
  h.imp hB (Or.imp (fun ⟨it, hit, c⟩ => ⟨it, (hI it (c.1 ▸ hid)).2 hit, c⟩)
    (fun ⟨⟨c, c1, c2⟩, c3⟩ => ⟨⟨c, (hL _ hid).trans c1, c2⟩, fun it hit hi => c3 it ((hI it (hi ▸ hid)).1 hit) hi⟩))

theorem Stale.mono {objs : List RObj} {dels : List (RObj × Nat)} {a b a' b' id : Nat} (h : Stale objs dels a b id)
    (hO : ∀ o ∈ objs, o.id = id → needs o.kind → o.rev > a → o.rev > a')
    (hD : ∀ d ∈ dels, d.1.id = id → d.2 > b → d.2 > b') : Stale objs dels a' b' id :=
  h.imp (fun ⟨o, ho, e, g, n⟩ => ⟨o, ho, e, hO o ho e n g, n⟩) (fun ⟨d, hd, e, g⟩ => ⟨d, hd, e, hD d hd e g⟩)

theorem CItemOK.mono {objs : List RObj} {dels : List (RObj × Nat)} {a b a' b' : Nat} {rs rs' : List Res} {it : Item}
    (h : CItemOK objs dels a b rs it) (hst : Stale objs dels a b it.id → Stale objs dels a' b' it.id)
    (hrs : ∀ res ∈ rs, res.1.id = it.id → res ∈ rs') : CItemOK objs dels a' b' rs' it :=
  ⟨h.obj_id, h.reason.imp_left hst, fun hq => (h.popped hq).imp hst fun ⟨c1, c2, res, hres, c3⟩ => ⟨c1, c2, res, hrs res hres c3.1, c3⟩⟩

/-- a result for `X` itself carries over when it applies to no current object -/
theorem CResOK.frame {X t : Nat} {objs : List RObj} {log log' : List Call} {items items' : List Item} {res : Res}
    (h : CResOK objs log items t res)
    (hI : ∀ it : Item, it.id ≠ X → (it ∈ items' ↔ it ∈ items))
    (hL : ∀ id, id ≠ X → lastCall log' id = lastCall log id)
    (hx : res.1.id = X → ∀ cur ∈ objs, cur.id = X → ¬ ResLive res cur) : CResOK objs log' items' t res := by
  refine ⟨h.orig_id, h.rev_le, fun cur hcur hcid hl => ?_⟩
  have hne : res.1.id ≠ X := fun e => hx e cur hcur (hcid.trans e) hl
  obtain ⟨b3, b4⟩ := h.live cur hcur hcid hl
  exact ⟨(hL _ hne).trans b3, fun it hit hi => b4 it ((hI it (hi ▸ hne)).1 hit) hi⟩

/-- `Calm` over a step that leaves the table alone and moves the iterator forward.  `hI`: an item
    the step leaves outside the time queue was so before, or its object is unchanged; `hR`: a new
    result is for the current object. -/
theorem Calm.frame {r r' : R} {rs rs' : List Res} (h : Calm r rs) (hobjs : r'.objs = r.objs) (hdels : r'.dels = r.dels)
    (hitRev : r.itRev ≤ r'.itRev) (hitDelRev : r.itDelRev ≤ r'.itDelRev) (hinjects : r'.injects = r.injects)
    (hI : ∀ it ∈ r'.items, it.inQueue = false → (∃ it0 ∈ r.items, it0.id = it.id ∧ it0.inQueue = false) ∨
      ¬ Stale r.objs r.dels r.itRev r.itDelRev it.id)
    (hR : ∀ res ∈ rs', res ∈ rs ∨ ∀ cur ∈ r.objs, cur.id = res.1.id → cur.rev = res.2.2.1) : Calm r' rs' := by
  refine ⟨hinjects.trans h.noinj, fun it hit hq hst => ?_, fun res hr cur hc hid hne => ?_⟩
  · rw [hobjs, hdels] at hst
    have hst' := hst.mono (fun _ _ _ _ g => Nat.lt_of_le_of_lt hitRev g) (fun _ _ _ g => Nat.lt_of_le_of_lt hitDelRev g)
    exact (hI it hit hq).elim (fun ⟨it0, hit0, e1, e2⟩ => h.settled it0 hit0 e2 (e1 ▸ hst')) (· hst')
  · rw [hobjs] at hc
    exact (hR res hr).elim (fun a => h.only_commits res a cur hc hid hne) fun a => absurd (a cur hc hid) hne

theorem userPut_eq (r : R) (id data : Nat) : ∃ other, r.userPut id data =
    { r.setObj { id, data, kind := .pending, sid := r.nextSid, other, rev := 0 } with nextSid := r.nextSid + 1 } := ⟨_, rfl⟩

theorem mem_setObj_other {r : R} {o x : RObj} (hx : x ∈ r.objs) (hid : x.id ≠ o.id) : x ∈ (r.setObj o).objs :=
  (mem_setObj_objs ..).2 (Or.inl ⟨hx, hid⟩)

theorem mem_setObj_dels_other {r : R} {o : RObj} {d : RObj × Nat} (hd : d ∈ r.dels) (hid : d.1.id ≠ o.id) : d ∈ (r.setObj o).dels := by
  simp only [setObj_dels, List.mem_filter]; exact ⟨hd, by simpa using hid⟩

theorem Stale.setObj_other {r : R} {o : RObj} {a b id : Nat} (hid : id ≠ o.id) (h : Stale r.objs r.dels a b id) :
    Stale (r.setObj o).objs (r.setObj o).dels a b id :=
  h.imp (fun ⟨x, hx, e, g⟩ => ⟨x, mem_setObj_other hx (e ▸ hid), e, g⟩)
    (fun ⟨d, hd, e, g⟩ => ⟨d, mem_setObj_dels_other hd (e ▸ hid), e, g⟩)

theorem ErrAt.setObj_other {r : R} {o : RObj} {it : Item} (hid : it.id ≠ o.id) (h : ErrAt r.objs it) : ErrAt (r.setObj o).objs it :=
  let ⟨x, hx, e⟩ := h
  ⟨x, mem_setObj_other hx (e.1 ▸ hid), e⟩

theorem stale_setObj {r : R} (ht : TInv r) (o : RObj) (hn : needs o.kind) :
    Stale (r.setObj o).objs (r.setObj o).dels r.itRev r.itDelRev o.id :=
  Or.inl ⟨_, (mem_setObj_objs ..).2 (Or.inr rfl), rfl, Nat.lt_succ_of_le ht.it_le, hn⟩

theorem ObjOK.needs_of_item {log : List Call} {items : List Item} {a : Nat} {rs : List Res} {o : RObj}
    (h : ObjOK log items a rs o) (hk : o.kind ≠ .error) {it : Item} (hit : it ∈ items) (hid : it.id = o.id) : needs o.kind := by
  cases hkk : o.kind with
  | pending => exact Or.inl rfl
  | refreshing => exact Or.inr rfl
  | error => exact absurd hkk hk
  | done => exact absurd hid ((h.of_done hkk).2 it hit)

theorem Stale.delObj {r : R} (ht : TInv r) (o : RObj) {X : Nat} (h : Stale r.objs r.dels r.itRev r.itDelRev X ∨ X = o.id) :
    Stale (r.objs.filter (·.id ≠ o.id)) (r.dels ++ [({ o with rev := r.tableRev + 1 }, r.tableRev + 1)]) r.itRev r.itDelRev X := by
  by_cases hX : X = o.id
  · exact Or.inr ⟨_, List.mem_append_right _ (List.mem_singleton.2 rfl), hX.symm, Nat.lt_succ_of_le ht.itd_le⟩
  · exact (h.resolve_right hX).imp
      (fun ⟨x, hx, e, g⟩ => ⟨x, List.mem_filter.2 ⟨hx, decide_eq_true (e ▸ hX)⟩, e, g⟩)
      (fun ⟨d, hd, e⟩ => ⟨d, List.mem_append_left _ hd, e⟩)

theorem ErrAt.delObj {objs : List RObj} {id : Nat} {it : Item} (hid : it.id ≠ id) (h : ErrAt objs it) :
    ErrAt (objs.filter (·.id ≠ id)) it :=
  let ⟨x, hx, e⟩ := h
  ⟨x, List.mem_filter.2 ⟨hx, decide_eq_true (e.1 ▸ hid)⟩, e⟩

theorem delOK_delObj {r : R} (ht : TInv r) (hD : ∀ d ∈ r.dels, DelOK r.log r.items r.itDelRev d) (o : RObj) :
    ∀ d ∈ r.dels ++ [(o, r.tableRev + 1)], DelOK r.log r.items r.itDelRev d :=
  fun d hd => (List.mem_append.1 hd).elim (hD d) fun e => List.mem_singleton.1 e ▸ Or.inl (Nat.lt_succ_of_le ht.itd_le)

theorem CItemOK.setObj_other {r : R} {o : RObj} {it : Item} {rs : List Res} {a b : Nat} (hid : it.id ≠ o.id)
    (h : CItemOK r.objs r.dels a b rs it) : CItemOK (r.setObj o).objs (r.setObj o).dels a b rs it :=
  ⟨h.obj_id,
    h.reason.imp (·.setObj_other hid) (Or.imp (fun ⟨h4, d, hd, h5⟩ => ⟨h4, d, mem_setObj_dels_other hd (h5 ▸ hid), h5⟩)
      fun ⟨h4, e⟩ => ⟨h4, e.setObj_other hid⟩),
    fun hq => (h.popped hq).imp (·.setObj_other hid) fun ⟨a1, a2, a3⟩ => ⟨a1, a2.setObj_other hid, a3⟩⟩

theorem CResOK.setObj {r : R} {o : RObj} {log : List Call} {items : List Item} {res : Res}
    (h : CResOK r.objs log items r.tableRev res)
    (hdead : res.1.id = o.id → ¬ ResLive res { o with rev := r.tableRev + 1 }) :
    CResOK (r.setObj o).objs log items (r.tableRev + 1) res := by
  refine ⟨h.orig_id, Nat.le_succ_of_le h.rev_le, fun cur hcur hcid hl => ?_⟩
  rcases (mem_setObj_objs ..).1 hcur with ⟨hcur', _⟩ | rfl
  · exact h.live cur hcur' hcid hl
  · exact absurd hl (hdead hcid.symm)

/-- a write of `o`: a user's version, or the current object with a foreign field changed.  `hi`:
    an object that has a retry item is still to be processed after the write; `hres`: a waiting
    result that applies to the written object applied to a current object before. -/
theorem Core.setObj {r : R} {rs : List Res} (h : Core r rs) (o : RObj)
    (hd : o.kind = .done → lastCall r.log o.id = some ⟨"U", o.id, o.data, true⟩ ∧ ∀ it ∈ r.items, it.id ≠ o.id)
    (he : o.kind ≠ .error) (hi : ∀ it ∈ r.items, it.id = o.id → needs o.kind)
    (hres : ∀ res ∈ rs, res.1.id = o.id → ResLive res { o with rev := r.tableRev + 1 } →
      ∃ cur ∈ r.objs, cur.id = o.id ∧ ResLive res cur) : Core (r.setObj o) rs := by
  refine ⟨h.tinv.setObj o, h.items_pw, fun x hx => ?_, fun d hdd => h.delOK d (List.mem_filter.1 hdd).1,
    fun it hit => ?_, fun res hr => ?_⟩
  · exact ((mem_setObj_objs ..).1 hx).elim (fun a => h.objOK x a.1)
      fun e => e ▸ ⟨hd, fun e' => absurd e' he, fun _ => Or.inl (Nat.lt_succ_of_le h.tinv.it_le)⟩
  · by_cases hid : it.id = o.id
    · have hst := hid ▸ stale_setObj h.tinv o (hi it hit hid)
      exact ⟨(h.itemOK it hit).obj_id, Or.inl hst, fun _ => Or.inl hst⟩
    · exact (h.itemOK it hit).setObj_other hid
  · have hR := h.resOK res hr
    refine ⟨hR.orig_id, Nat.le_succ_of_le hR.rev_le, fun cur hcur hcid hl => ?_⟩
    rcases (mem_setObj_objs ..).1 hcur with ⟨hcur', _⟩ | rfl
    · exact hR.live cur hcur' hcid hl
    · obtain ⟨c, hc, e, hl'⟩ := hres res hr hcid.symm hl
      exact hR.live c hc (e.trans hcid) hl'

theorem Core.delObj {r : R} {rs : List Res} (h : Core r rs) (id : Nat) : Core (r.delObj id) rs := by
  cases hg : r.get id with
  | none => rw [delObj_of_none hg]; exact h
  | some o =>
    have ht := h.tinv.delObj id
    rw [delObj_of_get hg] at ht ⊢
    obtain ⟨-, rfl⟩ := (get_eq_some_iff h.tinv ..).1 hg
    refine ⟨ht, h.items_pw, fun x hx => h.objOK x (List.mem_filter.1 hx).1, delOK_delObj h.tinv h.delOK _,
      fun it hit => ?_, fun res hr => ?_⟩
    · obtain ⟨h1, h2, h3⟩ := h.itemOK it hit
      by_cases hid : it.id = o.id
      · have hst := Stale.delObj h.tinv o (Or.inr hid)
        exact ⟨h1, Or.inl hst, fun _ => Or.inl hst⟩
      · exact ⟨h1, h2.imp (fun a => Stale.delObj h.tinv o (Or.inl a))
            (Or.imp (fun ⟨h4, d, hd, h5⟩ => ⟨h4, d, List.mem_append_left _ hd, h5⟩) fun ⟨h4, e⟩ => ⟨h4, e.delObj hid⟩),
          fun hq => (h3 hq).imp (fun a => Stale.delObj h.tinv o (Or.inl a)) fun ⟨a1, a2, a3⟩ => ⟨a1, a2.delObj hid, a3⟩⟩
    · have hR := h.resOK res hr
      exact ⟨hR.orig_id, Nat.le_succ_of_le hR.rev_le, fun cur hcur => hR.live cur (List.mem_filter.1 hcur).1⟩

theorem InvL.queued {r : R} (h : InvL r []) : ∀ it ∈ r.items, it.inQueue = true := by
  intro it hit
  cases hq : it.inQueue with
  | true => rfl
  | false =>
    obtain ⟨_, _, _, hr, _⟩ := (h.itemOK it hit).popped hq
    cases hr

theorem InvL.error_item {r : R} (h : InvL r []) {o : RObj} (ho : o ∈ r.objs) (hk : o.kind = .error) :
    ∃ it ∈ r.items, it.id = o.id ∧ it.delete = false ∧ it.rev = o.rev ∧ it.inQueue = true := by
  rcases (h.objOK o ho).of_error hk with a | ⟨res, hres, _⟩
  · exact a
  · cases hres

theorem InvL.waiting_gt {r : R} (h : InvL r []) {o : RObj} (ho : o ∈ r.objs) (hn : needs o.kind) : o.rev > r.itRev := by
  rcases (h.objOK o ho).of_needs hn with a | ⟨res, hres, _⟩
  · exact a
  · cases hres

theorem Calm.of_queued {r : R} (hn : r.injects = []) (hq : ∀ it ∈ r.items, it.inQueue = true) : Calm r [] :=
  ⟨hn, fun it hit hf => (nomatch (hq it hit).symm.trans hf), fun _ hr => (nomatch hr)⟩

theorem InvL.userPut {r : R} (h : InvL r []) (id data : Nat) : InvL (r.userPut id data) [] := by
  obtain ⟨other, he⟩ := userPut_eq r id data
  rw [he]
  exact Core.invL (Core.congr (h.core.setObj { id, data, kind := .pending, sid := r.nextSid, other, rev := 0 } nofun nofun
    (fun _ _ _ => Or.inl rfl) fun _ hr => nomatch hr) rfl rfl rfl rfl rfl rfl rfl rfl) (Calm.of_queued h.noinj h.queued)

theorem InvL.delObj {r : R} (h : InvL r []) (id : Nat) : InvL (r.delObj id) [] := by
  have hc := h.core.delObj id
  cases hg : r.get id with
  | none => rw [delObj_of_none hg]; exact h
  | some o =>
    rw [delObj_of_get hg] at hc ⊢
    exact hc.invL (Calm.of_queued h.noinj h.queued)

/-- `hne` cannot be dropped: a foreign write moves an Error object's revision away from the
    queued retry's, whose result is then dropped, and the object stays Error with nothing queued
    (K4, `C14_touch_on_error_refuted`) -/
theorem InvL.touch {r : R} (h : InvL r []) (id : Nat) (hne : ∀ o, r.get id = some o → o.kind ≠ .error) : InvL (r.touch id) [] := by
  cases hg : r.get id with
  | none => rw [touch_of_none hg]; exact h
  | some o =>
    have hk := hne o hg
    rw [touch_of_get hg]
    obtain ⟨ho, rfl⟩ := (get_eq_some_iff h.tinv ..).1 hg
    exact (h.core.setObj { o with other := o.other + 1 } (h.objOK o ho).of_done hk
      (fun it hit hid => (h.objOK o ho).needs_of_item hk hit hid) fun _ hr => nomatch hr).invL (Calm.of_queued h.noinj h.queued)

end Sdb.Rec
