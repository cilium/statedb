import SdbModel.Lemmas.LpmOrder

/-! `lookup` (`lpmLookup`), by one walk (`lookup_ok`).  For a key at least as long as every stored prefix, or when
    no node lies under the key's prefix, it returns the longest stored prefix that covers the key
    (`LookupOk.longest`); otherwise it returns the value slot of the topmost node under the key's prefix
    (`LookupOk.hit`); a stored key finds itself (`LookupOk.self`). -/
namespace Sdb.Lpm
variable {α : Type}

/-- `r` is the right answer over the entries of `t` when `closest` is the answer found above `t` -/
inductive Longest (data : List Nat) (plen : Nat) (t : Trie α) (closest r : Option α) : Prop
  | fallback (hr : r = closest) (none : ∀ e ∈ preorder t, ¬ Covers e.1 e.2.1 data plen)
  | entry (d' : List Nat) (p' : Nat) (v' : α) (hr : r = some v') (mem : (d', p', v') ∈ preorder t)
      (covers : Covers d' p' data plen) (longest : ∀ e ∈ preorder t, Covers e.1 e.2.1 data plen → e.2.1 ≤ p')

theorem Longest.node {data : List Nat} {plen : Nat} {nd : List Nat} {ml b : Nat} {nv : Option α}
    {t c c' : Trie α} {closest cl r : Option α} (hB : AllKeys (Below nd ml b) c) (hcov : Covers nd ml data plen)
    (hcl : cl = (nv <|> closest))
    (hc' : ∀ e ∈ preorder c', ¬ Covers e.1 e.2.1 data plen)
    (hmem : ∀ e, e ∈ preorder t ↔ e ∈ selfEntry nd ml nv ∨ e ∈ preorder c ∨ e ∈ preorder c')
    (h : Longest data plen c cl r) : Longest data plen t closest r := by
  cases h with
  | fallback hr hnone =>
    cases nv with
    | none =>
      refine .fallback (hr.trans hcl) fun e he => ?_
      exact ((hmem e).mp he).elim (absurd · List.not_mem_nil) (·.elim (hnone e) (hc' e))
    | some x =>
      refine .entry nd ml x (hr.trans hcl) ((hmem _).mpr (Or.inl (List.mem_singleton.mpr rfl))) hcov
        fun e he hce => ?_
      rcases (hmem e).mp he with h | h | h
      · rw [(mem_selfEntry.mp h).2.2]; exact Nat.le_refl _
      · exact absurd hce (hnone e h)
      · exact absurd hce (hc' e h)
  | entry d' p' v' hr hm hcv hlong =>
    refine .entry d' p' v' hr ((hmem _).mpr (Or.inr (Or.inl hm))) hcv fun e he hce => ?_
    rcases (hmem e).mp he with h | h | h
    · rw [(mem_selfEntry.mp h).2.2]; exact Nat.le_of_lt (hB.mem _ hm).lt
    · exact hlong e h hce
    · exact absurd hce (hc' e h)

/-- what `r = lookup data plen t s closest` is on a well-formed `t`, where `pn = prefixNode data plen t s` -/
structure LookupOk (data : List Nat) (plen : Nat) (t : Trie α) (closest r : Option α) (pn : Trie α) : Prop where
  self : ∀ v, (data, plen, v) ∈ preorder t → r = some v
  hit : ∀ pd pp pv pc0 pc1, pn = .node pd pp pv pc0 pc1 → r = pv ∧ Covers data plen pd pp
  longest : (∀ e ∈ preorder t, e.2.1 ≤ plen) ∨ pn = .nil → Longest data plen t closest r

theorem lookup_ok (data : List Nat) (plen : Nat) (hq : Canon data plen) :
    ∀ (t : Trie α) (s : Nat), WF t → Pre s data plen t → ∀ closest : Option α,
      LookupOk data plen t closest (lookup data plen t s closest) (prefixNode data plen t s) := by
  refine walk_ind hq (fun s closest => ?_) ?_
  · exact {
      self := fun v h => absurd h List.not_mem_nil
      hit := fun _ _ _ _ _ h => nomatch h
      longest := fun _ => .fallback rfl nofun }
  intro nd npl nv c0 c1 s ml hwf hml hag hc closest
  have hcov := mem_covered hwf
  have ⟨hcn, himg, hB0, hB1, hw0, hw1⟩ := hwf
  simp only [prefixNode, lookup, hml]
  cases hc with
  | equal e1 e2 e3 =>
    subst e1 e2 e3
    rw [if_pos rfl, if_pos rfl]
    refine {
      self := fun v hm => ((mem_node_self_iff hB0 hB1 v).mp hm).symm
      hit := fun pd pp pv pc0 pc1 h => by
        injection h with e1 e2 e3
        subst e1 e2 e3
        exact ⟨rfl, Covers.refl _ _⟩
      longest := fun hok => ?_ }
    have hfull := hok.resolve_right nofun
    cases nv with
    | some x =>
      exact .entry nd npl x rfl ((mem_preorder_node ..).mpr (Or.inl ⟨rfl, rfl, rfl⟩))
        (Covers.refl _ _) fun e he _ => hfull e he
    | none =>
      -- an imaginary node has entries below it, which are longer than the key
      obtain ⟨⟨d', p', v'⟩, he0⟩ := exists_entry c0 hw0 (himg rfl).1
      exact absurd (hfull _ ((mem_preorder_node ..).mpr (Or.inr (Or.inl he0))))
        (Nat.not_le_of_lt (hB0.mem _ he0).lt)
  | above e1 hlt =>
    subst e1
    rw [if_pos rfl, if_pos rfl]
    refine {
      self := fun v hm => absurd (hcov _ hm).le (Nat.not_le_of_lt hlt)
      hit := fun pd pp pv pc0 pc1 h => by
        injection h with e1 e2 e3
        subst e1 e2 e3
        exact ⟨rfl, Nat.le_of_lt hlt, hag.symm⟩
      longest := fun hok => ?_ }
    obtain ⟨e, he⟩ := exists_entry _ hwf nofun
    exact absurd (Nat.le_trans (hcov e he).le (hok.resolve_right nofun e he)) (Nat.not_le_of_lt hlt)
  | fork hp hn hne =>
    rw [if_neg (Nat.ne_of_lt hp), if_pos hn, if_neg (Nat.ne_of_lt hp), if_pos hn]
    exact {
      self := fun v hm => absurd ((hcov _ hm).agree ml hn) hne
      hit := fun _ _ _ _ _ h => nomatch h
      longest := fun _ => .fallback rfl fun e he k =>
        hne (((hcov e he).agree ml hn).trans (k.agree ml (Nat.lt_of_lt_of_le hn (hcov e he).le))) }
  | descend e1 hlt i0 i1 =>
    subst e1
    rw [if_neg (Nat.ne_of_lt hlt), if_neg (Nat.lt_irrefl _), if_neg (Nat.ne_of_lt hlt), if_neg (Nat.lt_irrefl _)]
    have hother : ∀ (b : Nat) (c : Trie α), AllKeys (Below nd ml b) c → getBitAt data ml ≠ b →
        ∀ e ∈ preorder c, ¬ Covers e.1 e.2.1 data plen :=
      fun b c hB hb e he => (hB.mem e he).not_covers hb
    by_cases hbit : getBitAt data ml = 0
    · rw [if_pos hbit, if_pos hbit]
      refine {
        self := fun v hm => (i0 _).self v (by rwa [mem_node_iff_child hB0 hB1 v hlt, if_pos hbit] at hm)
        hit := (i0 _).hit
        longest := fun hok => ?_ }
      refine Longest.node (nv := nv) hB0 ⟨Nat.le_of_lt hlt, hag⟩ (by cases nv <;> rfl)
        (hother 1 c1 hB1 (by omega)) (fun e => by rw [preorder_node]; simp only [List.mem_append, or_assoc])
        ((i0 _).longest (hok.imp_left fun h e he => h e ?_))
      rw [preorder_node]; exact List.mem_append_left _ (List.mem_append_right _ he)
    · rw [if_neg hbit, if_neg hbit]
      refine {
        self := fun v hm => (i1 _).self v (by rwa [mem_node_iff_child hB0 hB1 v hlt, if_neg hbit] at hm)
        hit := (i1 _).hit
        longest := fun hok => ?_ }
      refine Longest.node (nv := nv) hB1 ⟨Nat.le_of_lt hlt, hag⟩ (by cases nv <;> rfl)
        (hother 0 c0 hB0 hbit)
        (fun e => by rw [preorder_node]; simp only [List.mem_append, or_assoc, or_comm, or_left_comm])
        ((i1 _).longest (hok.imp_left fun h e he => h e ?_))
      rw [preorder_node]; exact List.mem_append_right _ he

end Sdb.Lpm
