import SdbModel.Lemmas.ReconcilerInject

/-!
  The steps of a reconciliation round, each stated over the fields of the state it produces.
  A step keeps `Core`, and with it `Calm` and `Fresh`, each if it held before (`Keeps`).  The
  change processed may be stale: the object was rewritten, deleted or re-created by a write that
  landed during an earlier Update of the same round.
-/
namespace Sdb.Rec

/-- what a step lemma concludes: `calm`, `fresh` are implications from the property before the step -/
structure Keeps (core calm fresh : Prop) : Prop where
  core : core
  calm : calm
  fresh : fresh

theorem HasRes.append {rs : List Res} {o : RObj} (h : HasRes rs o) (l : List Res) : HasRes (rs ++ l) o := by
  obtain ⟨res, hr, h1⟩ := h
  exact ⟨res, List.mem_append_left _ hr, h1⟩

/-- a result that applied to the object of a queued item would have the item outside the time queue -/
theorem Core.queued_no_res {r : R} {rs : List Res} (h : Core r rs) {it0 : Item} (hit0 : it0 ∈ r.items) (hq0 : it0.inQueue = true) :
    ∀ res ∈ rs, res.1.id = it0.id → ∀ cur ∈ r.objs, cur.id = it0.id → ¬ ResLive res cur :=
  fun res hres hid cur hcur hcid hlive =>
    nomatch (((h.resOK res hres).live cur hcur (hcid.trans hid.symm) hlive).2 it0 hit0 hid.symm).1.symm.trans hq0

/-- the iterator passes an object that needs no processing (`v` its revision) -/
theorem Core.step_skip {r r' : R} {rs : List Res} (h : Core r rs) (v : Nat) (hv : v ≤ r.tableRev)
    (hlt : ∀ x ∈ r.objs, needs x.kind → x.rev > r.itRev → x.rev > v)
    (hobjs : r'.objs = r.objs) (hdels : r'.dels = r.dels) (htableRev : r'.tableRev = r.tableRev)
    (hitRev : r'.itRev = v) (hitDelRev : r'.itDelRev = r.itDelRev) (hrefreshedAt : r'.refreshedAt = r.refreshedAt)
    (hitems : r'.items = r.items) (hlog : r'.log = r.log) :
    Keeps (Core r' rs) (Calm r rs → r.itRev ≤ v → r'.injects = r.injects → Calm r' rs)
      (Fresh r rs → r'.nextSid = r.nextSid → Fresh r' rs) := by
  refine {
    core := {
      tinv := h.tinv.set_it hobjs hdels htableRev (hitRev ▸ hv) (hitDelRev ▸ h.tinv.itd_le) hrefreshedAt
      items_pw := hitems ▸ h.items_pw
      objOK := ?_
      delOK := ?_
      itemOK := ?_
      resOK := ?_ }
    calm := fun hC hge hinj => hC.frame hobjs hdels (hitRev ▸ hge) (Nat.le_of_eq hitDelRev.symm) hinj
      (fun it hit hq => Or.inl ⟨it, hitems ▸ hit, rfl, hq⟩) fun _ hr => Or.inl hr
    fresh := fun hf hnext => hf.frame hobjs htableRev hnext (fun it hit hd => ⟨it, hitems ▸ hit, rfl, rfl, rfl, hd⟩) fun _ hr => Or.inl hr }
  · rw [hobjs, hitems, hlog, hitRev]
    exact fun x hx => ⟨(h.objOK x hx).of_done, (h.objOK x hx).of_error, fun hn => ((h.objOK x hx).of_needs hn).imp_left (hlt x hx hn)⟩
  · rw [hdels, hitems, hlog, hitDelRev]; exact h.delOK
  · rw [hobjs, hdels, hitems, hitRev, hitDelRev]
    exact fun it hit => (h.itemOK it hit).mono (·.mono (fun x hx _ => hlt x hx) (fun _ _ _ g => g)) fun _ hres _ => hres
  · rw [hobjs, hitems, hlog, htableRev]; exact h.resOK

/-- the incremental loop processes a change of a live object, `obj` its version in the round's
    snapshot; the current object is `obj` or was written after the snapshot (still to be processed) -/
theorem Core.step_update {r r' : R} {rs : List Res} (h : Core r rs) (obj : RObj) (f : Bool)
    (hn : needs obj.kind) (hgt : obj.rev > r.itRev) (hle : obj.rev ≤ r.tableRev)
    (hcur : ∀ cur ∈ r.objs, cur.id = obj.id → cur = obj ∨ (obj.rev < cur.rev ∧ needs cur.kind))
    (hdel : ∀ d ∈ r.dels, d.1.id = obj.id → d.2 > r.itDelRev)
    (hrs : ∀ res ∈ rs, res.1.id ≠ obj.id)
    (hlt : ∀ x ∈ r.objs, needs x.kind → x.rev > r.itRev → x = obj ∨ x.rev > obj.rev)
    (hobjs : r'.objs = r.objs) (hdels : r'.dels = r.dels) (htableRev : r'.tableRev = r.tableRev)
    (hitRev : r'.itRev = obj.rev) (hitDelRev : r'.itDelRev = r.itDelRev) (hrefreshedAt : r'.refreshedAt = r.refreshedAt)
    (hitems : r'.items = r.items.filter (·.id ≠ obj.id)) (hlog : r'.log = r.log ++ [⟨"U", obj.id, obj.data, !f⟩]) :
    Keeps (Core r' (rs ++ [(obj, obj, obj.rev, obj.sid, f)]))
      (Calm r rs → (∀ cur ∈ r.objs, cur.id = obj.id → cur = obj) → r'.injects = r.injects →
        Calm r' (rs ++ [(obj, obj, obj.rev, obj.sid, f)]))
      (Fresh r rs → FreshRes r.objs r.nextSid (obj, obj, obj.rev, obj.sid, f) → r'.nextSid = r.nextSid →
        Fresh r' (rs ++ [(obj, obj, obj.rev, obj.sid, f)])) := by
  have hI := mem_filter_off (items := r.items) (X := obj.id)
  have hL := lastCall_append_off (log := r.log) (c := ⟨"U", obj.id, obj.data, !f⟩) rfl
  have hlt' : ∀ x ∈ r.objs, x.id ≠ obj.id → needs x.kind → x.rev > r.itRev → x.rev > obj.rev :=
    fun x hx hid hxn hxgt => (hlt x hx hxn hxgt).resolve_left fun e => hid (e ▸ rfl)
  have hself : (obj, obj, obj.rev, obj.sid, f) ∈ rs ++ [(obj, obj, obj.rev, obj.sid, f)] :=
    List.mem_append_right _ (List.mem_singleton.2 rfl)
  have hold : ∀ it ∈ r'.items, it ∈ r.items := fun it hit => (mem_filter_id_ne.1 (hitems ▸ hit)).1
  refine {
    core := {
      tinv := h.tinv.set_it hobjs hdels htableRev (hitRev ▸ hle) (hitDelRev ▸ h.tinv.itd_le) hrefreshedAt
      items_pw := hitems ▸ h.items_pw.filter _
      objOK := ?_
      delOK := ?_
      itemOK := ?_
      resOK := ?_ }
    calm := fun hC hcu hinj => hC.frame hobjs hdels (Nat.le_of_lt (Nat.lt_of_lt_of_eq hgt hitRev.symm)) (Nat.le_of_eq hitDelRev.symm) hinj
      (fun it hit hq => Or.inl ⟨it, hold it hit, rfl, hq⟩)
      fun res hr => (List.mem_append.1 hr).imp_right fun a cur hc e => by
        rw [List.mem_singleton.1 a] at e ⊢
        rw [hcu cur hc e]
    fresh := fun hf hfr hnext => hf.frame hobjs htableRev hnext (fun it hit hd => ⟨it, hold it hit, rfl, rfl, rfl, hd⟩)
      fun res hr => (List.mem_append.1 hr).imp_right fun a => by
        rw [List.mem_singleton.1 a]
        exact hfr }
  · rw [hobjs, hitems, hlog, hitRev]
    intro x hx
    by_cases hid : x.id = obj.id
    · rcases hcur x hx hid with e | e
      · subst e
        exact ⟨fun e => absurd e (needs_ne hn).1, fun e => absurd e (needs_ne hn).2, fun _ => Or.inr ⟨_, hself, rfl, rfl⟩⟩
      · exact ⟨fun e' => absurd e' (needs_ne e.2).1, fun e' => absurd e' (needs_ne e.2).2, fun _ => Or.inl e.1⟩
    · exact (h.objOK x hx).frame hid hI hL (·.append _) (hlt' x hx hid)
  · rw [hdels, hitems, hlog, hitDelRev]
    intro d hd
    by_cases hid : d.1.id = obj.id
    · exact Or.inl (hdel d hd hid)
    · exact (h.delOK d hd).frame hid hI hL id
  · rw [hobjs, hdels, hitems, hitRev, hitDelRev]
    intro it hit
    obtain ⟨hit, hid⟩ := mem_filter_id_ne.1 hit
    exact (h.itemOK it hit).mono (·.mono (fun x hx e => hlt' x hx (e ▸ hid)) (fun _ _ _ g => g))
      fun res hres _ => List.mem_append_left _ hres
  · rw [hobjs, hitems, hlog, htableRev]
    intro res hres
    rcases List.mem_append.1 hres with hres' | hres'
    · exact (h.resOK res hres').frame hI hL fun e => absurd e (hrs res hres')
    · rw [List.mem_singleton.1 hres']
      exact ⟨rfl, hle, fun _ _ _ _ => ⟨lastCall_append_self _ ⟨"U", obj.id, obj.data, !f⟩,
        fun it hit hi => absurd hi (mem_filter_id_ne.1 hit).2⟩⟩

/-- a Delete for the id `X`: from the change stream (`v` the deletion's revision) or from the
    retry queue (`v` the unchanged position).  `X` may have been re-created meanwhile. -/
theorem Core.step_delete {r r' : R} {rs : List Res} (h : Core r rs) (X : Nat) (f : Bool) (v : Nat) (c : Call)
    (tail : List Item) (hvt : v ≤ r.tableRev)
    (hlt : ∀ x ∈ r.dels, x.2 > r.itDelRev → x.1.id = X ∨ x.2 > v)
    (hlive : ∀ cur ∈ r.objs, cur.id = X → needs cur.kind)
    (hrs : ∀ res ∈ rs, res.1.id = X → ∀ cur ∈ r.objs, cur.id = X → ¬ ResLive res cur)
    (hc : c.id = X ∧ c.op = "D" ∧ c.ok = !f)
    (ht : ∀ it ∈ tail, it.id = X ∧ it.obj.id = X ∧ it.delete = true ∧ it.inQueue = true)
    (htp : tail.Pairwise (fun a b => a.id ≠ b.id)) (htf : f = true → tail ≠ []) (htn : f = false → tail = [])
    (hjust : f = true → Stale r.objs r.dels r.itRev v X ∨ ∃ d ∈ r.dels, d.1.id = X)
    (hobjs : r'.objs = r.objs) (hdels : r'.dels = r.dels) (htableRev : r'.tableRev = r.tableRev)
    (hitRev : r'.itRev = r.itRev) (hitDelRev : r'.itDelRev = v) (hrefreshedAt : r'.refreshedAt = r.refreshedAt)
    (hitems : r'.items = r.items.filter (·.id ≠ X) ++ tail) (hlog : r'.log = r.log ++ [c]) :
    Keeps (Core r' rs) (Calm r rs → r.itDelRev ≤ v → r'.injects = r.injects → Calm r' rs)
      (Fresh r rs → r'.nextSid = r.nextSid → Fresh r' rs) := by
  have hI := mem_filter_append_off (items := r.items) (fun it hit => (ht it hit).1)
  have hL := lastCall_append_off (log := r.log) hc.1
  have hlt' : ∀ x ∈ r.dels, x.1.id ≠ X → x.2 > r.itDelRev → x.2 > v :=
    fun x hx hid hgt => (hlt x hx hgt).resolve_left hid
  have hold : ∀ it ∈ r'.items, it ∈ r.items ∨ it ∈ tail :=
    fun it hit => (List.mem_append.1 (hitems ▸ hit)).imp_left fun a => (mem_filter_id_ne.1 a).1
  refine {
    core := {
      tinv := h.tinv.set_it hobjs hdels htableRev (hitRev ▸ h.tinv.it_le) (hitDelRev ▸ hvt) hrefreshedAt
      items_pw := ?_
      objOK := ?_
      delOK := ?_
      itemOK := ?_
      resOK := ?_ }
    calm := fun hC hge hinj => hC.frame hobjs hdels (Nat.le_of_eq hitRev.symm) (hitDelRev ▸ hge) hinj
      (fun it hit hq => (hold it hit).elim (fun a => Or.inl ⟨it, a, rfl, hq⟩) fun a => nomatch (ht it a).2.2.2.symm.trans hq)
      fun _ hr => Or.inl hr
    fresh := fun hf hnext => hf.frame hobjs htableRev hnext
      (fun it hit hd => (hold it hit).elim (fun a => ⟨it, a, rfl, rfl, rfl, hd⟩) fun a => nomatch (ht it a).2.2.1.symm.trans hd)
      fun _ hr => Or.inl hr }
  · rw [hitems, List.pairwise_append]
    exact ⟨h.items_pw.filter _, htp, fun a ha b hb => (ht b hb).1 ▸ (mem_filter_id_ne.1 ha).2⟩
  · rw [hobjs, hitems, hlog, hitRev]
    intro x hx
    by_cases hid : x.id = X
    · have hxn := needs_ne (hlive x hx hid)
      exact ⟨fun e => absurd e hxn.1, fun e => absurd e hxn.2, (h.objOK x hx).of_needs⟩
    · exact (h.objOK x hx).frame hid hI hL id fun _ => id
  · rw [hdels, hitems, hlog, hitDelRev]
    intro x hx
    by_cases hid : x.1.id = X
    · cases f with
      | true =>
        obtain ⟨it, tl, htl⟩ := List.exists_cons_of_ne_nil (htf rfl)
        have hit : it ∈ tail := htl ▸ List.mem_cons_self ..
        exact Or.inr (Or.inl ⟨it, List.mem_append_right _ hit, (ht it hit).1.trans hid.symm, (ht it hit).2.2⟩)
      | false =>
        refine Or.inr (Or.inr ⟨⟨c, hid ▸ hc.1 ▸ lastCall_append_self _ _, hc.2.1, hc.2.2⟩, fun it hit => ?_⟩)
        rw [htn rfl, List.append_nil] at hit
        exact hid ▸ (mem_filter_id_ne.1 hit).2
    · exact (h.delOK x hx).frame hid hI hL (hlt' x hx hid)
  · rw [hobjs, hdels, hitems, hitRev, hitDelRev]
    intro it hit
    by_cases hi : it.id = X
    · rcases List.mem_append.1 hit with hit' | hit'
      · exact absurd hi (mem_filter_id_ne.1 hit').2
      · obtain ⟨t1, t2, t3, t4⟩ := ht it hit'
        have hf : f = true := by
          cases f with
          | true => rfl
          | false => rw [htn rfl] at hit'; cases hit'
        exact ⟨t2.trans t1.symm, hi ▸ (hjust hf).imp_right fun a => Or.inl ⟨t3, a⟩, fun hq => nomatch t4.symm.trans hq⟩
    · exact (h.itemOK it ((hI it hi).1 hit)).mono (·.mono (fun _ _ _ _ g => g) (fun x hx e => hlt' x hx (e ▸ hi)))
        fun _ hres _ => hres
  · rw [hobjs, hitems, hlog, htableRev]
    exact fun res hres => (h.resOK res hres).frame hI hL (hrs res hres)

/-- a due retry of an Update.  The object may have changed since the retry was queued (then the
    result will be dropped). -/
theorem Core.step_retry_update {r r' : R} {rs : List Res} (h : Core r rs) (it0 : Item) (f : Bool)
    (hit0 : it0 ∈ r.items) (hq0 : it0.inQueue = true) (hdel0 : it0.delete = false) (hrev : it0.rev ≤ r.tableRev)
    (hI : ∀ it : Item, it.id ≠ it0.id → (it ∈ r'.items ↔ it ∈ r.items))
    (hX : ∀ it ∈ r'.items, it.id = it0.id → f = true ∧ it = { it0 with inQueue := false })
    (hpw : r'.items.Pairwise (fun a b => a.id ≠ b.id))
    (hobjs : r'.objs = r.objs) (hdels : r'.dels = r.dels) (htableRev : r'.tableRev = r.tableRev)
    (hitRev : r'.itRev = r.itRev) (hitDelRev : r'.itDelRev = r.itDelRev) (hrefreshedAt : r'.refreshedAt = r.refreshedAt)
    (hlog : r'.log = r.log ++ [⟨"U", it0.obj.id, it0.obj.data, !f⟩]) :
    Keeps (Core r' (rs ++ [(it0.obj, it0.obj, it0.rev, it0.obj.sid, f)]))
      (Calm r rs → ¬ Stale r.objs r.dels r.itRev r.itDelRev it0.id → r'.injects = r.injects →
        Calm r' (rs ++ [(it0.obj, it0.obj, it0.rev, it0.obj.sid, f)]))
      (Fresh r rs → r'.nextSid = r.nextSid → Fresh r' (rs ++ [(it0.obj, it0.obj, it0.rev, it0.obj.sid, f)])) := by
  have hobj := (h.itemOK it0 hit0).obj_id
  have hjust := (h.itemOK it0 hit0).reason
  have huniq : ∀ it ∈ r.items, it.id = it0.id → it = it0 := fun it hit hid => eq_of_id h.items_pw hit hit0 hid
  have hL := lastCall_append_off (log := r.log) (c := ⟨"U", it0.obj.id, it0.obj.data, !f⟩) hobj
  have hnores := h.queued_no_res hit0 hq0
  have hself : (it0.obj, it0.obj, it0.rev, it0.obj.sid, f) ∈ rs ++ [(it0.obj, it0.obj, it0.rev, it0.obj.sid, f)] :=
    List.mem_append_right _ (List.mem_singleton.2 rfl)
  have hnew : ∀ res ∈ rs ++ [(it0.obj, it0.obj, it0.rev, it0.obj.sid, f)],
      res ∈ rs ∨ res = (it0.obj, it0.obj, it0.rev, it0.obj.sid, f) :=
    fun res hr => (List.mem_append.1 hr).imp_right List.mem_singleton.1
  refine {
    core := {
      tinv := h.tinv.congr hobjs hdels htableRev hitRev hitDelRev hrefreshedAt
      items_pw := hpw
      objOK := ?_
      delOK := ?_
      itemOK := ?_
      resOK := ?_ }
    calm := fun hC hns hinj => ?_
    fresh := fun hf hnext => ?_ }
  · rw [hobjs, hlog, hitRev]
    intro x hx
    by_cases hid : x.id = it0.id
    · have hx := h.objOK x hx
      refine ⟨fun e => absurd hid.symm ((hx.of_done e).2 it0 hit0), fun e => Or.inr ?_, fun e => (hx.of_needs e).imp_right (HasRes.append · _)⟩
      rcases hx.of_error e with ⟨it, hit, b1, _, b3, _⟩ | b
      · rw [huniq it hit (b1.trans hid)] at b3
        exact ⟨_, hself, hobj.trans hid.symm, b3⟩
      · exact b.append _
    · exact (h.objOK x hx).frame hid hI hL (·.append _) fun _ => id
  · rw [hdels, hlog, hitDelRev]
    intro d hd
    by_cases hid : d.1.id = it0.id
    · rcases h.delOK d hd with a | ⟨it, hit, b1, b2, _⟩ | ⟨_, c3⟩
      · exact Or.inl a
      · rw [huniq it hit (b1.trans hid), hdel0] at b2; cases b2
      · exact absurd hid.symm (c3 it0 hit0)
    · exact (h.delOK d hd).frame hid hI hL id
  · rw [hobjs, hdels, hitRev, hitDelRev]
    intro it hit
    by_cases hid : it.id = it0.id
    · obtain ⟨hf, rfl⟩ := hX it hit hid
      refine ⟨hobj, hjust, fun _ => ?_⟩
      rcases hjust with a | a | a
      · exact Or.inl a
      · rw [hdel0] at a; cases a.1
      · exact Or.inr ⟨hdel0, a.2, _, hself, hobj, rfl, hf⟩
    · exact (h.itemOK it ((hI it hid).1 hit)).mono id fun res hres _ => List.mem_append_left _ hres
  · rw [hobjs, hlog, htableRev]
    intro res hres
    rcases List.mem_append.1 hres with hres' | hres'
    · exact (h.resOK res hres').frame hI hL (hnores res hres')
    · rw [List.mem_singleton.1 hres']
      exact ⟨rfl, hrev, fun _ _ _ _ => ⟨lastCall_append_self _ ⟨"U", it0.obj.id, it0.obj.data, !f⟩,
        fun it hit hi => let ⟨hf, e⟩ := hX it hit (hi.trans hobj); e ▸ ⟨rfl, hf⟩⟩⟩
  · -- nothing is waiting to be delivered for the object: it is the Error object the retry was queued for
    obtain ⟨o, ho, hoid, _, hor⟩ := (h.itemOK it0 hit0).errAt hdel0 hns
    refine hC.frame hobjs hdels (Nat.le_of_eq hitRev.symm) (Nat.le_of_eq hitDelRev.symm) hinj
      (fun it hit hq => (Decidable.em (it.id = it0.id)).elim (fun e => Or.inr (e ▸ hns))
        fun ne => Or.inl ⟨it, (hI it ne).1 hit, rfl, hq⟩)
      fun res hr => (hnew res hr).imp_right fun e cur hcur hid => ?_
    rw [e] at hid ⊢
    rw [h.tinv.obj_eq hcur ho (hid.trans (hobj.trans hoid.symm))]
    exact hor
  · obtain ⟨_, hsid0, hcurs⟩ := hf.item it0 hit0 hdel0
    refine hf.frame hobjs htableRev hnext
      (fun it hit hd => (Decidable.em (it.id = it0.id)).elim
        (fun e => ⟨it0, hit0, e.symm, (hX it hit e).2 ▸ ⟨rfl, rfl, hdel0⟩⟩) fun ne => ⟨it, (hI it ne).1 hit, rfl, rfl, rfl, hd⟩)
      fun res hr => (hnew res hr).imp_right fun e => ?_
    rw [e]
    exact ⟨rfl, rfl, hsid0, fun cur hcur hid hl => (hcurs cur hcur (hid.trans hobj)).elim
      (fun e => ⟨e.2.2.1, fun _ => e.2.2.2⟩) fun e => hl.elim (fun e' => absurd e' (Nat.ne_of_gt e.1)) fun p => absurd p.2 (e.2 p.1)⟩

/-- a result that does not apply to the current object any more is dropped -/
theorem Core.drop_res {r : R} {res : Res} {rs : List Res} (h : Core r (res :: rs))
    (hne : ∀ cur ∈ r.objs, cur.id = res.1.id → ¬ ResLive res cur) : Core r rs := by
  have hhas : ∀ x ∈ r.objs, HasRes (res :: rs) x → HasRes rs x := by
    rintro x hx ⟨res', hr, e1, e2⟩
    rcases List.mem_cons.1 hr with rfl | hr
    · exact absurd (Or.inl e2.symm) (hne x hx e1.symm)
    · exact ⟨res', hr, e1, e2⟩
  refine ⟨h.tinv, h.items_pw, ?_, h.delOK, ?_, fun res' hr => h.resOK res' (List.mem_cons_of_mem _ hr)⟩
  · intro x hx
    have hx' := h.objOK x hx
    exact ⟨hx'.of_done, fun e => (hx'.of_error e).imp_right (hhas x hx), fun e => (hx'.of_needs e).imp_right (hhas x hx)⟩
  · intro it hit
    have i := h.itemOK it hit
    refine ⟨i.obj_id, i.reason, fun hq => (i.popped hq).imp_right fun ⟨c1, ⟨x, hx, x1, x2, x3⟩, res', hr, e1, e2, e3⟩ => ?_⟩
    refine ⟨c1, ⟨x, hx, x1, x2, x3⟩, res', (List.mem_cons.1 hr).resolve_left ?_, e1, e2, e3⟩
    rintro rfl
    exact hne x hx (x1.trans e1.symm) (Or.inl (x3.trans e2.symm))

/-- the status is written back onto `base` (the clone passed to Update, or the current object when
    only a foreign field changed); on failure a retry of `orig` is queued -/
theorem Core.step_commit {r r' : R} {res : Res} {rs : List Res} (h : Core r (res :: rs)) (cur base orig : RObj) (sid : Nat)
    (hcur : cur ∈ r.objs) (hcid : cur.id = res.1.id) (hlive : ResLive res cur)
    (hbase : base.id = cur.id ∧ base.data = res.1.data ∧ orig.id = base.id) (itn : Item)
    (hitn : itn.id = orig.id ∧ itn.obj = orig ∧ itn.rev = r.tableRev + 1 ∧ itn.delete = false ∧ itn.inQueue = true)
    (hobjs : r'.objs = (r.setObj { base with kind := if res.2.2.2.2 then .error else .done, sid := sid }).objs)
    (hdels : r'.dels = (r.setObj { base with kind := if res.2.2.2.2 then .error else .done, sid := sid }).dels)
    (htableRev : r'.tableRev = r.tableRev + 1)
    (hitRev : r'.itRev = r.itRev) (hitDelRev : r'.itDelRev = r.itDelRev) (hrefreshedAt : r'.refreshedAt = r.refreshedAt)
    (hitems : r'.items = if res.2.2.2.2 then r.items.filter (·.id ≠ orig.id) ++ [itn] else r.items)
    (hlog : r'.log = r.log) :
    Keeps (Core r' rs) (Calm r (res :: rs) → r'.injects = r.injects → Calm r' rs)
      (Fresh r (res :: rs) → orig = base → base.sid < r.nextSid → sid = r.nextSid → r'.nextSid = r.nextSid + 1 → Fresh r' rs) := by
  obtain ⟨obj, orig0, rev, sid0, f⟩ := res
  simp only at hcid hitn hobjs hdels hitems hbase
  obtain ⟨hlast, hpop⟩ := (h.resOK _ (List.mem_cons_self ..)).live cur hcur hcid hlive
  simp only at hlast hpop
  obtain ⟨hbid, hbdata, hoid⟩ := hbase
  obtain ⟨hnid, hnobj, hnrev, hndel, hnq⟩ := hitn
  have hX : orig.id = obj.id := hoid.trans (hbid.trans hcid)
  generalize hod : ({ base with kind := if f then SKind.error else SKind.done, sid := sid } : RObj) = o' at hobjs hdels
  have ho'id : o'.id = obj.id := by rw [← hod]; exact hbid.trans hcid
  have ho'data : o'.data = obj.data := by rw [← hod]; exact hbdata
  have ho'kind : o'.kind = if f then SKind.error else SKind.done := by rw [← hod]
  have ho'np : o'.kind ≠ .pending := by rw [ho'kind]; cases f <;> simp
  have ho'nn : ¬ needs o'.kind := by rw [ho'kind]; cases f <;> simp [needs]
  have hmemo : ∀ it : Item, it.id ≠ obj.id → (it ∈ r'.items ↔ it ∈ r.items) := by
    intro it hid
    rw [hitems]
    split
    · exact mem_filter_append_off (fun _ e => List.mem_singleton.1 e ▸ hnid) it (fun e => hid (e.trans hX))
    · rfl
  -- a status commit logs no call
  have hL : ∀ id, id ≠ obj.id → lastCall r.log id = lastCall r.log id := fun _ _ => rfl
  have hmemx : ∀ it ∈ r'.items, it.id = obj.id → f = true ∧ it = itn := by
    intro it hit hid
    rw [hitems] at hit
    split at hit
    · rename_i hf
      rcases List.mem_append.1 hit with a | a
      · exact absurd (hid.trans hX.symm) (mem_filter_id_ne.1 a).2
      · exact ⟨hf, List.mem_singleton.1 a⟩
    · exact absurd (hpop it hit hid).2 (by assumption)
  have hhas : ∀ x, x.id ≠ obj.id → HasRes ((obj, orig0, rev, sid0, f) :: rs) x → HasRes rs x := by
    rintro x hx ⟨res', hr, e1, e2⟩
    rcases List.mem_cons.1 hr with rfl | hr
    · exact absurd e1.symm hx
    · exact ⟨res', hr, e1, e2⟩
  have hnew : ({ o' with rev := r.tableRev + 1 } : RObj) ∈ (r.setObj o').objs := (mem_setObj_objs ..).2 (Or.inr rfl)
  -- the object written is newer than anything a waiting result was computed for, and not Pending
  have hdead : ∀ res' ∈ rs, ¬ ResLive res' { o' with rev := r.tableRev + 1 } := by
    rintro res' hr (e | ⟨e, _⟩)
    · exact Nat.not_succ_le_self _ (e ▸ (h.resOK res' (List.mem_cons_of_mem _ hr)).rev_le)
    · exact ho'np e
  have hwas : ∀ x ∈ (r.setObj o').objs, x.id ≠ obj.id → x ∈ r.objs := fun x hx hid =>
    ((mem_setObj_objs ..).1 hx).elim (·.1) fun e => absurd (e ▸ ho'id) hid
  refine {
    core := {
      tinv := (h.tinv.setObj o').congr hobjs hdels htableRev hitRev hitDelRev hrefreshedAt
      items_pw := ?_
      objOK := ?_
      delOK := ?_
      itemOK := ?_
      resOK := ?_ }
    calm := fun hC hinj => { noinj := hinj.trans hC.noinj, settled := ?_, only_commits := ?_ }
    fresh := fun hF hob hbsid hsid hnext => ?_ }
  · rw [hitems]
    split
    · rw [List.pairwise_append]
      exact ⟨h.items_pw.filter _, by simp, fun a ha b hb => List.mem_singleton.1 hb ▸ hnid ▸ (mem_filter_id_ne.1 ha).2⟩
    · exact h.items_pw
  · rw [hobjs, hlog, hitRev]
    intro x hx
    rcases (mem_setObj_objs ..).1 hx with ⟨hx, hid⟩ | rfl
    · rw [ho'id] at hid
      exact (h.objOK x hx).frame hid hmemo hL (hhas x hid) fun _ => id
    · cases f with
      | false =>
        have hk : o'.kind = .done := ho'kind
        refine ⟨fun _ => ⟨?_, fun it hit hi => ?_⟩, fun e => absurd (hk.symm.trans e) (by simp), fun e => absurd e ho'nn⟩
        · show lastCall r.log o'.id = some ⟨"U", o'.id, o'.data, true⟩
          rw [ho'id, ho'data]; exact hlast
        · cases (hmemx it hit (hi.trans ho'id)).1
      | true =>
        have hk : o'.kind = .error := ho'kind
        refine ⟨fun e => absurd (hk.symm.trans e) (by simp), fun _ => Or.inl ⟨itn, ?_, hnid.trans (hX.trans ho'id.symm), hndel, hnrev, hnq⟩,
          fun e => absurd e ho'nn⟩
        rw [hitems]; exact List.mem_append_right _ (List.mem_singleton.2 rfl)
  · rw [hdels, hlog, hitDelRev]
    intro d hd
    obtain ⟨hd, _⟩ := List.mem_filter.1 hd
    exact (h.delOK d hd).frame (fun e => h.tinv.disj cur hcur d hd (hcid.trans e.symm)) hmemo hL id
  · rw [hobjs, hdels, hitRev, hitDelRev]
    intro it hit
    by_cases hi : it.id = obj.id
    · obtain ⟨hf, hin⟩ := hmemx it hit hi
      subst hf hin
      exact ⟨hnobj ▸ hnid.symm, Or.inr (Or.inr ⟨hndel, _, hnew, ho'id.trans hi.symm, ho'kind, hnrev.symm⟩),
        fun hq => nomatch hnq.symm.trans hq⟩
    · exact ((h.itemOK it ((hmemo it hi).1 hit)).setObj_other (o := o') (fun e => hi (e.trans ho'id))).mono id
        fun res' hr e => (List.mem_cons.1 hr).resolve_left fun e' => hi (e' ▸ e).symm
  · rw [hobjs, hlog, htableRev]
    intro res' hr
    refine ((h.resOK res' (List.mem_cons_of_mem _ hr)).setObj fun _ => hdead res' hr).frame hmemo hL fun _ x hx hxid => ?_
    rcases (mem_setObj_objs ..).1 hx with ⟨_, hne⟩ | rfl
    · exact absurd (hxid.trans ho'id.symm) hne
    · exact hdead res' hr
  · rw [hobjs, hdels, hitRev, hitDelRev]
    intro it hit hq hst
    have hi : it.id ≠ obj.id := fun e => nomatch ((hmemx it hit e).2 ▸ hq).symm.trans hnq
    refine hC.settled it ((hmemo it hi).1 hit) hq (hst.imp (fun ⟨x, hx, e, g⟩ => ⟨x, hwas x hx (e ▸ hi), e, g⟩)
      fun ⟨d, hd, e⟩ => ⟨d, (List.mem_filter.1 hd).1, e⟩)
  · rw [hobjs]
    intro res' hr x hx hxid hne
    rcases (mem_setObj_objs ..).1 hx with ⟨hx, _⟩ | rfl
    · exact hC.only_commits res' (List.mem_cons_of_mem _ hr) x hx hxid hne
    · show o'.kind = _ ∨ o'.kind = _
      rw [ho'kind]; cases f
      · exact Or.inl rfl
      · exact Or.inr rfl
  · subst hob
    refine hF.setObj o' hobjs htableRev (Nat.le_trans (Nat.le_succ _) (Nat.le_of_eq hnext.symm))
      (by rw [hnext, ← hod, hsid]; exact Nat.lt_succ_self _)
      (fun it hit hi => (hmemo it fun e => hi (e.trans ho'id.symm)).1 hit) (fun it hit hd hi => ?_)
      (fun _ hr => List.mem_cons_of_mem _ hr) fun res' hr _ hl => absurd hl (hdead res' hr)
    obtain ⟨hf, hin⟩ := hmemx it hit (hi.trans ho'id)
    subst hf hin
    rw [hnext]
    exact ⟨Nat.le_of_eq hnrev, hnobj ▸ Nat.lt_succ_of_lt hbsid,
      Or.inl ⟨ho'kind, hnrev.symm, by rw [hnobj, ← hod], by rw [hnobj, ← hod]⟩⟩

end Sdb.Rec
