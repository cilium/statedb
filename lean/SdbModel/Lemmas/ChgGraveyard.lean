import SdbModel.Lemmas.ChgTableInv

/-! The collector of `Model.Table` (C08): `gcScan` selects the graveyard entries at or below the low watermark,
    `gcApply` drops them; what stays in the graveyard is invisible to the queries. -/
namespace Sdb.Chg
open Sdb.Tbl Sdb.Chg.OMap

/-- the low watermark of a table: its revision, lowered by every registered tracker -/
def lowWatermark (db : DB) (t : TableS) : Nat :=
  t.trackers.foldl (fun lw id => min lw (db.trackerRevOf id)) t.rev

/-- the revision keys the scan selects in one table -/
def scanKeys (db : DB) (t : TableS) : List Key :=
  (t.graveRev.takeWhile fun (_, o) => o.rev ≤ lowWatermark db t).map (·.1)

theorem gcScan_eq (db : DB) :
    gcScan db = (db.root.mapIdx fun i t => (i, scanKeys db t)).filter fun (_, ks) => !ks.isEmpty := rfl

private theorem foldl_min_le (f : Nat → Nat) (l : List Nat) (a : Nat) :
    l.foldl (fun lw id => min lw (f id)) a ≤ a ∧ ∀ id ∈ l, l.foldl (fun lw id => min lw (f id)) a ≤ f id := by
  induction l generalizing a with
  | nil => simp
  | cons x r ih =>
    simp only [List.foldl_cons, List.mem_cons]
    have := ih (min a (f x))
    refine ⟨by omega, ?_⟩
    rintro id (e | hm)
    · subst e; omega
    · exact this.2 id hm

private theorem le_foldl_min (f : Nat → Nat) (l : List Nat) (a x : Nat) (h1 : x ≤ a) (h2 : ∀ id ∈ l, x ≤ f id) :
    x ≤ l.foldl (fun lw id => min lw (f id)) a := by
  induction l generalizing a with
  | nil => exact h1
  | cons y r ih =>
    simp only [List.foldl_cons]
    refine ih _ ?_ (fun id hid => h2 id (List.mem_cons_of_mem _ hid))
    have := h2 y (List.mem_cons_self ..)
    omega

theorem lowWatermark_le_rev (db : DB) (t : TableS) : lowWatermark db t ≤ t.rev :=
  (foldl_min_le _ _ _).1

theorem lowWatermark_le_tracker (db : DB) (t : TableS) (id : Nat) (h : id ∈ t.trackers) :
    lowWatermark db t ≤ db.trackerRevOf id := (foldl_min_le _ _ _).2 id h

theorem le_lowWatermark (db : DB) (t : TableS) (x : Nat) (h1 : x ≤ t.rev)
    (h2 : ∀ id ∈ t.trackers, x ≤ db.trackerRevOf id) : x ≤ lowWatermark db t :=
  le_foldl_min _ _ _ _ h1 h2

theorem lowWatermark_eq_rev (db : DB) (t : TableS) (h : ∀ id ∈ t.trackers, t.rev ≤ db.trackerRevOf id) :
    lowWatermark db t = t.rev :=
  Nat.le_antisymm (lowWatermark_le_rev db t) (le_lowWatermark db t _ (Nat.le_refl _) h)

private theorem takeWhile_mem_p {α : Type} (p : α → Bool) (l : List α) (a : α) (h : a ∈ l.takeWhile p) : p a = true := by
  have := List.all_takeWhile (l := l) (p := p)
  rw [List.all_eq_true] at this
  exact this a h

private theorem takeWhile_eq_self {α : Type} (p : α → Bool) (l : List α) (h : ∀ a ∈ l, p a = true) :
    l.takeWhile p = l := by
  induction l with
  | nil => rfl
  | cons a r ih =>
    rw [List.takeWhile_cons_of_pos (h a (List.mem_cons_self ..)), ih fun b hb => h b (List.mem_cons_of_mem _ hb)]

theorem mem_scanKeys (db : DB) (t : TableS) (k : Key) (hk : k ∈ scanKeys db t) :
    ∃ o, (k, o) ∈ t.graveRev ∧ o.rev ≤ lowWatermark db t := by
  unfold scanKeys at hk
  simp only [List.mem_map] at hk
  obtain ⟨⟨k', o⟩, hm, e⟩ := hk
  simp only at e; subst e
  refine ⟨o, (List.takeWhile_sublist _).subset hm, ?_⟩
  have := takeWhile_mem_p _ _ _ hm
  simpa using this

theorem scanKeys_all (db : DB) (t : TableS) (h : ∀ k o, (k, o) ∈ t.graveRev → o.rev ≤ lowWatermark db t) :
    scanKeys db t = t.graveRev.map (·.1) := by
  unfold scanKeys
  congr 1
  apply takeWhile_eq_self
  rintro ⟨k, o⟩ hm
  simpa using h k o hm

private theorem deadKeys_mapIdx (g : TableS → List Key) (hg : g default = []) (l : List TableS) (off i : Nat) :
    deadKeys ((l.mapIdx fun j t => (j + off, g t)).filter fun (_, ks) => !ks.isEmpty) (i + off) =
      g (l.getD i default) := by
  induction l generalizing off i with
  | nil => simp [deadKeys, hg]
  | cons a l ih =>
    rw [List.mapIdx_cons]
    have hrest : (l.mapIdx fun j t => (j + 1 + off, g t)) = (l.mapIdx fun j t => (j + (off + 1), g t)) := by
      congr 1; funext j t; congr 1; omega
    cases i with
    | zero =>
      simp only [Nat.zero_add, List.getD_cons_zero]
      by_cases hga : (g a).isEmpty
      · rw [List.filter_cons_of_neg (by simpa using hga)]
        have hnone : List.find? (fun x : Nat × List Key => decide (x.1 = off))
            ((l.mapIdx fun j t => (j + 1 + off, g t)).filter fun (_, ks) => !ks.isEmpty) = none := by
          rw [List.find?_eq_none]
          intro p hp
          have hp' := (List.mem_filter.mp hp).1
          rw [List.mem_mapIdx] at hp'
          obtain ⟨j, _, e⟩ := hp'
          rw [← e]; simp
        unfold deadKeys
        rw [hnone]
        simp only
        exact (List.isEmpty_iff.mp hga).symm
      · rw [List.filter_cons_of_pos (by simpa using hga)]
        simp [deadKeys]
    | succ i =>
      simp only [List.getD_cons_succ]
      have hskip : ∀ rest : List (Nat × List Key),
          deadKeys (((0 + off, g a) :: rest).filter fun (_, ks) => !ks.isEmpty) (i + 1 + off) =
          deadKeys (rest.filter fun (_, ks) => !ks.isEmpty) (i + 1 + off) := by
        intro rest
        by_cases hga : (g a).isEmpty
        · rw [List.filter_cons_of_neg (by simpa using hga)]
        · rw [List.filter_cons_of_pos (by simpa using hga)]
          unfold deadKeys
          rw [List.find?_cons_of_neg]
          simp
      rw [hskip, hrest]
      have := ih (off + 1) i
      rw [show i + (off + 1) = i + 1 + off by omega] at this
      exact this

theorem deadKeys_gcScan (db : DB) (i : Nat) :
    deadKeys (gcScan db) i = scanKeys db (db.root.getD i default) := by
  have := deadKeys_mapIdx (scanKeys db) (by simp [scanKeys, default, instInhabitedTableS.default]) db.root 0 i
  simpa [gcScan_eq] using this

theorem scanKeys_retains {t : TableS} (h : TInv t) (db : DB) (k : Key) (o : Obj) (hm : (k, o) ∈ t.graveRev)
    (id : Nat) (hid : id ∈ t.trackers) (hlt : db.trackerRevOf id < o.rev) : k ∉ scanKeys db t := by
  intro hk
  obtain ⟨o', hm', hle⟩ := mem_scanKeys db t k hk
  have := h.grS.unique hm hm'
  subst this
  have := lowWatermark_le_tracker db t id hid
  omega

theorem getD_mapIdx_tables (l : List TableS) (f : Nat → TableS → TableS) (i : Nat) (hf : f i default = default) :
    (l.mapIdx f).getD i default = f i (l.getD i default) := by
  simp only [List.getD_eq_getElem?_getD, List.getElem?_mapIdx]
  cases l[i]? with
  | none => simp [hf]
  | some a => simp

theorem gcTable_default (ks : List Key) : gcTable default ks = default := by
  induction ks with
  | nil => rfl
  | cons k r ih =>
    simp only [gcTable, List.foldl_cons] at ih ⊢
    have : gcStep default k = default := by
      simp [gcStep, default, instInhabitedTableS.default]
    rw [this]; exact ih

theorem gcApply_getD (db : DB) (dead : List (Nat × List Key)) (i : Nat) :
    (gcApply db dead).root.getD i default = gcTable (db.root.getD i default) (deadKeys dead i) := by
  rw [gcApply_root]
  exact getD_mapIdx_tables _ _ _ (gcTable_default _)

/-- `hall` holds in particular when no tracker is registered, and when all are at the table revision -/
theorem gcTable_scan_empties {t : TableS} (h : TInv t) (db : DB)
    (hall : ∀ k o, (k, o) ∈ t.graveRev → ∀ id ∈ t.trackers, o.rev ≤ db.trackerRevOf id) :
    (gcTable t (scanKeys db t)).grave = [] ∧ (gcTable t (scanKeys db t)).graveRev = [] := by
  have hkeys : scanKeys db t = t.graveRev.map (·.1) :=
    scanKeys_all db t fun k o hm => le_lowWatermark db t _ (h.grK _ _ hm).2 (hall k o hm)
  obtain ⟨m1, m2⟩ := gcTable_mem h (scanKeys db t)
  constructor
  · rw [List.eq_nil_iff_forall_not_mem]
    rintro ⟨k, x⟩ hx
    obtain ⟨hx', hn⟩ := (m2 k x).mp hx
    apply hn
    rw [hkeys, List.mem_map]
    have hid := h.gK _ _ hx'
    exact ⟨(revKey x.rev, x), (h.gg x).mp (hid ▸ hx'), rfl⟩
  · rw [List.eq_nil_iff_forall_not_mem]
    rintro ⟨k, x⟩ hx
    obtain ⟨hx', hn⟩ := (m1 k x).mp hx
    apply hn
    rw [hkeys, List.mem_map]
    exact ⟨(k, x), hx', rfl⟩

theorem numObjects_eq_all {t : TableS} (h : TInv t) : numObjects t = (qAll t).length := by
  have := h.live.length_eq
  simpa [numObjects, qAll] using this

theorem grave_invisible {t : TableS} (h : TInv t) (k : Key) (g : Obj) (hg : (k, g) ∈ t.grave) :
    qGet t .id k 0 = none ∧ (∀ o ∈ qAll t, o.id ≠ k) ∧ qGet t .rev (revKey g.rev) 0 = none := by
  refine ⟨?_, ?_, ?_⟩
  · simp only [qGet]
    exact (get_eq_none_iff h.pS _).mpr fun v hv => h.disj _ _ _ hg hv
  · intro o ho e
    simp only [qAll, List.mem_map, Prod.exists, exists_eq_right] at ho
    obtain ⟨k', hm⟩ := ho
    have := h.pK _ _ hm
    rw [this, e] at hm
    exact h.disj _ _ _ hg hm
  · simp only [qGet]
    have hk := h.gK _ _ hg
    have hgr := (h.gg g).mp (hk ▸ hg)
    exact (get_eq_none_iff h.rS _).mpr fun v hv => h.rdisj _ _ _ hgr hv
end Sdb.Chg
