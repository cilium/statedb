import SdbModel.Lemmas.ReconcilerTimer

/-!
  A view `V` of the reconciler state (the fields the progress / pacing invariants of C16 talk
  about), the atomic steps of a round as functions on views, and induction principles over the
  three loops of a round that hand every step the bookkeeping invariant `InvL` together with an
  exact description of the step on views.

  `K…`: a motive of the change loop (`ConsumeSteps`).
  `Q…`: a motive of the tail (`CommitSteps`, `RetryStep`).
  `X…`: a part of the run invariant `XL`.
-/
namespace Sdb.Rec
open LB

structure V where
  objs : List RObj
  dels : List (RObj × Nat)
  tableRev : Nat
  itRev : Nat
  itDelRev : Nat
  items : List Item
  log : List Call
  now : Nat
  cfg : Cfg
  progressRev : Nat

def R.v (r : R) : V :=
  { objs := r.objs, dels := r.dels, tableRev := r.tableRev, itRev := r.itRev, itDelRev := r.itDelRev,
    items := r.items, log := r.log, now := r.now, cfg := r.cfg, progressRev := r.progressRev }

/-- `numRetries` of the item stored for `id`: `retries.Add` counts on from it -/
def prevN (items : List Item) (id : Nat) : Nat :=
  match items.find? (·.id = id) with
  | some i => i.numRetries
  | none => 0

/-- `origRev` of the item stored for `id` (`dflt` if none): `retries.Add` keeps the revision of the
    change that failed originally over the retries of an item -/
def prevO (items : List Item) (id dflt : Nat) : Nat :=
  match items.find? (·.id = id) with
  | some i => i.origRev
  | none => dflt

/-- the item `retries.Add` stores -/
def mkItem (now : Nat) (cfg : Cfg) (o : RObj) (rev origRev : Nat) (del : Bool) (n : Nat) : Item :=
  { id := o.id, obj := o, rev, origRev, delete := del, retryAt := now + backoff cfg.minB cfg.maxB n,
    numRetries := n, inQueue := true, inRevQueue := true }

/-- `retries.Pop`: the item for `id` leaves the time queue and stays in the revision queue -/
def popItem (id : Nat) (i : Item) : Item := if i.id = id then { i with inQueue := false } else i

def V.add (v : V) (o : RObj) (rev origRev : Nat) (del : Bool) : V :=
  { v with items := v.items.filter (·.id ≠ o.id) ++ [mkItem v.now v.cfg o rev (prevO v.items o.id origRev) del (prevN v.items o.id + 1)] }

def V.clear (v : V) (id : Nat) : V := { v with items := v.items.filter (·.id ≠ id) }

def V.pop (v : V) (id : Nat) : V := { v with items := v.items.map (popItem id) }

def V.call (v : V) (c : Call) : V := { v with log := v.log ++ [c] }

/-- `processSingle` with the outcome `f` (failed?) on views: the call is logged; on success the item
    for `o.id` is cleared, a failed Delete is queued (a failed Update is queued by `commitStatus`) -/
def V.single (v : V) (o : RObj) (rev : Nat) (del f : Bool) : V :=
  { v with log := v.log ++ [⟨if del then "D" else "U", o.id, o.data, !f⟩],
           items := if f then (if del then (v.add o rev rev true).items else v.items) else v.items.filter (·.id ≠ o.id) }

/-- the result an Update leaves for `commitStatus` -/
def resOf (o : RObj) (rev : Nat) (del f : Bool) : List Res := if del then [] else [(o, o, rev, o.sid, f)]

theorem mem_resOf {o : RObj} {rev : Nat} {del f : Bool} {res : Res} :
    res ∈ resOf o rev del f ↔ del = false ∧ res = (o, o, rev, o.sid, f) := by
  cases del <;> simp [resOf]

def V.setObj (v : V) (o : RObj) : V :=
  { v with objs := (if v.objs.any (·.id = o.id) then v.objs.map (fun x => if x.id = o.id then { o with rev := v.tableRev + 1 } else x)
                    else v.objs ++ [{ o with rev := v.tableRev + 1 }]),
           tableRev := v.tableRev + 1, dels := v.dels.filter (·.1.id ≠ o.id) }

/-- a status commit of a result whose object is unchanged -/
def V.commit (v : V) (res : Res) (sid : Nat) : V :=
  let v1 := v.setObj { res.1 with kind := if res.2.2.2.2 then SKind.error else SKind.done, sid := sid }
  if res.2.2.2.2 then v1.add res.2.1 v1.tableRev res.2.2.1 false else v1

@[simp] theorem add_objs (v : V) (o : RObj) (a b : Nat) (d : Bool) : (v.add o a b d).objs = v.objs := rfl
@[simp] theorem add_dels (v : V) (o : RObj) (a b : Nat) (d : Bool) : (v.add o a b d).dels = v.dels := rfl
@[simp] theorem add_tableRev (v : V) (o : RObj) (a b : Nat) (d : Bool) : (v.add o a b d).tableRev = v.tableRev := rfl
@[simp] theorem add_itRev (v : V) (o : RObj) (a b : Nat) (d : Bool) : (v.add o a b d).itRev = v.itRev := rfl
@[simp] theorem add_itDelRev (v : V) (o : RObj) (a b : Nat) (d : Bool) : (v.add o a b d).itDelRev = v.itDelRev := rfl
@[simp] theorem add_log (v : V) (o : RObj) (a b : Nat) (d : Bool) : (v.add o a b d).log = v.log := rfl
@[simp] theorem add_now (v : V) (o : RObj) (a b : Nat) (d : Bool) : (v.add o a b d).now = v.now := rfl
@[simp] theorem add_cfg (v : V) (o : RObj) (a b : Nat) (d : Bool) : (v.add o a b d).cfg = v.cfg := rfl
@[simp] theorem add_progressRev (v : V) (o : RObj) (a b : Nat) (d : Bool) : (v.add o a b d).progressRev = v.progressRev := rfl
@[simp] theorem clear_objs (v : V) (id : Nat) : (v.clear id).objs = v.objs := rfl
@[simp] theorem clear_dels (v : V) (id : Nat) : (v.clear id).dels = v.dels := rfl
@[simp] theorem clear_tableRev (v : V) (id : Nat) : (v.clear id).tableRev = v.tableRev := rfl
@[simp] theorem clear_itRev (v : V) (id : Nat) : (v.clear id).itRev = v.itRev := rfl
@[simp] theorem clear_itDelRev (v : V) (id : Nat) : (v.clear id).itDelRev = v.itDelRev := rfl
@[simp] theorem clear_log (v : V) (id : Nat) : (v.clear id).log = v.log := rfl
@[simp] theorem clear_now (v : V) (id : Nat) : (v.clear id).now = v.now := rfl
@[simp] theorem clear_cfg (v : V) (id : Nat) : (v.clear id).cfg = v.cfg := rfl
@[simp] theorem clear_progressRev (v : V) (id : Nat) : (v.clear id).progressRev = v.progressRev := rfl
@[simp] theorem clear_items (v : V) (id : Nat) : (v.clear id).items = v.items.filter (·.id ≠ id) := rfl
@[simp] theorem pop_objs (v : V) (id : Nat) : (v.pop id).objs = v.objs := rfl
@[simp] theorem pop_dels (v : V) (id : Nat) : (v.pop id).dels = v.dels := rfl
@[simp] theorem pop_tableRev (v : V) (id : Nat) : (v.pop id).tableRev = v.tableRev := rfl
@[simp] theorem pop_itRev (v : V) (id : Nat) : (v.pop id).itRev = v.itRev := rfl
@[simp] theorem pop_itDelRev (v : V) (id : Nat) : (v.pop id).itDelRev = v.itDelRev := rfl
@[simp] theorem pop_log (v : V) (id : Nat) : (v.pop id).log = v.log := rfl
@[simp] theorem pop_now (v : V) (id : Nat) : (v.pop id).now = v.now := rfl
@[simp] theorem pop_cfg (v : V) (id : Nat) : (v.pop id).cfg = v.cfg := rfl
@[simp] theorem pop_progressRev (v : V) (id : Nat) : (v.pop id).progressRev = v.progressRev := rfl
@[simp] theorem pop_items (v : V) (id : Nat) : (v.pop id).items = v.items.map (popItem id) := rfl
@[simp] theorem call_objs (v : V) (c : Call) : (v.call c).objs = v.objs := rfl
@[simp] theorem call_dels (v : V) (c : Call) : (v.call c).dels = v.dels := rfl
@[simp] theorem call_tableRev (v : V) (c : Call) : (v.call c).tableRev = v.tableRev := rfl
@[simp] theorem call_itRev (v : V) (c : Call) : (v.call c).itRev = v.itRev := rfl
@[simp] theorem call_itDelRev (v : V) (c : Call) : (v.call c).itDelRev = v.itDelRev := rfl
@[simp] theorem call_items (v : V) (c : Call) : (v.call c).items = v.items := rfl
@[simp] theorem call_log (v : V) (c : Call) : (v.call c).log = v.log ++ [c] := rfl
@[simp] theorem call_now (v : V) (c : Call) : (v.call c).now = v.now := rfl
@[simp] theorem call_cfg (v : V) (c : Call) : (v.call c).cfg = v.cfg := rfl
@[simp] theorem call_progressRev (v : V) (c : Call) : (v.call c).progressRev = v.progressRev := rfl

@[simp] theorem popItem_id (X : Nat) (i : Item) : (popItem X i).id = i.id := by unfold popItem; split <;> rfl
@[simp] theorem popItem_obj (X : Nat) (i : Item) : (popItem X i).obj = i.obj := by unfold popItem; split <;> rfl
@[simp] theorem popItem_rev (X : Nat) (i : Item) : (popItem X i).rev = i.rev := by unfold popItem; split <;> rfl
@[simp] theorem popItem_origRev (X : Nat) (i : Item) : (popItem X i).origRev = i.origRev := by unfold popItem; split <;> rfl
@[simp] theorem popItem_delete (X : Nat) (i : Item) : (popItem X i).delete = i.delete := by unfold popItem; split <;> rfl
@[simp] theorem popItem_retryAt (X : Nat) (i : Item) : (popItem X i).retryAt = i.retryAt := by unfold popItem; split <;> rfl
@[simp] theorem popItem_numRetries (X : Nat) (i : Item) : (popItem X i).numRetries = i.numRetries := by unfold popItem; split <;> rfl
@[simp] theorem popItem_inRevQueue (X : Nat) (i : Item) : (popItem X i).inRevQueue = i.inRevQueue := by unfold popItem; split <;> rfl
theorem popItem_of_ne {X : Nat} {i : Item} (h : i.id ≠ X) : popItem X i = i := by unfold popItem; rw [if_neg h]
theorem popItem_of_eq {X : Nat} {i : Item} (h : i.id = X) : popItem X i = { i with inQueue := false } := by unfold popItem; rw [if_pos h]

theorem mem_add_items (v : V) (o : RObj) (a b : Nat) (d : Bool) (x : Item) :
    x ∈ (v.add o a b d).items ↔ (x ∈ v.items ∧ x.id ≠ o.id) ∨ x = mkItem v.now v.cfg o a (prevO v.items o.id b) d (prevN v.items o.id + 1) := by
  unfold V.add
  simp only [List.mem_append, List.mem_filter, List.mem_singleton]
  simp

theorem mem_clear_items (v : V) (id : Nat) (x : Item) : x ∈ (v.clear id).items ↔ x ∈ v.items ∧ x.id ≠ id := by
  simp [List.mem_filter]

theorem clear_clear (v : V) (id : Nat) : (v.clear id).clear id = v.clear id := by
  unfold V.clear; simp only [List.filter_filter]; simp

theorem call_clear_comm (v : V) (c : Call) (id : Nat) : (v.call c).clear id = (v.clear id).call c := rfl

theorem find?_id_of_mem {items : List Item} (hpw : items.Pairwise (fun a b => a.id ≠ b.id)) {it : Item} (hit : it ∈ items) :
    items.find? (·.id = it.id) = some it :=
  find_key_of_mem Item.id hpw hit

theorem find?_id_none {items : List Item} {id : Nat} (h : ∀ it ∈ items, it.id ≠ id) : items.find? (·.id = id) = none :=
  (find_key_none Item.id).2 h

theorem find?_id_pop (items : List Item) (X id : Nat) :
    (items.map (popItem X)).find? (·.id = id) = (items.find? (·.id = id)).map (popItem X) := by
  rw [List.find?_map]; simp only [Function.comp_def, popItem_id]

theorem prevN_of_mem {items : List Item} (hpw : items.Pairwise (fun a b => a.id ≠ b.id)) {it : Item} (hit : it ∈ items) :
    prevN items it.id = it.numRetries := by
  unfold prevN; rw [find?_id_of_mem hpw hit]

theorem prevN_of_not_mem {items : List Item} {id : Nat} (h : ∀ it ∈ items, it.id ≠ id) : prevN items id = 0 := by
  unfold prevN; rw [find?_id_none h]

theorem prevO_of_mem {items : List Item} (hpw : items.Pairwise (fun a b => a.id ≠ b.id)) {it : Item} (hit : it ∈ items) (d : Nat) :
    prevO items it.id d = it.origRev := by
  unfold prevO; rw [find?_id_of_mem hpw hit]

theorem prevO_of_not_mem {items : List Item} {id : Nat} (h : ∀ it ∈ items, it.id ≠ id) (d : Nat) : prevO items id d = d := by
  unfold prevO; rw [find?_id_none h]

theorem prevO_cases (items : List Item) (id d : Nat) : prevO items id d = d ∨ ∃ i ∈ items, i.id = id ∧ prevO items id d = i.origRev := by
  unfold prevO
  cases hf : items.find? (·.id = id) with
  | none => exact Or.inl rfl
  | some i => exact Or.inr ⟨i, List.mem_of_find?_eq_some hf, by simpa using List.find?_some hf, rfl⟩

theorem prevO_pop (items : List Item) (X id d : Nat) : prevO (items.map (popItem X)) id d = prevO items id d := by
  unfold prevO; rw [find?_id_pop]; cases items.find? (·.id = id) <;> simp

theorem prevN_pop (items : List Item) (X id : Nat) : prevN (items.map (popItem X)) id = prevN items id := by
  unfold prevN; rw [find?_id_pop]; cases items.find? (·.id = id) <;> simp

@[simp] theorem single_objs (v : V) (o : RObj) (rev : Nat) (d f : Bool) : (v.single o rev d f).objs = v.objs := rfl
@[simp] theorem single_itRev (v : V) (o : RObj) (rev : Nat) (d f : Bool) : (v.single o rev d f).itRev = v.itRev := rfl
@[simp] theorem single_itDelRev (v : V) (o : RObj) (rev : Nat) (d f : Bool) : (v.single o rev d f).itDelRev = v.itDelRev := rfl
@[simp] theorem single_now (v : V) (o : RObj) (rev : Nat) (d f : Bool) : (v.single o rev d f).now = v.now := rfl
@[simp] theorem single_cfg (v : V) (o : RObj) (rev : Nat) (d f : Bool) : (v.single o rev d f).cfg = v.cfg := rfl
theorem single_log (v : V) (o : RObj) (rev : Nat) (d f : Bool) :
    (v.single o rev d f).log = v.log ++ [⟨if d then "D" else "U", o.id, o.data, !f⟩] := rfl

theorem single_dt (v : V) (o : RObj) (rev : Nat) :
    v.single o rev true true = (v.call ⟨"D", o.id, o.data, false⟩).add o rev rev true := rfl
theorem single_df (v : V) (o : RObj) (rev : Nat) :
    v.single o rev true false = (v.call ⟨"D", o.id, o.data, true⟩).clear o.id := rfl
theorem single_ut (v : V) (o : RObj) (rev : Nat) :
    v.single o rev false true = v.call ⟨"U", o.id, o.data, false⟩ := rfl
theorem single_uf (v : V) (o : RObj) (rev : Nat) :
    v.single o rev false false = (v.call ⟨"U", o.id, o.data, true⟩).clear o.id := rfl

theorem mem_single_of_ne {v : V} {i : Item} {o : RObj} (hi : i ∈ v.items) (hne : i.id ≠ o.id) (rev : Nat) (d f : Bool) :
    i ∈ (v.single o rev d f).items := by
  cases d <;> cases f
  · rw [single_uf]; exact (mem_clear_items ..).2 ⟨hi, hne⟩
  · rw [single_ut]; exact hi
  · rw [single_df]; exact (mem_clear_items ..).2 ⟨hi, hne⟩
  · rw [single_dt]; exact (mem_add_items ..).2 (Or.inl ⟨hi, hne⟩)

theorem mem_single_other {v : V} {i : Item} {X : Nat} (hi : i ∈ v.items) (hne : i.id ≠ X) (o : RObj) (ho : o.id = X) (rev : Nat) (d f : Bool) :
    i ∈ ((v.pop X).single o rev d f).items :=
  mem_single_of_ne (List.mem_map.2 ⟨i, hi, popItem_of_ne hne⟩) (ho ▸ hne) rev d f

theorem mem_single_items {v : V} {o : RObj} {rev : Nat} {d f : Bool} {x : Item} (hx : x ∈ (v.single o rev d f).items) :
    (x ∈ v.items ∧ ((d = false ∧ f = true) ∨ x.id ≠ o.id)) ∨
    (d = true ∧ f = true ∧ x = mkItem v.now v.cfg o rev (prevO v.items o.id rev) true (prevN v.items o.id + 1)) := by
  cases d <;> cases f
  · rw [single_uf] at hx; have := (mem_clear_items ..).1 hx; exact Or.inl ⟨this.1, Or.inr this.2⟩
  · rw [single_ut] at hx; exact Or.inl ⟨hx, Or.inl ⟨rfl, rfl⟩⟩
  · rw [single_df] at hx; have := (mem_clear_items ..).1 hx; exact Or.inl ⟨this.1, Or.inr this.2⟩
  · rw [single_dt] at hx
    rcases (mem_add_items ..).1 hx with ⟨hm, hne⟩ | e
    · exact Or.inl ⟨hm, Or.inr hne⟩
    · exact Or.inr ⟨rfl, rfl, e⟩

theorem mem_clear_single_sub {v : V} {X : Nat} {o : RObj} {rev : Nat} {f : Bool} {x : Item}
    (hx : x ∈ ((v.clear X).single o rev false f).items) : x ∈ v.items ∧ x.id ≠ X := by
  rcases mem_single_items hx with ⟨h, _⟩ | ⟨h, _⟩
  · exact (mem_clear_items ..).1 h
  · cases h

theorem mem_clear_single_del {v : V} {o : RObj} {rev : Nat} {f : Bool} {x : Item}
    (hx : x ∈ ((v.clear o.id).single o rev true f).items) :
    (x ∈ v.items ∧ x.id ≠ o.id) ∨ (f = true ∧ x = mkItem v.now v.cfg o rev rev true 1) := by
  rcases mem_single_items hx with ⟨h, _⟩ | ⟨_, hf, e⟩
  · exact Or.inl ((mem_clear_items ..).1 h)
  · have hno : ∀ it ∈ (v.clear o.id).items, it.id ≠ o.id := fun it hit => ((mem_clear_items ..).1 hit).2
    rw [prevN_of_not_mem hno, prevO_of_not_mem hno] at e
    exact Or.inr ⟨hf, e⟩

theorem mem_pop_single {v : V} {X : Nat} {o : RObj} (ho : o.id = X) {rev : Nat} {d f : Bool} {x : Item}
    (hx : x ∈ ((v.pop X).single o rev d f).items) :
    (x ∈ v.items ∧ x.id ≠ X) ∨ (d = false ∧ f = true ∧ ∃ i ∈ v.items, i.id = X ∧ x = popItem X i) ∨
    (d = true ∧ f = true ∧ x = mkItem v.now v.cfg o rev (prevO v.items X rev) true (prevN v.items X + 1)) := by
  rcases mem_single_items hx with ⟨hm, h⟩ | ⟨hd, hf, e⟩
  · obtain ⟨i, hi, rfl⟩ := List.mem_map.1 hm
    by_cases hid : i.id = X
    · rcases h with ⟨hd, hf⟩ | hne
      · exact Or.inr (Or.inl ⟨hd, hf, i, hi, hid, rfl⟩)
      · rw [popItem_id, ho] at hne; exact absurd hid hne
    · rw [popItem_of_ne hid]; exact Or.inl ⟨hi, hid⟩
  · rw [pop_items, prevN_pop, prevO_pop, ho] at e
    exact Or.inr (Or.inr ⟨hd, hf, e⟩)

theorem mem_setObj_v (v : V) (o x : RObj) :
    x ∈ (v.setObj o).objs ↔ (x ∈ v.objs ∧ x.id ≠ o.id) ∨ x = { o with rev := v.tableRev + 1 } :=
  mem_setObj_objs ({ objs := v.objs, tableRev := v.tableRev } : R) o x

@[simp] theorem setObjV_dels (v : V) (o : RObj) : (v.setObj o).dels = v.dels.filter (·.1.id ≠ o.id) := rfl
@[simp] theorem setObjV_tableRev (v : V) (o : RObj) : (v.setObj o).tableRev = v.tableRev + 1 := rfl
@[simp] theorem setObjV_itRev (v : V) (o : RObj) : (v.setObj o).itRev = v.itRev := rfl
@[simp] theorem setObjV_itDelRev (v : V) (o : RObj) : (v.setObj o).itDelRev = v.itDelRev := rfl
@[simp] theorem setObjV_items (v : V) (o : RObj) : (v.setObj o).items = v.items := rfl
@[simp] theorem setObjV_log (v : V) (o : RObj) : (v.setObj o).log = v.log := rfl
@[simp] theorem setObjV_now (v : V) (o : RObj) : (v.setObj o).now = v.now := rfl
@[simp] theorem setObjV_cfg (v : V) (o : RObj) : (v.setObj o).cfg = v.cfg := rfl
@[simp] theorem setObjV_progressRev (v : V) (o : RObj) : (v.setObj o).progressRev = v.progressRev := rfl

@[simp] theorem commit_itRev (v : V) (res : Res) (sid : Nat) : (v.commit res sid).itRev = v.itRev := by
  unfold V.commit; cases res.2.2.2.2 <;> rfl
@[simp] theorem commit_itDelRev (v : V) (res : Res) (sid : Nat) : (v.commit res sid).itDelRev = v.itDelRev := by
  unfold V.commit; cases res.2.2.2.2 <;> rfl
@[simp] theorem commit_tableRev (v : V) (res : Res) (sid : Nat) : (v.commit res sid).tableRev = v.tableRev + 1 := by
  unfold V.commit; cases res.2.2.2.2 <;> rfl
@[simp] theorem commit_log (v : V) (res : Res) (sid : Nat) : (v.commit res sid).log = v.log := by
  unfold V.commit; cases res.2.2.2.2 <;> rfl
@[simp] theorem commit_now (v : V) (res : Res) (sid : Nat) : (v.commit res sid).now = v.now := by
  unfold V.commit; cases res.2.2.2.2 <;> rfl
@[simp] theorem commit_cfg (v : V) (res : Res) (sid : Nat) : (v.commit res sid).cfg = v.cfg := by
  unfold V.commit; cases res.2.2.2.2 <;> rfl
@[simp] theorem commit_progressRev (v : V) (res : Res) (sid : Nat) : (v.commit res sid).progressRev = v.progressRev := by
  unfold V.commit; cases res.2.2.2.2 <;> rfl
theorem commit_objs (v : V) (res : Res) (sid : Nat) :
    (v.commit res sid).objs = (v.setObj { res.1 with kind := if res.2.2.2.2 then SKind.error else SKind.done, sid := sid }).objs := by
  unfold V.commit; cases res.2.2.2.2 <;> rfl
theorem commit_dels (v : V) (res : Res) (sid : Nat) :
    (v.commit res sid).dels = v.dels.filter (·.1.id ≠ res.1.id) := by
  unfold V.commit; cases res.2.2.2.2 <;> rfl

theorem commit_f (v : V) (res : Res) (sid : Nat) (hf : res.2.2.2.2 = true) :
    v.commit res sid = (v.setObj { res.1 with kind := .error, sid := sid }).add res.2.1 (v.tableRev + 1) res.2.2.1 false := by
  unfold V.commit; simp [hf]
theorem commit_s (v : V) (res : Res) (sid : Nat) (hf : res.2.2.2.2 = false) :
    v.commit res sid = v.setObj { res.1 with kind := .done, sid := sid } := by
  unfold V.commit; simp [hf]

theorem mem_commit_items (v : V) (res : Res) (sid : Nat) (x : Item) : x ∈ (v.commit res sid).items ↔
    (x ∈ v.items ∧ (res.2.2.2.2 = true → x.id ≠ res.2.1.id)) ∨ (res.2.2.2.2 = true ∧
      x = mkItem v.now v.cfg res.2.1 (v.tableRev + 1) (prevO v.items res.2.1.id res.2.2.1) false (prevN v.items res.2.1.id + 1)) := by
  cases hf : res.2.2.2.2
  · rw [commit_s _ _ _ hf]; simp
  · rw [commit_f _ _ _ hf, mem_add_items]; simp

@[simp] theorem v_objs (r : R) : r.v.objs = r.objs := rfl
@[simp] theorem v_dels (r : R) : r.v.dels = r.dels := rfl
@[simp] theorem v_tableRev (r : R) : r.v.tableRev = r.tableRev := rfl
@[simp] theorem v_itRev (r : R) : r.v.itRev = r.itRev := rfl
@[simp] theorem v_itDelRev (r : R) : r.v.itDelRev = r.itDelRev := rfl
@[simp] theorem v_items (r : R) : r.v.items = r.items := rfl
@[simp] theorem v_log (r : R) : r.v.log = r.log := rfl
@[simp] theorem v_now (r : R) : r.v.now = r.now := rfl
@[simp] theorem v_cfg (r : R) : r.v.cfg = r.cfg := rfl
@[simp] theorem v_progressRev (r : R) : r.v.progressRev = r.progressRev := rfl

theorem retryAdd_v (r : R) (o : RObj) (a b : Nat) (d : Bool) : (r.retryAdd o a b d).v = r.v.add o a b d := rfl

theorem retryClear_v (r : R) (id : Nat) : (r.retryClear id).v = r.v.clear id := by
  unfold R.v V.clear
  simp [retryClear_items]

theorem retryPop_v (r : R) (h : Item) (hh : r.head = some h) : r.retryPop.v = r.v.pop h.id := by
  unfold R.v V.pop
  simp [retryPop_items r h hh, popItem]

theorem setObj_v (r : R) (o : RObj) : (r.setObj o).v = r.v.setObj o := rfl

theorem fireTimer_v (r : R) : r.fireTimer.v = r.v := by
  obtain ⟨t, e⟩ := fireTimer_eq r
  rw [e]; rfl

theorem processSingle_v {r : R} (hinj : r.injects = []) (o : RObj) (rev : Nat) (del : Bool) :
    (r.processSingle o rev del).v = r.v.single o rev del (r.isFailing o.id) ∧
    (r.processSingle o rev del).results = r.results ++ resOf o rev del (r.isFailing o.id) := by
  cases del
  · rw [processSingle_update hinj]
    cases r.isFailing o.id
    · rw [if_neg Bool.false_ne_true, retryClear_v, retryClear_results]; exact ⟨rfl, rfl⟩
    · exact ⟨rfl, rfl⟩
  · rw [processSingle_delete]
    cases r.isFailing o.id
    · rw [if_neg Bool.false_ne_true, retryClear_v, retryClear_results]; exact ⟨rfl, (List.append_nil _).symm⟩
    · exact ⟨rfl, (List.append_nil _).symm⟩

theorem clear_single_v {r : R} (hinj : r.injects = []) (o : RObj) (rev : Nat) (del : Bool) :
    ((r.retryClear o.id).processSingle o rev del).v = (r.v.clear o.id).single o rev del (r.isFailing o.id) ∧
    ((r.retryClear o.id).processSingle o rev del).results = r.results ++ resOf o rev del (r.isFailing o.id) := by
  have := processSingle_v (r := r.retryClear o.id) (by rw [retryClear_injects]; exact hinj) o rev del
  rwa [retryClear_v, isFailing_retryClear, retryClear_results] at this

theorem procD_v {r : R} (hinj : r.injects = []) (c : Change) :
    (procD r c).v = (({ r.v with itDelRev := c.rev } : V).clear c.obj.id).single c.obj c.rev true (r.isFailing c.obj.id) ∧
    (procD r c).results = r.results := by
  have := clear_single_v (r := { r with itDelRev := c.rev }) hinj c.obj c.rev true
  unfold procD
  -- here and wherever a state of the round is generalized first: left in place, `exact` / `rfl` unfolds it
  generalize (R.retryClear { r with itDelRev := c.rev } c.obj.id).processSingle c.obj c.rev true = x at this ⊢
  exact ⟨this.1, this.2.trans (List.append_nil _)⟩

theorem procU_v {r : R} (hinj : r.injects = []) (c : Change) :
    (procU r c).v = (({ r.v with itRev := c.rev } : V).clear c.obj.id).single c.obj c.rev false (r.isFailing c.obj.id) ∧
    (procU r c).results = r.results ++ resOf c.obj c.rev false (r.isFailing c.obj.id) := by
  have := clear_single_v (r := { r with itRev := c.rev }) hinj c.obj c.rev false
  unfold procU
  generalize (R.retryClear { r with itRev := c.rev } c.obj.id).processSingle c.obj c.rev false = x at this ⊢
  exact ⟨this.1, this.2⟩

theorem retryStep_v {r : R} (hinj : r.injects = []) {h : Item} (hh : r.head = some h) :
    (retryStep r h).v = (r.v.pop h.id).single h.obj h.rev h.delete (r.isFailing h.obj.id) ∧
    (retryStep r h).results = r.results ++ resOf h.obj h.rev h.delete (r.isFailing h.obj.id) := by
  have := processSingle_v (r := r.retryPop) (by rw [retryPop_injects]; exact hinj) h.obj h.rev h.delete
  rw [retryPop_v r h hh, isFailing_retryPop, retryPop_results] at this
  unfold retryStep
  generalize r.retryPop.processSingle h.obj h.rev h.delete = x at this ⊢
  exact ⟨this.1, this.2⟩

theorem writeStatus_v (r : R) (res : Res) :
    (r.writeStatus res.1 res.2.1 res.2.2.1 res.2.2.2.2).v = r.v.commit res r.nextSid := by
  cases hf : res.2.2.2.2
  · rw [commit_s _ _ _ hf]; rfl
  · rw [commit_f _ _ _ hf]; rfl

theorem commitOne_v {r : R} {res : Res} {rs : List Res} (h : InvL r (res :: rs)) :
    r.commitOne res = r ∨
    ∃ cur ∈ r.objs, cur.id = res.1.id ∧ cur.rev = res.2.2.1 ∧ (r.commitOne res).v = r.v.commit res r.nextSid :=
  h.commitOne_cases.imp (·.1) fun ⟨cur, hcur, hcid, hrev, e⟩ => ⟨cur, hcur, hcid, hrev, e ▸ writeStatus_v r res⟩

structure CommitAt (r : R) (res : Res) (rs : List Res) (cur : RObj) : Prop where
  inv : InvL r (res :: rs)
  mem : cur ∈ r.objs
  id : cur.id = res.1.id
  rev : cur.rev = res.2.2.1

/-- what a motive of the status commits has to be preserved by: a stale result is dropped, or the
    status is written to the unchanged object `cur` -/
structure CommitSteps (Q : V → List Res → Prop) : Prop where
  drop : ∀ (v : V) (res : Res) (rs : List Res), Q v (res :: rs) → Q v rs
  write : ∀ (r : R) (res : Res) (rs : List Res) (cur : RObj), CommitAt r res rs cur → Q r.v (res :: rs) →
    Q (r.v.commit res r.nextSid) rs

/-- `h` is the head of the time queue when `processRetries` pops it -/
structure DueHead (r : R) (h : Item) : Prop where
  inv : InvL r r.results
  caughtUp : CaughtUp r
  mem : h ∈ r.items
  queued : h.inQueue = true
  objId : h.obj.id = h.id
  due : h.retryAt ≤ r.now

/-- what a motive of `processRetries` has to be preserved by: the due head `h` is popped and processed -/
structure RetryStep (Q : V → List Res → Prop) : Prop where
  step : ∀ (r : R) (h : Item), DueHead r h → Q r.v r.results →
    Q ((r.v.pop h.id).single h.obj h.rev h.delete (r.isFailing h.obj.id)) (r.results ++ resOf h.obj h.rev h.delete (r.isFailing h.obj.id))

/-- what a motive of the loop over the change stream has to be preserved by: a change of an object
    that needs no reconciliation is skipped, a changed object or a deletion is processed -/
structure ConsumeSteps (K : V → List Res → List Change → Nat → Prop) : Prop where
  skip : ∀ (r : R) (c : Change) (cs : List Change) (last : Nat), InvL r r.results → ChOK r r.results (c :: cs) →
    c.deleted = false → ¬ needs c.obj.kind → K r.v r.results (c :: cs) last → K { r.v with itRev := c.rev } r.results cs c.rev
  upd : ∀ (r : R) (c : Change) (cs : List Change) (last : Nat), InvL r r.results → ChOK r r.results (c :: cs) →
    c.deleted = false → needs c.obj.kind → K r.v r.results (c :: cs) last →
    K ((({ r.v with itRev := c.rev } : V).clear c.obj.id).single c.obj c.rev false (r.isFailing c.obj.id))
      (r.results ++ resOf c.obj c.rev false (r.isFailing c.obj.id)) cs c.rev
  del : ∀ (r : R) (c : Change) (cs : List Change) (last : Nat), InvL r r.results → ChOK r r.results (c :: cs) →
    c.deleted = true → K r.v r.results (c :: cs) last →
    K ((({ r.v with itDelRev := c.rev } : V).clear c.obj.id).single c.obj c.rev true (r.isFailing c.obj.id)) r.results cs c.rev

theorem RetryStep.and {Q Q' : V → List Res → Prop} (h : RetryStep Q) (h' : RetryStep Q') : RetryStep fun v rs => Q v rs ∧ Q' v rs :=
  ⟨fun r it hd hq => ⟨h.step r it hd hq.1, h'.step r it hd hq.2⟩⟩

theorem commit_ind {Q : V → List Res → Prop} (hQ : CommitSteps Q) {r : R} (h : InvL r r.results) (hq : Q r.v r.results) :
    Q r.commitStatus.v [] :=
  (foldl_commitOne_ind (P := fun x rs => InvL x rs ∧ Q x.v rs)
    (fun x res rs ⟨hI, hq⟩ => ⟨hI.commitOne, by
      rcases commitOne_v hI with e | ⟨cur, hcur, hcid, hrev, e⟩
      · rw [e]; exact hQ.drop _ res rs hq
      · rw [e]; exact hQ.write x res rs cur ⟨hI, hcur, hcid, hrev⟩ hq⟩)
    r.results [] ((List.append_nil r.results).symm ▸ ⟨h, hq⟩)).2

theorem retries_ind {Q : V → List Res → Prop} (hQ : RetryStep Q) (fuel : Nat) {r : R} (h : InvL r r.results)
    (hc : r.numReconciled < r.cfg.roundSize → CaughtUp r) (hq : Q r.v r.results) :
    Q (r.processRetries fuel).v (r.processRetries fuel).results :=
  (processRetries_inv
    (P := fun x => InvL x x.results ∧ (x.numReconciled < x.cfg.roundSize → CaughtUp x) ∧ Q x.v x.results)
    (fun x it0 ⟨hI, hcu, hq⟩ hlt hh hdue =>
      have hs := hI.retryStep (hcu hlt) it0 hh
      have hv := retryStep_v hI.noinj hh
      have hd : DueHead x it0 := { inv := hI, caughtUp := hcu hlt, mem := head_mem hh, queued := head_queued hh,
                                   objId := (hI.itemOK it0 (head_mem hh)).obj_id, due := hdue }
      ⟨hs.1, fun _ => hs.2.caughtUp (hcu hlt), hv.1 ▸ hv.2 ▸ hQ.step x it0 hd hq⟩)
    fuel r ⟨h, hc, hq⟩).2.2

theorem consume_ind {K : V → List Res → List Change → Nat → Prop} (hK : ConsumeSteps K)
    (cs : List Change) {r : R} (last : Nat) (h : InvL r r.results) (hch : ChOK r r.results cs) (hq : K r.v r.results cs last) :
    K (r.consume cs last).1.v (r.consume cs last).1.results (r.consume cs last).2.1 (r.consume cs last).2.2 :=
  (consume_inv
    (P := fun x cs l => InvL x x.results ∧ ChOK x x.results cs ∧ K x.v x.results cs l)
    (fun x c cs l ⟨hI, hC, hq⟩ hc hn => ⟨(hI.skip hC hc hn).1, (hI.skip hC hc hn).2, hK.skip x c cs l hI hC hc hn hq⟩)
    (fun x c cs l ⟨hI, hC, hq⟩ hc =>
      have hv := procD_v hI.noinj c
      ⟨(hI.procD hC hc).1, (hI.procD hC hc).2.1, hv.1 ▸ hv.2 ▸ hK.del x c cs l hI hC hc hq⟩)
    (fun x c cs l ⟨hI, hC, hq⟩ hc hn =>
      have hv := procU_v hI.noinj c
      ⟨(hI.procU hC hc hn).1, (hI.procU hC hc hn).2.1, hv.1 ▸ hv.2 ▸ hK.upd x c cs l hI hC hc hn hq⟩)
    cs r last ⟨h, hch, hq⟩).2.2

/-! The phases of a round: the change stream is consumed (`round3`), then status commit (`tail4`),
  due retries (`tail5`; here the retry low-watermark is read), status commit (`tail6`) and
  `progress.update`. -/

def tail4 (r3 : R) : R := r3.commitStatus
def tail5 (r3 : R) : R := (tail4 r3).processRetries ((tail4 r3).items.length + 1)
def tail6 (r3 : R) : R := (tail5 r3).commitStatus

theorem roundTail_eq (r3 : R) (last : Nat) : roundTail r3 last =
    { tail6 r3 with numReconciled := 0,
                    progressRev := if last > (tail6 r3).progressRev then last else (tail6 r3).progressRev,
                    progressLW := (tail5 r3).lowWatermark } := rfl

theorem tail_invL {r3 : R} (hm : MidOK r3) :
    InvL (tail4 r3) (tail4 r3).results ∧ ((tail4 r3).numReconciled < (tail4 r3).cfg.roundSize → CaughtUp (tail4 r3)) ∧
    InvL (tail5 r3) (tail5 r3).results :=
  ⟨hm.inv.commitStatus, commitStatus_caughtUp hm.cu, (hm.inv.commitStatus.processRetries _ (commitStatus_caughtUp hm.cu)).1⟩

theorem tail5_ind {Q : V → List Res → Prop} (hR : RetryStep Q) {r3 : R} (hI4 : InvL (tail4 r3) (tail4 r3).results)
    (hcu4 : (tail4 r3).numReconciled < (tail4 r3).cfg.roundSize → CaughtUp (tail4 r3)) (hq : Q (tail4 r3).v []) :
    Q (tail5 r3).v (tail5 r3).results := retries_ind hR ((tail4 r3).items.length + 1) hI4 hcu4 hq

theorem tail6_ind {Q : V → List Res → Prop} (hC : CommitSteps Q) {r3 : R} (hI5 : InvL (tail5 r3) (tail5 r3).results)
    (hq : Q (tail5 r3).v (tail5 r3).results) : Q (tail6 r3).v [] := commit_ind hC hI5 hq

structure InTail (Q : V → List Res → Prop) (r3 : R) : Prop where
  at4 : Q (tail4 r3).v []
  at5 : Q (tail5 r3).v (tail5 r3).results
  at6 : Q (tail6 r3).v []

theorem tail_ind {Q : V → List Res → Prop} (hC : CommitSteps Q) (hR : RetryStep Q) {r3 : R} (hm : MidOK r3) (hq : Q r3.v r3.results) :
    InTail Q r3 := by
  obtain ⟨hI4, hcu4, hI5⟩ := tail_invL hm
  have hQ4 : Q (tail4 r3).v [] := commit_ind hC hm.inv hq
  have hQ5 := tail5_ind hR hI4 hcu4 hQ4
  exact ⟨hQ4, hQ5, tail6_ind hC hI5 hQ5⟩

/-- the `if` by which `R.round` spells the maximum of `progress.update` -/
theorem ite_gt_eq_max (a b : Nat) : (if a > b then a else b) = max a b := by
  rw [Nat.max_def]
  by_cases h : a ≤ b
  · rw [if_pos h, if_neg (Nat.not_lt.2 h)]
  · rw [if_neg h, if_pos (Nat.not_le.1 h)]

/-- proofs about `r.round` rewrite with this instead of unfolding `R.round` -/
theorem round_phases (r : R) : r.round =
    { tail6 (round3 r) with
      numReconciled := 0,
      progressRev := if roundLast r > (tail6 (round3 r)).progressRev then roundLast r else (tail6 (round3 r)).progressRev,
      progressLW := (tail5 (round3 r)).lowWatermark } := round_eq3 r

theorem round_v (r : R) : r.round.v = { (tail6 (round3 r)).v with
    progressRev := if roundLast r > (tail6 (round3 r)).v.progressRev then roundLast r else (tail6 (round3 r)).v.progressRev } := by
  rw [round_phases]; generalize tail6 (round3 r) = x; rfl
theorem round_items (r : R) : r.round.items = (tail6 (round3 r)).items := by rw [round_phases]
theorem round_log (r : R) : r.round.log = (tail6 (round3 r)).log := by rw [round_phases]
theorem round_progressLW (r : R) : r.round.progressLW = (tail5 (round3 r)).lowWatermark := by rw [round_phases]
theorem round_ind {K : V → List Res → List Change → Nat → Prop} (hK : ConsumeSteps K) {r : R} (h : RInv r)
    (h0 : K r.v [] r.nextChanges.2 0) : K (round3 r).v (round3 r).results (roundRest r) (roundLast r) := by
  obtain ⟨v, e, hI, hch⟩ := h.next
  have := consume_ind hK r.nextChanges.2 0 (r := { r with refreshedAt := v }) (InvL.cast_results h.res hI)
    (h.res.symm ▸ hch : ChOK _ r.results _) (h.res.symm ▸ h0 : K r.v r.results _ _)
  unfold round3 roundRest roundLast
  rw [e]
  generalize R.consume { r with refreshedAt := v } r.nextChanges.2 0 = co at this ⊢
  exact this

end Sdb.Rec
