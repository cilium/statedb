import SdbModel.Lemmas.ConcSimMicro
import SdbModel.Generated.Protocol

/-!
  Program positions of the threads of `Model.Conc`.  The simulation only cares about the micro steps that touch the
  state the abstraction talks about (mutexes, root, the private copies): `strip` removes every park and every action
  without such an effect.  The shape predicate `Protocol.simShape` says what the stripped WriteTxn / Commit / Abort /
  registerTable sequences are; it holds of `Gen.protocol` by `decide` and keeps holding when hooks (or any of the
  removed actions) are added, moved or deleted.  Under it the stripped REMAINING program of a running thread is
  `code L c p` for a position `p : Pos`.
-/
namespace Sdb.Conc

def relevantAct : Act → Bool
  | .hook _ | .dedupTables | .commitIndexes | .notify | .closeInit | .returnToPool => false
  | _ => true

def relevant : Micro → Bool
  | .park _ => false
  | .act a => relevantAct a
  | _ => true

def strip (l : List Micro) : List Micro := l.filter relevant

theorem relevant_park (l : String) : relevant (.park l) = false := rfl
theorem relevant_acquire (t : Nat) : relevant (.acquire t) = true := rfl
theorem relevant_release (t : Nat) : relevant (.release t) = true := rfl
theorem relevant_acquireRoot : relevant .acquireRoot = true := rfl
theorem relevant_releaseRoot : relevant .releaseRoot = true := rfl
theorem relevant_userWrites : relevant .userWrites = true := rfl
theorem relevant_act (a : Act) : relevant (.act a) = relevantAct a := rfl

/-- the order of the effectful steps of the four protocol functions -/
def Protocol.simShape (P : Protocol) : Bool :=
  P.lockSortsBySeq && P.writeTxn.contains .dedupTables &&
  (P.writeTxn.filter relevantAct == [.lockTables, .loadRoot, .cloneRoot, .cloneEntries]) &&
  (P.commit.filter relevantAct ==
    [.lockRoot, .loadCurrentRoot, .mergeUnlocked, .collectInit, .storeRoot, .unlockRoot, .unlockTables]) &&
  (P.abort.filter relevantAct == [.unlockTables]) &&
  (P.register.filter relevantAct == [.lockRoot, .loadCurrentRoot, .appendTable, .storeRoot, .unlockRoot])

theorem simShape_gen : Gen.protocol.simShape = true := by decide

/-- program positions, named after the head of `code`: `acq k` = `k` tables locked (`acq L.length` = about to load
    the root), … `rel k` = `k` tables released; `gA … gE` the registration thread, `dA dL dR` a registration
    rejected for its duplicate name -/
inductive Pos where
  | acq (k : Nat) | clR | clE | uw | aR | lc | mg | ci | sr | rR | rel (k : Nat)
  | gA | gL | gP | gS | gR | gE
  | dA | dL | dR
  deriving Repr, DecidableEq

/-- what follows the user's writes: the commit critical section and the unlock loop, or (abort) the unlock loop
    alone (`L.drop 0`, not `L`: it is `code L c (.rel 0)` as written) -/
def cEnd (L : List Nat) (c : Bool) : List Micro :=
  if c then [.acquireRoot, .act .loadCurrentRoot, .act .mergeUnlocked, .act .collectInit, .act .storeRoot, .releaseRoot] ++
      (L.drop 0).map .release
  else (L.drop 0).map .release

/-- stripped remaining program at a position, for lock order `L`, commit flag `c` -/
def code (L : List Nat) (c : Bool) : Pos → List Micro
  | .acq k => (L.drop k).map .acquire ++ (.act .loadRoot :: .act .cloneRoot :: .act .cloneEntries :: .userWrites :: cEnd L c)
  | .clR => .act .cloneRoot :: .act .cloneEntries :: .userWrites :: cEnd L c
  | .clE => .act .cloneEntries :: .userWrites :: cEnd L c
  | .uw => .userWrites :: cEnd L c
  | .aR => [.acquireRoot, .act .loadCurrentRoot, .act .mergeUnlocked, .act .collectInit, .act .storeRoot, .releaseRoot] ++ (L.drop 0).map .release
  | .lc => [.act .loadCurrentRoot, .act .mergeUnlocked, .act .collectInit, .act .storeRoot, .releaseRoot] ++ (L.drop 0).map .release
  | .mg => [.act .mergeUnlocked, .act .collectInit, .act .storeRoot, .releaseRoot] ++ (L.drop 0).map .release
  | .ci => [.act .collectInit, .act .storeRoot, .releaseRoot] ++ (L.drop 0).map .release
  | .sr => [.act .storeRoot, .releaseRoot] ++ (L.drop 0).map .release
  | .rR => [.releaseRoot] ++ (L.drop 0).map .release
  | .rel k => (L.drop k).map .release
  | .gA => [.acquireRoot, .act .loadCurrentRoot, .act .appendTable, .act .storeRoot, .releaseRoot]
  | .gL => [.act .loadCurrentRoot, .act .appendTable, .act .storeRoot, .releaseRoot]
  | .gP => [.act .appendTable, .act .storeRoot, .releaseRoot]
  | .gS => [.act .storeRoot, .releaseRoot]
  | .gR => [.releaseRoot]
  | .gE => []
  | .dA => [.acquireRoot, .act .loadCurrentRoot, .releaseRoot]
  | .dL => [.act .loadCurrentRoot, .releaseRoot]
  | .dR => [.releaseRoot]

/-! `strip` here and the finer `strip2` of ConcInitProg are both `stripBy ra`: parks go, lock steps
  and the user's writes stay, an action stays iff `ra` keeps it. -/

def relevantBy (ra : Act → Bool) : Micro → Bool
  | .park _ => false
  | .act a => ra a
  | _ => true

def stripBy (ra : Act → Bool) (l : List Micro) : List Micro := l.filter (relevantBy ra)

theorem strip_eq_stripBy : strip = stripBy relevantAct := rfl

section StripBy
variable (ra : Act → Bool)

theorem stripBy_cons (m : Micro) (rest : List Micro) :
    stripBy ra (m :: rest) = if relevantBy ra m then m :: stripBy ra rest else stripBy ra rest :=
  List.filter_cons

theorem stripBy_append (a b : List Micro) : stripBy ra (a ++ b) = stripBy ra a ++ stripBy ra b :=
  List.filter_append ..

theorem mem_stripBy (m : Micro) (l : List Micro) (h : relevantBy ra m = true) : m ∈ stripBy ra l ↔ m ∈ l := by
  simp only [stripBy, List.mem_filter, h, and_true]

/-- popping a micro step off a program whose stripped form is `code p`, where `next` gives the head
    of `code p` and the position behind it: a dropped step stays at `p`, a kept one is `next`'s -/
theorem pop_stripBy {π : Type} (code : π → List Micro) (next : π → Option (Micro × π))
    (hcn : ∀ p, code p = (next p).elim [] fun mp => mp.1 :: code mp.2)
    (p : π) (m : Micro) (rest : List Micro) (h : stripBy ra (m :: rest) = code p) :
    (relevantBy ra m = false ∧ stripBy ra rest = code p) ∨
    (relevantBy ra m = true ∧ ∃ p', next p = some (m, p') ∧ stripBy ra rest = code p') := by
  rw [stripBy_cons] at h
  cases hr : relevantBy ra m with
  | false => rw [hr] at h; exact .inl ⟨rfl, h⟩
  | true =>
    rw [hr, if_pos rfl, hcn] at h
    cases hn : next p with
    | none => rw [hn] at h; cases h
    | some mp =>
      rw [hn] at h
      obtain ⟨rfl, h'⟩ := List.cons.inj h
      exact .inr ⟨rfl, mp.2, rfl, h'⟩

theorem next_none_of_nil {π : Type} (code : π → List Micro) (next : π → Option (Micro × π))
    (hcn : ∀ p, code p = (next p).elim [] fun mp => mp.1 :: code mp.2)
    (p : π) (h : [] = code p) : next p = none := by
  rw [hcn] at h
  cases hn : next p with
  | none => rfl
  | some mp => rw [hn] at h; cases h

theorem stripBy_flatMap_one (order : List Nat) (f : Nat → List Micro) (g : Nat → Micro)
    (h : ∀ t, stripBy ra (f t) = [g t]) : stripBy ra (order.flatMap f) = order.map g := by
  induction order with
  | nil => rfl
  | cons t r ih => rw [List.flatMap_cons, stripBy_append, ih, h]; rfl

theorem stripBy_expand_lock (P : Protocol) (T : List Nat) :
    stripBy ra (expand P T .lockTables) = (if P.lockSortsBySeq then sortNat T else T).map .acquire :=
  stripBy_flatMap_one ra _ _ _ fun _ => rfl

theorem stripBy_expand_unlock (P : Protocol) (T : List Nat) :
    stripBy ra (expand P T .unlockTables) = (if P.lockSortsBySeq then sortNat T else T).map .release :=
  stripBy_flatMap_one ra _ _ _ fun _ => rfl

-- `hl`: `ra` keeps the four lock actions, the ones `expand` turns into lock steps
variable (hl : ra .lockTables = true ∧ ra .unlockTables = true ∧ ra .lockRoot = true ∧ ra .unlockRoot = true)
include hl

theorem stripBy_expand_irrelevant (P : Protocol) (T : List Nat) (a : Act) (h : ra a = false) :
    stripBy ra (expand P T a) = [] := by
  have act : ∀ b, ra b = false → stripBy ra [.act b] = [] := fun b hb => by
    rw [stripBy, List.filter_cons, relevantBy, hb]; rfl
  obtain ⟨h1, h2, h3, h4⟩ := hl
  cases a with
  | lockTables => rw [h1] at h; cases h
  | unlockTables => rw [h2] at h; cases h
  | lockRoot => rw [h3] at h; cases h
  | unlockRoot => rw [h4] at h; cases h
  | hook n => rfl
  | _ => exact act _ h

theorem stripBy_flatMap_expand (P : Protocol) (T : List Nat) (l : List Act) :
    stripBy ra (l.flatMap (expand P T)) = (l.filter ra).flatMap (fun a => stripBy ra (expand P T a)) := by
  induction l with
  | nil => rfl
  | cons a l ih =>
    rw [List.flatMap_cons, stripBy_append, ih, List.filter_cons]
    cases h : ra a with
    | false => rw [stripBy_expand_irrelevant ra hl P T a h]; rfl
    | true => rfl

theorem stripBy_writerProg (P : Protocol) (tabs : List Nat) (c : Bool) (w e : List Act)
    (hw : P.writeTxn.filter ra = w) (he : (if c then P.commit else P.abort).filter ra = e) :
    stripBy ra (writerProg P tabs c) =
      w.flatMap (fun a => stripBy ra (expand P (if P.writeTxn.contains .dedupTables then dedup tabs else tabs) a)) ++
      [.userWrites] ++ e.flatMap
        (fun a => stripBy ra (expand P (if P.writeTxn.contains .dedupTables then dedup tabs else tabs) a)) := by
  unfold writerProg
  rw [stripBy_append, stripBy_append, stripBy_append, stripBy_flatMap_expand ra hl, stripBy_flatMap_expand ra hl,
    hw, he]
  rfl

theorem stripBy_registerProg (P : Protocol) :
    stripBy ra (registerProg P) = (P.register.filter ra).flatMap (fun a => stripBy ra (expand P [] a)) := by
  unfold registerProg
  rw [stripBy_append, stripBy_flatMap_expand ra hl]
  rfl

end StripBy

theorem filter_takeWhile_ne {α : Type} [DecidableEq α] (p : α → Bool) (l : List α) (c : α) (hc : p c = true) :
    (l.takeWhile (· ≠ c)).filter p = (l.filter p).takeWhile (· ≠ c) := by
  induction l with
  | nil => rfl
  | cons a l ih =>
    by_cases hac : a = c
    · subst hac; simp [hc]
    · cases hr : p a with
      | true => simpa [hac, hr] using ih
      | false => simpa [hac, hr] using ih

theorem stripBy_registerDupProg (ra : Act → Bool)
    (hl : ra .lockTables = true ∧ ra .unlockTables = true ∧ ra .lockRoot = true ∧ ra .unlockRoot = true)
    (ha : ra .appendTable = true) (P : Protocol) (r : List Act) (hr : P.register.filter ra = r)
    (hu : Act.unlockRoot ∈ r) :
    stripBy ra (registerDupProg P) =
      (r.takeWhile (· ≠ Act.appendTable) ++ [Act.unlockRoot]).flatMap (fun a => stripBy ra (expand P [] a)) := by
  have hcont : P.register.contains Act.unlockRoot = true := by
    rw [← hr] at hu
    simpa using (List.mem_filter.1 hu).1
  unfold registerDupProg
  simp only [hcont, if_true]
  rw [stripBy_append, stripBy_flatMap_expand ra hl, List.filter_append, filter_takeWhile_ne _ _ _ ha, hr]
  simp only [List.filter_cons, hl.2.2.2, if_true, List.filter_nil]
  rfl

theorem strip_cons (m : Micro) (rest : List Micro) :
    strip (m :: rest) = if relevant m then m :: strip rest else strip rest :=
  stripBy_cons relevantAct m rest

def afterWrites (c : Bool) : Pos := if c then .aR else .rel 0

theorem cEnd_eq (L : List Nat) (c : Bool) : cEnd L c = code L c (afterWrites c) := by
  cases c <;> rfl

def next (L : List Nat) (c : Bool) : Pos → Option (Micro × Pos)
  | .acq k => match L[k]? with
    | some tb => some (.acquire tb, .acq (k + 1))
    | none => some (.act .loadRoot, .clR)
  | .clR => some (.act .cloneRoot, .clE)
  | .clE => some (.act .cloneEntries, .uw)
  | .uw => some (.userWrites, afterWrites c)
  | .aR => some (.acquireRoot, .lc)
  | .lc => some (.act .loadCurrentRoot, .mg)
  | .mg => some (.act .mergeUnlocked, .ci)
  | .ci => some (.act .collectInit, .sr)
  | .sr => some (.act .storeRoot, .rR)
  | .rR => some (.releaseRoot, .rel 0)
  | .rel k => match L[k]? with
    | some tb => some (.release tb, .rel (k + 1))
    | none => none
  | .gA => some (.acquireRoot, .gL)
  | .gL => some (.act .loadCurrentRoot, .gP)
  | .gP => some (.act .appendTable, .gS)
  | .gS => some (.act .storeRoot, .gR)
  | .gR => some (.releaseRoot, .gE)
  | .gE => none
  | .dA => some (.acquireRoot, .dL)
  | .dL => some (.act .loadCurrentRoot, .dR)
  | .dR => some (.releaseRoot, .gE)

theorem drop_cons_inv (L : List Nat) (k a : Nat) (r : List Nat) (h : L.drop k = a :: r) :
    L[k]? = some a ∧ L.drop (k + 1) = r ∧ k < L.length := by
  have hlt : k < L.length := by
    rcases Nat.lt_or_ge k L.length with h' | h'
    · exact h'
    · rw [List.drop_eq_nil_of_le h'] at h; simp at h
  rw [List.drop_eq_getElem_cons hlt] at h
  simp only [List.cons.injEq] at h
  exact ⟨by rw [List.getElem?_eq_getElem hlt, h.1], h.2, hlt⟩

theorem code_next (L : List Nat) (c : Bool) (p : Pos) :
    code L c p = (next L c p).elim [] fun mp => mp.1 :: code L c mp.2 := by
  cases p with
  | acq k =>
    simp only [next]
    cases h : L[k]? with
    | some tb =>
      show code L c (.acq k) = .acquire tb :: code L c (.acq (k + 1))
      simp only [code, LB.drop_of_getElem? L k tb h, List.map_cons, List.cons_append]
    | none =>
      show code L c (.acq k) = .act .loadRoot :: code L c .clR
      simp only [code, LB.drop_of_getElem?_none L k h, List.map_nil, List.nil_append]
  | rel k =>
    simp only [next]
    cases h : L[k]? with
    | some tb =>
      show code L c (.rel k) = .release tb :: code L c (.rel (k + 1))
      simp only [code, LB.drop_of_getElem? L k tb h, List.map_cons]
    | none => simp only [code, LB.drop_of_getElem?_none L k h, List.map_nil, Option.elim]
  | uw => show Micro.userWrites :: cEnd L c = Micro.userWrites :: code L c (afterWrites c); rw [cEnd_eq]
  | _ => rfl

theorem pop_code (L : List Nat) (c : Bool) (p : Pos) (m : Micro) (rest : List Micro)
    (h : strip (m :: rest) = code L c p) :
    (relevant m = false ∧ strip rest = code L c p) ∨
    (relevant m = true ∧ ∃ p', next L c p = some (m, p') ∧ strip rest = code L c p') :=
  pop_stripBy relevantAct (code L c) (next L c) (code_next L c) p m rest h

theorem nil_code (L : List Nat) (c : Bool) (p : Pos) (h : [] = code L c p) : next L c p = none :=
  next_none_of_nil (code L c) (next L c) (code_next L c) p h

/-- the clauses of a shape predicate (`simShape`, `initShape`): `ra` the actions kept, `commit` the kept part of Commit -/
structure ShapeParts (P : Protocol) (ra : Act → Bool) (commit : List Act) : Prop where
  sorts : P.lockSortsBySeq = true
  dedups : P.writeTxn.contains .dedupTables = true
  writeTxn : P.writeTxn.filter ra = [.lockTables, .loadRoot, .cloneRoot, .cloneEntries]
  commit : P.commit.filter ra = commit
  abort : P.abort.filter ra = [.unlockTables]
  register : P.register.filter ra = [.lockRoot, .loadCurrentRoot, .appendTable, .storeRoot, .unlockRoot]

theorem simShape_parts (P : Protocol) (hP : P.simShape = true) : ShapeParts P relevantAct
    [.lockRoot, .loadCurrentRoot, .mergeUnlocked, .collectInit, .storeRoot, .unlockRoot, .unlockTables] := by
  simp only [Protocol.simShape, Bool.and_eq_true, beq_iff_eq] at hP
  obtain ⟨⟨⟨⟨⟨sorts, dedups⟩, writeTxn⟩, commit⟩, abort⟩, register⟩ := hP
  exact ⟨sorts, dedups, writeTxn, commit, abort, register⟩

theorem strip_writerProg (P : Protocol) (hP : P.simShape = true) (tabs : List Nat) (c : Bool) :
    strip (writerProg P tabs c) = code (sortNat (dedup tabs)) c (.acq 0) := by
  have sh := simShape_parts P hP
  cases c with
  | true =>
    refine (stripBy_writerProg relevantAct ⟨rfl, rfl, rfl, rfl⟩ P tabs true _ _ sh.writeTxn sh.commit).trans ?_
    simp only [List.flatMap_cons, List.flatMap_nil, stripBy_expand_lock, stripBy_expand_unlock, sh.sorts, sh.dedups,
      if_true, List.append_assoc, List.append_nil]
    rfl
  | false =>
    refine (stripBy_writerProg relevantAct ⟨rfl, rfl, rfl, rfl⟩ P tabs false _ _ sh.writeTxn sh.abort).trans ?_
    simp only [List.flatMap_cons, List.flatMap_nil, stripBy_expand_lock, stripBy_expand_unlock, sh.sorts, sh.dedups,
      if_true, List.append_assoc, List.append_nil]
    rfl

theorem strip_registerProg (P : Protocol) (hP : P.simShape = true) (c : Bool) :
    strip (registerProg P) = code [] c .gA := by
  rw [strip_eq_stripBy, stripBy_registerProg relevantAct ⟨rfl, rfl, rfl, rfl⟩, (simShape_parts P hP).register]
  rfl

theorem strip_registerDupProg (P : Protocol) (hP : P.simShape = true) (c : Bool) :
    strip (registerDupProg P) = code [] c .dA :=
  stripBy_registerDupProg relevantAct ⟨rfl, rfl, rfl, rfl⟩ rfl P _ (simShape_parts P hP).register (by decide)

end Sdb.Conc
