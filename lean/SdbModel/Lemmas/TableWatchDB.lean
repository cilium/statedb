import SdbModel.Lemmas.TableWatchTable
/-!
  The C06 glue for the two-table database.  The table-suite driver
  keeps Model.Table's `DB` and Model.TableWatch's `DB` side by side and routes every
  operation to the table concerned (`Driver/TableSuite.lean`: `stepCore` + `twStep`).
  `PDB.step` is that product step for the operations that matter to the index trees
  (begin, an operation through the open transaction, commit, abort, a `side`
  transaction on a table the open one does not hold); everything else the driver does
  to Model.Table's database (change iterators, initializers, collector, …) enters as a
  `DBCore` step: a hypothesis of `PReach.frame`, not proved of the driver's code, like
  the transcription `PDB.step` itself.  In every reachable product state both tables are `TW.Reach` pairs,
  so the per-table glue theorems apply to them.
-/
namespace Sdb.TW
open Sdb.Art Sdb.Tbl Sdb.ArtW

structure PDB where
  db : Tbl.DB
  tw : TW.DB

inductive POp where
  /-- open the write transaction; `lm`, `la`: it locks table 0 ("m"), table 1 ("a") -/
  | beginW (lm la : Bool)
  | op (ti : Nat) (o : TOp)
  | commit
  | abort
  /-- a second writer inserts `o` into table `ti` and commits, while the open transaction does not hold that table -/
  | side (ti : Nat) (o : Obj)

/-- the `side` transaction as the driver computes it on Model.Table's database -/
def sideDB (db : Tbl.DB) (ti : Nat) (o : Obj) : Tbl.DB :=
  let db1 := ({ db with wtxn := none }).beginW (ti == 0) (ti == 1)
  match db1.wtxn with
  | some es1 =>
    let r := Tbl.modify (es1.getD ti default) 0 o false
    let db2 := ({ db1 with wtxn := some (es1.set ti r.1) }).commit
    { db2 with wtxn := db.wtxn, oldRoot := db.oldRoot }
  | none => db

def PDB.step (p : PDB) : POp → PDB
  | .beginW lm la => if p.db.wtxn.isSome then p else { db := p.db.beginW lm la, tw := p.tw.beginW lm la }
  | .op ti o =>
    match p.db.wtxn with
    | none => p
    | some es =>
      { db := { p.db with wtxn := some (es.set ti (o.onTable (es.getD ti default))) }
        tw := p.tw.write ti (o.ops (es.getD ti default)) }
  | .commit =>
    match p.db.wtxn with
    | none => p
    | some _ => { db := p.db.commit, tw := p.tw.commit }
  | .abort => { db := p.db.abort, tw := p.tw.abort }
  | .side ti o =>
    match p.db.wtxn with
    | none => p
    | some es =>
      if (es.getD ti default).locked || !(ti < 2) then p else
      { db := sideDB p.db ti o
        tw := p.tw.side ti (modifyOps { p.db.root.getD ti default with locked := true } 0 o false) }

/-- the entry of a table in the open transaction: not held (nothing happens to it), or the product run
    of some list of operations (Model.Table's entry up to the non-core fields) -/
def TxnRel (t : TableS) (c : CTab) (e : TableS) (w : WTab) : Prop :=
  (e.locked = false ∧ w.locked = false) ∨
  (∃ ops, Core (runT c (beginT t c) ops).1 e ∧ w = (runT c (beginT t c) ops).2)

theorem runT_append (c : CTab) (s : TableS × WTab) (a b : List TOp) : runT c s (a ++ b) = runT c (runT c s a) b := by
  unfold runT; rw [List.foldl_append]

theorem TxnRel.step {t : TableS} {c : CTab} {e : TableS} {w : WTab} (h : TxnRel t c e w) (o : TOp) :
    TxnRel t c (o.onTable e) (w.applyOps c (o.ops e)) := by
  rcases h with ⟨h1, h2⟩ | ⟨ops, hc, hw⟩
  · left; exact ⟨by rw [onTable_locked]; exact h1, h2⟩
  · right
    refine ⟨ops ++ [o], ?_, ?_⟩
    · rw [runT_append]; exact onTable_core hc o
    · rw [runT_append, hw, ops_core hc o]; rfl

theorem TxnRel.begin (t : TableS) (c : CTab) (lk : Bool) :
    TxnRel t c { t with locked := lk, revDirty := false } (c.begin lk) := by
  cases lk with
  | false => left; exact ⟨rfl, rfl⟩
  | true => right; exact ⟨[], Core.setRevDirty { t with locked := true } false, rfl⟩

theorem TxnRel.core {t : TableS} {c : CTab} {e e' : TableS} {w : WTab} (h : TxnRel t c e w) (hc : Core e e') :
    TxnRel t c e' w := by
  rcases h with ⟨h1, h2⟩ | ⟨ops, hc', hw⟩
  · left; exact ⟨by rw [hc.locked]; exact h1, h2⟩
  · right; exact ⟨ops, hc'.trans hc, hw⟩

/-- `e'`: the entry that Commit publishes for a held table, lock and bookkeeping fields reset -/
theorem TxnRel.commit {t : TableS} {c : CTab} {e : TableS} {w : WTab} (hr : Reach t c) (h : TxnRel t c e w)
    (e' : TableS) (hi : ∀ i, imap e' i = imap e i) (hl : e'.lpm = e.lpm) (hu : e'.ulpm = e.ulpm) :
    Reach (if e.locked then e' else t) (c.commit w) := by
  rcases h with ⟨h1, h2⟩ | ⟨ops, hc, hw⟩
  · rw [h1, c.commit_unlocked w h2]; exact hr
  · have hlk : e.locked = true := by rw [hc.locked, runT_fst_locked]; rfl
    rw [hlk, hw]
    simp only [if_true]
    exact Reach.frame _ _ _ (Reach.commit t c ops hr) (fun i => (hi i).trans (hc.imap i)) (hl.trans hc.lpm)
      (hu.trans hc.ulpm)

theorem TxnRel.abort {t : TableS} {c : CTab} {e : TableS} {w : WTab} (hr : Reach t c) (h : TxnRel t c e w) :
    Reach t (c.abort w) := by
  rcases h with ⟨_, h2⟩ | ⟨ops, _, hw⟩
  · rw [c.abort_unlocked w h2]; exact hr
  · rw [hw]; exact Reach.abort t c ops hr

theorem TxnRel.unlocked {t : TableS} {c : CTab} {e : TableS} {w : WTab} (h : TxnRel t c e w) (hl : e.locked = false)
    (t' : TableS) (c' : CTab) : TxnRel t' c' e w := by
  rcases h with ⟨h1, h2⟩ | ⟨ops, hc, _⟩
  · left; exact ⟨h1, h2⟩
  · have : e.locked = true := by rw [hc.locked, runT_fst_locked]; rfl
    rw [hl] at this; exact absurd this (by simp)

/-- both tables are reachable pairs; an open transaction holds, per table, a `TxnRel` entry -/
def PInv (p : PDB) : Prop :=
  ∃ tm ta cm ca, p.db.root = [tm, ta] ∧ p.tw.root = [cm, ca] ∧ Reach tm cm ∧ Reach ta ca ∧
    ((p.db.wtxn = none ∧ p.tw.wtxn = none) ∨
     ∃ em ea wm wa, p.db.wtxn = some [em, ea] ∧ p.tw.wtxn = some [wm, wa] ∧ TxnRel tm cm em wm ∧ TxnRel ta ca ea wa)

theorem PInv.idle {p : PDB} {tm ta : TableS} {cm ca : CTab} (hT : p.db.root = [tm, ta]) (hW : p.tw.root = [cm, ca])
    (rm : Reach tm cm) (ra : Reach ta ca) (hd : p.db.wtxn = none) (hw : p.tw.wtxn = none) : PInv p :=
  ⟨tm, ta, cm, ca, hT, hW, rm, ra, Or.inl ⟨hd, hw⟩⟩

theorem PInv.inTxn {p : PDB} {tm ta em ea : TableS} {cm ca : CTab} {wm wa : WTab} (hT : p.db.root = [tm, ta])
    (hW : p.tw.root = [cm, ca]) (rm : Reach tm cm) (ra : Reach ta ca) (hd : p.db.wtxn = some [em, ea])
    (hw : p.tw.wtxn = some [wm, wa]) (xm : TxnRel tm cm em wm) (xa : TxnRel ta ca ea wa) : PInv p :=
  ⟨tm, ta, cm, ca, hT, hW, rm, ra, Or.inr ⟨em, ea, wm, wa, hd, hw, xm, xa⟩⟩

theorem PInv.reach {p : PDB} (h : PInv p) (i : Nat) (hi : i < 2) : Reach (p.db.root.getD i default) (p.tw.tab i) := by
  obtain ⟨tm, ta, cm, ca, hT, hW, rm, ra, _⟩ := h
  unfold TW.DB.tab
  rw [hT, hW]
  match i, hi with
  | 0, _ => exact rm
  | 1, _ => exact ra

theorem PInv.init : PInv { db := Tbl.newDB, tw := {} } :=
  PInv.idle rfl rfl (Reach.init true) (Reach.init false) rfl rfl

/-- what Model.Table's `DB.commit` publishes for a held table -/
def commitE (e : TableS) : TableS :=
  { e with locked := false, revDirty := false, init := (match e.init with | some [] => none | i => i),
           gen := if e.revDirty then e.gen + 1 else e.gen }

theorem imap_commitE (e : TableS) (i : PIx) : imap (commitE e) i = imap e i := by
  cases i <;> rfl

theorem TxnRel.commitE {t : TableS} {c : CTab} {e : TableS} {w : WTab} (hr : Reach t c) (h : TxnRel t c e w) :
    Reach (if e.locked then commitE e else t) (c.commit w) :=
  h.commit hr (TW.commitE e) (imap_commitE e) rfl rfl

/-- the `side` transaction on one table is `begin`, one Insert, `commit`, like the entry of a held table in the open
    transaction.  The `if` on the lock flag of `modify`'s result is left in the statement: that is the form the `side`
    case of `PDB.step` computes to. -/
theorem side_reach (t : TableS) (c : CTab) (hr : Reach t c) (o : Obj) :
    Reach (if (Tbl.modify { t with locked := true, revDirty := false } 0 o false).1.locked then
        commitE (Tbl.modify { t with locked := true, revDirty := false } 0 o false).1 else t)
      (c.commit ((c.begin true).applyOps c (modifyOps { t with locked := true } 0 o false))) := by
  have hc : Core { t with locked := true } { t with locked := true, revDirty := false } := Core.setRevDirty _ false
  have hx := ((TxnRel.begin t c true).step (.modify 0 o false)).commitE hr
  rwa [ops_core hc] at hx

attribute [local irreducible] Tbl.modify in
theorem PInv.step {p : PDB} (h : PInv p) (op : POp) : PInv (p.step op) := by
  have keep := h
  obtain ⟨tm, ta, cm, ca, hT, hW, rm, ra, htx⟩ := h
  obtain ⟨⟨root, wtxn⟩, ⟨wroot, wwtxn⟩⟩ := p
  dsimp only at hT hW htx
  subst hT hW
  rcases htx with ⟨h1, h2⟩ | ⟨em, ea, wm, wa, h1, h2, xm, xa⟩ <;> subst h1 h2
  -- Both databases are written out (`root = [tm, ta]`, `wtxn = some [em, ea]` …), so that a step of the product
  -- database computes: the `rfl`s check the tables and entries it produces; where nothing happens the result is `p`.
  · cases op with
    | beginW lm la => exact PInv.inTxn rfl rfl rm ra rfl rfl (TxnRel.begin tm cm lm) (TxnRel.begin ta ca la)
    | _ => exact keep
  · cases op with
    | beginW lm la => exact keep
    | op ti o =>
      match ti with
      | 0 => exact PInv.inTxn rfl rfl rm ra rfl rfl (xm.step o) xa
      | 1 => exact PInv.inTxn rfl rfl rm ra rfl rfl xm (xa.step o)
      | n + 2 => exact keep
    | commit => exact PInv.idle rfl rfl (xm.commitE rm) (xa.commitE ra) rfl rfl
    | abort => exact PInv.idle rfl rfl (xm.abort rm) (xa.abort ra) rfl rfl
    | side ti o =>
      dsimp only [PDB.step]
      split
      · exact keep
      · rename_i hcond
        rw [Bool.or_eq_true, not_or, Bool.not_eq_true, Bool.not_eq_true, Bool.not_eq_false', decide_eq_true_eq] at hcond
        -- `side_reach` speaks of `Tbl.modify … 0 o false` on the table the goal reaches through `sideDB`, `DB.beginW`,
        -- `DB.commit`; `Tbl.modify` is irreducible in this proof, so that the unifier compares the two calls and does
        -- not unfold them on the symbolic table
        match ti, hcond with
        | 0, ⟨hlk, _⟩ => exact PInv.inTxn rfl rfl (side_reach tm cm rm o) ra rfl rfl (xm.unlocked hlk _ _) xa
        | 1, ⟨hlk, _⟩ => exact PInv.inTxn rfl rfl rm (side_reach ta ca ra o) rfl rfl xm (xa.unlocked hlk _ _)
        | n + 2, ⟨_, hlt⟩ => omega

theorem PInv.commit {p : PDB} (h : PInv p) : PInv (p.step .commit) := h.step .commit

/-- a step of Model.Table's database that leaves the core fields of every table (committed and inside the
    open transaction) alone: change iterators, trackers, initializers, the collector, … -/
def DBCore (db db' : Tbl.DB) : Prop :=
  (∃ tm ta tm' ta', db.root = [tm, ta] ∧ db'.root = [tm', ta'] ∧ Core tm tm' ∧ Core ta ta') ∧
  ((db.wtxn = none ∧ db'.wtxn = none) ∨
   ∃ em ea em' ea', db.wtxn = some [em, ea] ∧ db'.wtxn = some [em', ea'] ∧ Core em em' ∧ Core ea ea')

theorem runT_core (c : CTab) (ops : List TOp) (s s' : TableS × WTab) (h1 : Core s.1 s'.1) (h2 : s'.2 = s.2) :
    Core (runT c s ops).1 (runT c s' ops).1 ∧ (runT c s' ops).2 = (runT c s ops).2 := by
  induction ops generalizing s s' with
  | nil => exact ⟨h1, h2⟩
  | cons op ops ih =>
    apply ih (stepT c s op) (stepT c s' op)
    · exact onTable_core h1 op
    · show s'.2.applyOps c (op.ops s'.1) = s.2.applyOps c (op.ops s.1)
      rw [h2, ops_core h1 op]

theorem TxnRel.root_core {t t' : TableS} {c : CTab} {e : TableS} {w : WTab} (h : TxnRel t c e w) (hc : Core t t') :
    TxnRel t' c e w := by
  rcases h with ⟨h1, h2⟩ | ⟨ops, hcc, hw⟩
  · left; exact ⟨h1, h2⟩
  · right
    have hb : Core (beginT t c).1 (beginT t' c).1 := { hc with locked := rfl }
    obtain ⟨r1, r2⟩ := runT_core c ops (beginT t c) (beginT t' c) hb rfl
    exact ⟨ops, r1.symm.trans hcc, hw.trans r2.symm⟩

theorem PInv.frame {p : PDB} (h : PInv p) (db' : Tbl.DB) (hc : DBCore p.db db') : PInv { db := db', tw := p.tw } := by
  obtain ⟨tm, ta, cm, ca, hT, hW, rm, ra, htx⟩ := h
  obtain ⟨⟨tm0, ta0, tm', ta', hT0, hT', cmm, caa⟩, hx⟩ := hc
  rw [hT] at hT0
  simp only [List.cons.injEq, and_true] at hT0
  obtain ⟨rfl, rfl⟩ := hT0
  rcases htx with ⟨h1, h2⟩ | ⟨em, ea, wm, wa, h1, h2, xm, xa⟩
  · rcases hx with ⟨_, g2⟩ | ⟨em0, ea0, em', ea', g1, _⟩
    · exact PInv.idle hT' hW (rm.core cmm) (ra.core caa) g2 h2
    · rw [h1] at g1; exact absurd g1 (by simp)
  · rcases hx with ⟨g1, _⟩ | ⟨em0, ea0, em', ea', g1, g2, cem, cea⟩
    · rw [h1] at g1; exact absurd g1 (by simp)
    · rw [h1] at g1
      simp only [Option.some.injEq, List.cons.injEq, and_true] at g1
      obtain ⟨rfl, rfl⟩ := g1
      exact PInv.inTxn hT' hW (rm.core cmm) (ra.core caa) g2 h2 ((xm.core cem).root_core cmm)
        ((xa.core cea).root_core caa)

inductive PReach : PDB → Prop where
  | init : PReach { db := Tbl.newDB, tw := {} }
  | step (p : PDB) (op : POp) : PReach p → PReach (p.step op)
  | frame (p : PDB) (db' : Tbl.DB) : PReach p → DBCore p.db db' → PReach { db := db', tw := p.tw }

theorem PReach.inv {p : PDB} (h : PReach p) : PInv p := by
  induction h with
  | init => exact PInv.init
  | step p op _ ih => exact ih.step op
  | frame p db' _ hc ih => exact ih.frame db' hc

end Sdb.TW
