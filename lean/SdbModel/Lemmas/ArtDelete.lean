import SdbModel.Lemmas.ArtWF

/-! `delNode` keeps `WFNode` and acts on `entries` as the removal of one key. -/
namespace Sdb.Art

/-- What `delNode` returns at a node `n` well-formed for `acc`, for the key `full`.  A replaced node's prefix can only
    have grown (merge with the single remaining child), so it still starts with the byte the node is stored under. -/
inductive DelOK (acc : List Nat) (n : Node) (full : List Nat) : DelRes → Prop
  | notFound (absent : look (entries n) full = none) : DelOK acc n full .notFound
  | replaced {st : St} {n' : Node} {old : Nat} (old_eq : look (entries n) full = some old) (wf : WFNode acc n')
      (pfx : ∃ t, n'.pfx = n.pfx ++ t) (mem : ∀ e, e ∈ entries n' ↔ e.1 ≠ full ∧ e ∈ entries n) :
      DelOK acc n full (.replaced st n' old)
  | removed {st : St} {old : Nat} (only : entries n = [(full, old)]) : DelOK acc n full (.removed st old)

/-- for `delKids`; a removed child is erased by the caller (`removeChild`), hence `kids.erase b` in that case -/
def DelKOK (acc : List Nat) (kids : Kids) (b : Nat) (full : List Nat) : Option (DelRes × Kids) → Prop
  | none => look (entriesK kids) full = none
  | some (.notFound, _) => look (entriesK kids) full = none
  | some (.replaced _ _ old, kids') =>
    look (entriesK kids) full = some old ∧ WFKids acc kids' ∧ kids'.keys = kids.keys ∧
    ∀ e, e ∈ entriesK kids' ↔ e.1 ≠ full ∧ e ∈ entriesK kids
  | some (.removed _ old, _) =>
    look (entriesK kids) full = some old ∧ (kids.erase b).size + 1 = kids.size ∧ WFKids acc (kids.erase b) ∧
    ∀ e, e ∈ entriesK (kids.erase b) ↔ e.1 ≠ full ∧ e ∈ entriesK kids

theorem delNode_leaf (P : ArtParams) (st : St) (p : List Nat) (d : LeafD) (key : List Nat) :
    delNode P st (.leaf p d) key =
      if hasPrefix key p = true then
        match key.drop p.length with
        | [] => delAt st (.leaf p d)
        | _ :: _ => .notFound
      else .notFound := by
  unfold delNode; rfl

theorem delNode_inner (P : ArtParams) (st : St) (kind : Nat) (pfx : List Nat) (lf : Option LeafD) (kids : Kids)
    (w t : Nat) (key : List Nat) :
    delNode P st (.inner kind pfx lf kids w t) key =
      if hasPrefix key pfx = true then
        match key.drop pfx.length with
        | [] => delAt st (.inner kind pfx lf kids w t)
        | b :: _ =>
          match delKids P st kids b (key.drop pfx.length) with
          | none => .notFound
          | some (.notFound, _) => .notFound
          | some (.replaced st' _ old, kids') =>
            .replaced (cloneNode st' (.inner kind pfx lf kids' w t)).1 (cloneNode st' (.inner kind pfx lf kids' w t)).2 old
          | some (.removed st' old, _) =>
            .replaced (removeChild P st' kind pfx lf kids w t b).1 (removeChild P st' kind pfx lf kids w t b).2 old
      else .notFound := by
  unfold delNode; rfl

theorem delNode_miss (P : ArtParams) (st : St) (n : Node) (key : List Nat) (h : hasPrefix key n.pfx = false) :
    delNode P st n key = .notFound := by
  cases n with
  | leaf p d => rw [delNode_leaf, if_neg (by rw [show hasPrefix key p = false from h]; decide)]
  | inner kind pfx lf kids w t =>
    rw [delNode_inner, if_neg (by rw [show hasPrefix key pfx = false from h]; decide)]

theorem delNode_at (P : ArtParams) (st : St) (n : Node) : delNode P st n n.pfx = delAt st n := by
  cases n with
  | leaf p d => rw [delNode_leaf, Node.pfx, if_pos (hasPrefix_self p), List.drop_length]
  | inner kind pfx lf kids w t => rw [delNode_inner, Node.pfx, if_pos (hasPrefix_self pfx), List.drop_length]

theorem delNode_leaf_below (P : ArtParams) (st : St) (p : List Nat) (d : LeafD) (b : Nat) (r : List Nat) :
    delNode P st (.leaf p d) (p ++ b :: r) = .notFound := by
  rw [delNode_leaf, if_pos (hasPrefix_append_self p _), List.drop_left]

theorem delNode_inner_below (P : ArtParams) (st : St) (kind : Nat) (pfx : List Nat) (lf : Option LeafD)
    (kids : Kids) (w t b : Nat) (r : List Nat) :
    delNode P st (.inner kind pfx lf kids w t) (pfx ++ b :: r) =
      match delKids P st kids b (b :: r) with
      | none => .notFound
      | some (.notFound, _) => .notFound
      | some (.replaced st' _ old, kids') =>
        .replaced (cloneNode st' (.inner kind pfx lf kids' w t)).1 (cloneNode st' (.inner kind pfx lf kids' w t)).2 old
      | some (.removed st' old, _) =>
        .replaced (removeChild P st' kind pfx lf kids w t b).1 (removeChild P st' kind pfx lf kids w t b).2 old := by
  rw [delNode_inner, if_pos (hasPrefix_append_self pfx _), List.drop_left]

theorem keys_erase_subset (b x : Nat) : (kids : Kids) → x ∈ (kids.erase b).keys → x ∈ kids.keys
  | .nil => by simp [Kids.erase]
  | .cons c m r => by
    simp only [Kids.erase]
    split
    · intro h; simp [Kids.keys, h]
    · intro h
      simp only [Kids.keys, List.mem_cons] at h ⊢
      rcases h with h | h
      · exact Or.inl h
      · exact Or.inr (keys_erase_subset b x r h)

theorem kids_size_zero (kids : Kids) (h : kids.size = 0) : kids = .nil := by
  cases kids with
  | nil => rfl
  | cons => simp [Kids.size] at h

theorem kids_size_one (kids : Kids) (h : kids.size = 1) : ∃ c n, kids = .cons c n .nil := by
  cases kids with
  | nil => simp [Kids.size] at h
  | cons c n r =>
    simp only [Kids.size] at h
    exact ⟨c, n, by rw [kids_size_zero r (by omega)]⟩

theorem mergeUp_ok (acc pfx : List Nat) (child : Node) (h : WFNode (acc ++ pfx) child) :
    WFNode acc (mergeUp pfx child) ∧ (mergeUp pfx child).pfx = pfx ++ child.pfx ∧
    entries (mergeUp pfx child) = entries child := by
  unfold mergeUp
  exact ⟨WFNode_setPfx (acc ++ pfx) acc _ child (by simp) h, by simp, by simp⟩

theorem delAt_ok (st : St) (acc : List Nat) (n : Node) (full : List Nat) (hwf : WFNode acc n)
    (hfull : full = acc ++ n.pfx) : DelOK acc n full (delAt st n) := by
  cases n with
  | leaf p d =>
    have hd : d.key = full := (show d.key = acc ++ p from hwf).trans hfull.symm
    exact .removed (by rw [entries_leaf, hd])
  | inner kind pfx lf kids w t =>
    simp only [WFNode] at hwf
    obtain ⟨hlf, hk⟩ := hwf
    simp only [Node.pfx] at hfull
    have hne := entriesK_ne_self acc pfx kids hk
    rw [← hfull] at hne
    cases lf with
    | none =>
      refine .notFound ?_
      rw [entries_inner, lfList, List.nil_append]
      exact (look_eq_none_iff _ _).mpr hne
    | some d =>
      have hd : d.key = full := by rw [hlf d rfl, hfull]
      have hlook : look (entries (.inner kind pfx (some d) kids w t)) full = some d.val := by
        rw [entries_inner, lfList, List.singleton_append, look_cons, if_pos hd]
      have hent : entries (.inner kind pfx (some d) kids w t) = (full, d.val) :: entriesK kids := by
        rw [entries_inner, lfList, hd]; rfl
      simp only [delAt, Node.getLeaf]
      split
      · rename_i hs
        obtain ⟨c, child, rfl⟩ := kids_size_one kids hs
        obtain ⟨hmwf, hmpfx, hment⟩ := mergeUp_ok acc pfx child hk.head
        refine .replaced hlook hmwf ⟨child.pfx, hmpfx⟩ fun e => ?_
        rw [hent, ← mem_del_cons hne, hment, entriesK, entriesK, List.append_nil]
      · split
        · obtain ⟨st', w', t', e⟩ := cloneNode_inner (st.record d.watch) kind pfx none kids w t
          rw [e]
          refine .replaced hlook ⟨fun _ h => (nomatch h), hk⟩ ⟨[], (List.append_nil _).symm⟩ fun e => ?_
          rw [hent, ← mem_del_cons hne, entries_inner]; rfl
        · rename_i h1 h2
          have : kids = .nil := kids_size_zero kids (by omega)
          subst this
          exact .removed hent

/-- `hsz` (the node holds a child under `b`) excludes the branch of `removeChild` that the model marks unreachable -/
theorem removeChild_eq (P : ArtParams) (st : St) (kind : Nat) (pfx : List Nat) (lf : Option LeafD) (kids : Kids)
    (w t b : Nat) (hsz : (kids.erase b).size + 1 = kids.size) :
    (kids.size = 2 ∧ lf = none ∧ ∃ c child, kids.erase b = .cons c child .nil ∧
      (removeChild P st kind pfx lf kids w t b).2 = mergeUp pfx child) ∨
    (¬(kids.size = 2 ∧ lf.isNone = true) ∧ ∃ w' t', (removeChild P st kind pfx lf kids w t b).2 =
      .inner (if (P.demoteAt.any fun (k, thr) => k = kind ∧ kids.size ≤ thr) = true then prevKind P kind else kind)
        pfx lf (kids.erase b) w' t') := by
  by_cases hc : kids.size = 2 ∧ lf.isNone = true
  · refine .inl ⟨hc.1, Option.isNone_iff_eq_none.mp hc.2, ?_⟩
    simp only [removeChild, hc, and_self, if_true]
    cases hke : kids.erase b with
    | nil => rw [hke, hc.1] at hsz; exact absurd hsz (by decide)
    | cons c child rest =>
      rw [hke, hc.1] at hsz
      rw [kids_size_zero rest (Nat.succ.inj (Nat.succ.inj hsz))]
      exact ⟨c, child, rfl, rfl⟩
  · refine .inr ⟨hc, ?_⟩
    simp only [removeChild, hc, if_false]
    split
    · exact ⟨_, _, rfl⟩
    · obtain ⟨st', w', t', e⟩ := cloneNode_inner st kind pfx lf (kids.erase b) w t
      rw [e]; exact ⟨_, _, rfl⟩

theorem removeChild_ok (P : ArtParams) (st : St) (acc : List Nat) (kind : Nat) (pfx : List Nat)
    (lf : Option LeafD) (kids : Kids) (w t b : Nat)
    (hlf : ∀ d, lf = some d → d.key = acc ++ pfx) (hsz : (kids.erase b).size + 1 = kids.size)
    (hke : WFKids (acc ++ pfx) (kids.erase b)) :
    WFNode acc (removeChild P st kind pfx lf kids w t b).2 ∧
    (∃ tl, (removeChild P st kind pfx lf kids w t b).2.pfx = pfx ++ tl) ∧
    ∀ e, e ∈ entries (removeChild P st kind pfx lf kids w t b).2 ↔ e ∈ lfList lf ∨ e ∈ entriesK (kids.erase b) := by
  rcases removeChild_eq P st kind pfx lf kids w t b hsz with ⟨_, hlf0, c, child, hke', e⟩ | ⟨_, w', t', e⟩
  · rw [e, hke', hlf0]
    rw [hke'] at hke
    obtain ⟨hmwf, hmpfx, hment⟩ := mergeUp_ok acc pfx child hke.head
    refine ⟨hmwf, ⟨child.pfx, hmpfx⟩, fun e => ?_⟩
    rw [hment, lfList, entriesK, entriesK, List.append_nil, List.mem_nil_iff, false_or]
  · rw [e]
    exact ⟨⟨hlf, hke⟩, ⟨[], (List.append_nil _).symm⟩, fun e => by rw [entries_inner, List.mem_append]⟩

mutual
theorem delNode_ok (P : ArtParams) (acc : List Nat) (n : Node) (st : St) (key full : List Nat)
    (hwf : WFNode acc n) (hfull : full = acc ++ key) : DelOK acc n full (delNode P st n key) := by
  rcases pfx_cases key n.pfx with h | rfl | ⟨b, r, rfl⟩
  · rw [delNode_miss P st n key h, hfull]
    exact .notFound (lookN_none acc _ hwf key (hasPrefix_false_ne key _ h))
  · rw [delNode_at]
    exact delAt_ok st acc _ full hwf hfull
  · cases n with
    | leaf p d =>
      have hfull' : full = acc ++ p ++ b :: r := hfull.trans (List.append_assoc ..).symm
      rw [Node.pfx, delNode_leaf_below]
      have : d.key ≠ full := by rw [show d.key = acc ++ p from hwf, hfull']; exact ne_append_cons _ b r
      refine .notFound ?_
      rw [entries_leaf, look_cons, if_neg this]; rfl
    | inner kind pfx lf kids w t =>
      have hfull' : full = acc ++ pfx ++ b :: r := hfull.trans (List.append_assoc ..).symm
      rw [Node.pfx, delNode_inner_below]
      obtain ⟨hlf, hkids⟩ := hwf
      have hl := lf_ne acc pfx lf hlf b r
      rw [← hfull'] at hl
      have hlook : look (entries (.inner kind pfx lf kids w t)) full = look (entriesK kids) full := by
        rw [entries_inner, look_append_of_none _ _ _ ((look_eq_none_iff _ _).mpr hl)]
      have ih := delKids_ok P (acc ++ pfx) kids st b (b :: r) r full hkids rfl hfull'
      revert ih
      generalize delKids P st kids b (b :: r) = res
      intro ih
      rcases res with _ | ⟨_ | ⟨st', n', old⟩ | ⟨st', old⟩, kids'⟩
      · exact .notFound (hlook.trans ih)
      · exact .notFound (hlook.trans ih)
      · obtain ⟨hold, hkids', _, hmem⟩ := ih
        obtain ⟨st'', w', t', e⟩ := cloneNode_inner st' kind pfx lf kids' w t
        simp only [e]
        exact .replaced (hlook.trans hold) ⟨hlf, hkids'⟩ ⟨[], (List.append_nil _).symm⟩ fun e => by
          rw [entries_inner, entries_inner]; exact mem_del_append_right hl hmem e
      · obtain ⟨hold, hsz, hkids', hmem⟩ := ih
        obtain ⟨hrwf, hrpfx, hrmem⟩ := removeChild_ok P st' acc kind pfx lf kids w t b hlf hsz hkids'
        exact .replaced (hlook.trans hold) hrwf hrpfx fun e => by
          rw [hrmem, ← List.mem_append, entries_inner]; exact mem_del_append_right hl hmem e
theorem delKids_ok (P : ArtParams) (acc : List Nat) : (kids : Kids) → ∀ (st : St) (b : Nat) (key rest full : List Nat),
    WFKids acc kids → key = b :: rest → full = acc ++ key →
    DelKOK acc kids b full (delKids P st kids b key)
  | .nil => by
    intro st b key rest full _ _ _
    exact look_nil full
  | .cons c n rs => by
    intro st b key rest full hwf hkey hfull
    simp only [WFKids] at hwf
    obtain ⟨⟨tl, hpf⟩, hn, hlt, hrs⟩ := hwf
    have hfull' : full = acc ++ b :: rest := by rw [hfull, hkey]
    unfold delKids
    by_cases hcb : c = b
    · -- the child under `b`: nothing with this key lies in the later children
      subst hcb
      rw [if_pos rfl]
      have hrs0 : look (entriesK rs) full = none :=
        hfull' ▸ lookK_none acc rs hrs c rest (not_mem_keys_of_le hlt (Nat.le_refl c))
      have hrsne := (look_eq_none_iff _ _).mp hrs0
      have ih := delNode_ok P acc n st key full hn hfull
      generalize delNode P st n key = res at ih ⊢
      cases ih with
      | notFound habs =>
        show look (entries n ++ entriesK rs) full = none
        rw [look_append_of_none _ _ _ habs]; exact hrs0
      | @replaced st' n' old hold hn' hpfx hmem =>
        obtain ⟨t', hpfx⟩ := hpfx
        refine ⟨?_, ⟨⟨tl ++ t', by rw [hpfx, hpf]; rfl⟩, hn', hlt, hrs⟩, rfl, mem_del_append_left hmem hrsne⟩
        show look (entries n ++ entriesK rs) full = some old
        rw [look_append_of_none_right _ _ _ hrs0]; exact hold
      | @removed st' old honly =>
        simp only [DelKOK, entriesK, Kids.erase, if_true, Kids.size, honly]
        exact ⟨by rw [List.singleton_append, look_cons, if_pos rfl], trivial, hrs, mem_del_cons hrsne⟩
    · -- another child: it holds nothing with this key
      rw [if_neg hcb]
      have hn0 : look (entries n) full = none := hfull' ▸ look_sibling_none acc n hn hpf hcb rest
      have hnne := (look_eq_none_iff _ _).mp hn0
      have hlook : look (entriesK (.cons c n rs)) full = look (entriesK rs) full := by
        rw [entriesK, look_append_of_none _ _ _ hn0]
      by_cases hlt' : c < b
      · rw [if_pos hlt']
        have ih := delKids_ok P acc rs st b key rest full hrs hkey hfull
        revert ih
        generalize delKids P st rs b key = res
        intro ih
        rcases res with _ | ⟨_ | ⟨st', n', old⟩ | ⟨st', old⟩, rest'⟩
        · exact hlook.trans ih
        · exact hlook.trans ih
        · obtain ⟨hold, hrest', hkeys, hmem⟩ := ih
          exact ⟨hlook.trans hold, ⟨⟨tl, hpf⟩, hn, hkeys ▸ hlt, hrest'⟩, congrArg (c :: ·) hkeys,
            mem_del_append_right hnne hmem⟩
        · obtain ⟨hold, hsz, hrest', hmem⟩ := ih
          simp only [DelKOK, Kids.erase, if_neg hcb, Kids.size]
          exact ⟨hlook.trans hold, congrArg (· + 1) hsz,
            ⟨⟨tl, hpf⟩, hn, fun x hx => hlt x (keys_erase_subset b x rs hx), hrest'⟩, mem_del_append_right hnne hmem⟩
      · rw [if_neg hlt']
        exact hlook.trans (hfull' ▸ lookK_none acc rs hrs b rest (not_mem_keys_of_le hlt (by omega)))
end

end Sdb.Art
