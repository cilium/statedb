import SdbModel.Lemmas.ReconcilerRetries

/-!
  The change loop of `single()`.  `ChOK` says what the rest of the round's change stream is,
  relative to the table and the iterator: the current objects and retained deletions beyond the
  iterator, all of them, in revision order within a kind.  `Next` establishes it
  (`chOK_nextChanges`), an iteration of the loop keeps it for the rest of the stream.
  `consume_steps` is the loop's induction principle, free of any invariant; `Sync` says that an
  iterator with nothing pending has passed everything written up to the last refresh.
-/
namespace Sdb.Rec
open LB

structure ChOK (r : R) (rs : List Res) (cs : List Change) : Prop where
  upd : ∀ c ∈ cs, c.deleted = false → c.obj ∈ r.objs ∧ c.rev = c.obj.rev ∧ c.rev > r.itRev
  del : ∀ c ∈ cs, c.deleted = true → (c.obj, c.rev) ∈ r.dels ∧ c.rev > r.itDelRev
  sorted : cs.Pairwise (fun a b => a.deleted = b.deleted → a.rev < b.rev)
  covO : ∀ o ∈ r.objs, o.rev ≤ r.itRev ∨ ∃ c ∈ cs, c.deleted = false ∧ c.obj = o
  covD : ∀ d ∈ r.dels, d.2 ≤ r.itDelRev ∨ ∃ c ∈ cs, c.deleted = true ∧ (c.obj, c.rev) = d
  below : ∀ res ∈ rs, res.2.2.1 ≤ r.itRev

theorem ChOK.lt_upd {r : R} {rs : List Res} {c : Change} {cs : List Change} (h : ChOK r rs (c :: cs)) (hc : c.deleted = false) :
    ∀ x ∈ r.objs, x.rev > r.itRev → x = c.obj ∨ x.rev > c.rev := by
  intro x hx hgt
  rcases h.covO x hx with a | ⟨c', hc', hd', rfl⟩
  · exact absurd hgt (Nat.not_lt.2 a)
  · rcases List.mem_cons.1 hc' with rfl | hc'
    · exact Or.inl rfl
    · right
      have := (List.pairwise_cons.1 h.sorted).1 c' hc' (by rw [hc, hd'])
      rw [← (h.upd c' (List.mem_cons_of_mem _ hc') hd').2.1]; exact this

theorem ChOK.lt_del {r : R} {rs : List Res} {c : Change} {cs : List Change} (h : ChOK r rs (c :: cs)) (hc : c.deleted = true) :
    ∀ x ∈ r.dels, x.2 > r.itDelRev → x = (c.obj, c.rev) ∨ x.2 > c.rev := by
  intro x hx hgt
  rcases h.covD x hx with a | ⟨c', hc', hd', rfl⟩
  · exact absurd hgt (Nat.not_lt.2 a)
  · rcases List.mem_cons.1 hc' with rfl | hc'
    · exact Or.inl rfl
    · right
      exact (List.pairwise_cons.1 h.sorted).1 c' hc' (by rw [hc, hd'])

theorem ChOK.tail_upd {r r' : R} {rs rs' : List Res} {c : Change} {cs : List Change} (h : ChOK r rs (c :: cs)) (hc : c.deleted = false)
    (hobjs : r'.objs = r.objs) (hdels : r'.dels = r.dels) (hitRev : r'.itRev = c.rev) (hitDelRev : r'.itDelRev = r.itDelRev)
    (hrs : ∀ res ∈ rs', res ∈ rs ∨ res.2.2.1 = c.rev) : ChOK r' rs' cs := by
  have hcgt := (h.upd c (List.mem_cons_self ..) hc).2.2
  have hs := List.pairwise_cons.1 h.sorted
  refine ⟨?_, ?_, hs.2, ?_, ?_, ?_⟩
  · intro c' hc' hd'
    obtain ⟨a, b, _⟩ := h.upd c' (List.mem_cons_of_mem _ hc') hd'
    rw [hobjs, hitRev]
    exact ⟨a, b, hs.1 c' hc' (by rw [hc, hd'])⟩
  · intro c' hc' hd'
    rw [hdels, hitDelRev]
    exact h.del c' (List.mem_cons_of_mem _ hc') hd'
  · rw [hobjs, hitRev]
    intro o ho
    rcases h.covO o ho with a | ⟨c', hc', hd', rfl⟩
    · exact Or.inl (Nat.le_trans a (Nat.le_of_lt hcgt))
    · rcases List.mem_cons.1 hc' with rfl | hc'
      · left; rw [(h.upd c' (List.mem_cons_self ..) hc).2.1]; exact Nat.le_refl _
      · exact Or.inr ⟨c', hc', hd', rfl⟩
  · rw [hdels, hitDelRev]
    intro d hd
    rcases h.covD d hd with a | ⟨c', hc', hd', rfl⟩
    · exact Or.inl a
    · rcases List.mem_cons.1 hc' with rfl | hc'
      · rw [hc] at hd'; cases hd'
      · exact Or.inr ⟨c', hc', hd', rfl⟩
  · rw [hitRev]
    intro res hres
    rcases hrs res hres with a | a
    · exact Nat.le_trans (h.below res a) (Nat.le_of_lt hcgt)
    · exact Nat.le_of_eq a

theorem ChOK.tail_del {r r' : R} {rs : List Res} {c : Change} {cs : List Change} (h : ChOK r rs (c :: cs)) (hc : c.deleted = true)
    (hobjs : r'.objs = r.objs) (hdels : r'.dels = r.dels) (hitRev : r'.itRev = r.itRev) (hitDelRev : r'.itDelRev = c.rev) : ChOK r' rs cs := by
  have hcgt := (h.del c (List.mem_cons_self ..) hc).2
  have hs := List.pairwise_cons.1 h.sorted
  refine ⟨?_, ?_, hs.2, ?_, ?_, ?_⟩
  · intro c' hc' hd'
    rw [hobjs, hitRev]
    exact h.upd c' (List.mem_cons_of_mem _ hc') hd'
  · intro c' hc' hd'
    obtain ⟨a, _⟩ := h.del c' (List.mem_cons_of_mem _ hc') hd'
    rw [hdels, hitDelRev]
    exact ⟨a, hs.1 c' hc' (by rw [hc, hd'])⟩
  · rw [hobjs, hitRev]
    intro o ho
    rcases h.covO o ho with a | ⟨c', hc', hd', rfl⟩
    · exact Or.inl a
    · rcases List.mem_cons.1 hc' with rfl | hc'
      · rw [hc] at hd'; cases hd'
      · exact Or.inr ⟨c', hc', hd', rfl⟩
  · rw [hdels, hitDelRev]
    intro d hd
    rcases h.covD d hd with a | ⟨c', hc', hd', rfl⟩
    · exact Or.inl (Nat.le_trans a (Nat.le_of_lt hcgt))
    · rcases List.mem_cons.1 hc' with rfl | hc'
      · left; exact Nat.le_refl _
      · exact Or.inr ⟨c', hc', hd', rfl⟩
  · rw [hitRev]; exact h.below

theorem ChOK.congr {r r' : R} {rs : List Res} {cs : List Change} (h : ChOK r rs cs)
    (hobjs : r'.objs = r.objs) (hdels : r'.dels = r.dels) (hitRev : r'.itRev = r.itRev) (hitDelRev : r'.itDelRev = r.itDelRev) : ChOK r' rs cs := by
  obtain ⟨upd, del, sorted, covO, covD, below⟩ := h
  refine ⟨?_, ?_, sorted, ?_, ?_, ?_⟩ <;> simp only [hobjs, hdels, hitRev, hitDelRev] <;> assumption

/-- what `consume` leaves alone -/
structure FrameC (r r' : R) : Prop where
  objs : r'.objs = r.objs
  dels : r'.dels = r.dels
  tableRev : r'.tableRev = r.tableRev
  refreshedAt : r'.refreshedAt = r.refreshedAt
  pending : r'.pending = r.pending
  cfg : r'.cfg = r.cfg
  now : r'.now = r.now
  failing : r'.failing = r.failing
  injects : r'.injects = r.injects

theorem FrameC.refl (r : R) : FrameC r r := ⟨rfl, rfl, rfl, rfl, rfl, rfl, rfl, rfl, rfl⟩

theorem FrameC.trans {a b c : R} (h1 : FrameC a b) (h2 : FrameC b c) : FrameC a c :=
  ⟨h2.objs.trans h1.objs, h2.dels.trans h1.dels, h2.tableRev.trans h1.tableRev,
   h2.refreshedAt.trans h1.refreshedAt, h2.pending.trans h1.pending, h2.cfg.trans h1.cfg,
   h2.now.trans h1.now, h2.failing.trans h1.failing, h2.injects.trans h1.injects⟩

theorem filter_filter_id (l : List Item) (X : Nat) : (l.filter (·.id ≠ X)).filter (·.id ≠ X) = l.filter (·.id ≠ X) := by
  rw [List.filter_filter]; simp

theorem consume_upd_pre (r : R) (c : Change) :
    Booked r ((R.retryClear { r with itRev := c.rev } c.obj.id).preUpdate c.obj c.rev) c.obj c.rev c.rev
      (r.items.filter (·.id ≠ c.obj.id)) := by
  have p := preUpdate_facts (R.retryClear { r with itRev := c.rev } c.obj.id) c.obj c.rev
  have hl := p.log
  have hr := p.results
  have hi := p.items
  rw [isFailing_retryClear] at hl hr hi
  rw [retryClear_log] at hl
  rw [retryClear_results] at hr
  rw [retryClear_items, filter_filter_id, ite_self] at hi
  exact ⟨p.objs.trans (retryClear_objs ..), p.dels.trans (retryClear_dels ..), p.tableRev.trans (retryClear_tableRev ..),
    p.itRev.trans (retryClear_itRev ..), p.itDelRev.trans (retryClear_itDelRev ..), p.refreshedAt.trans (retryClear_refreshedAt ..),
    hl, p.nextSid.trans (retryClear_nextSid ..), hr, p.pending.trans (retryClear_pending ..), p.cfg.trans (retryClear_cfg ..),
    p.now.trans (retryClear_now ..), p.failing.trans (retryClear_failing ..), p.numReconciled.trans (retryClear_numReconciled ..),
    p.injects.trans (by rw [retryClear_injects]), p.progressRev.trans (retryClear_progressRev ..), hi⟩

theorem consume_del_spec (r : R) (c : Change) : ∃ tail : List Item, DelBooked { r with itDelRev := c.rev }
    ((R.retryClear { r with itDelRev := c.rev } c.obj.id).processSingle c.obj c.rev true) c.obj tail := by
  obtain ⟨tail, d⟩ := processSingle_delete_spec (R.retryClear { r with itDelRev := c.rev } c.obj.id) c.obj c.rev
  have hitems := d.items
  have hlog := d.log
  have t3 := d.tail_ne
  have t4 := d.tail_nil
  rw [retryClear_items, filter_filter_id] at hitems
  rw [isFailing_retryClear] at hlog t3 t4
  rw [retryClear_log] at hlog
  exact ⟨tail, (frameT_retryClear { r with itDelRev := c.rev } c.obj.id).trans d.frame,
    d.numReconciled.trans (retryClear_numReconciled ..), d.results.trans (retryClear_results ..),
    d.nextSid.trans (retryClear_nextSid ..), d.progressRev.trans (retryClear_progressRev ..), hlog, hitems, d.tail_item, d.tail_pw, t3, t4⟩

theorem InvL.consume_upd {r : R} {c : Change} {cs : List Change} (h : InvL r r.results) (hch : ChOK r r.results (c :: cs))
    (hc : c.deleted = false) (hn : needs c.obj.kind) :
    let r' := (R.retryClear { r with itRev := c.rev } c.obj.id).processSingle c.obj c.rev false
    InvL r' r'.results ∧ ChOK r' r'.results cs ∧ FrameC r r' ∧ r'.numReconciled = r.numReconciled := by
  intro r'
  obtain ⟨ho, hrev, hgt⟩ := hch.upd c (List.mem_cons_self ..) hc
  have hr' : r' = (R.retryClear { r with itRev := c.rev } c.obj.id).preUpdate c.obj c.rev :=
    processSingle_update_pre ((retryClear_injects { r with itRev := c.rev } c.obj.id).trans h.noinj) ..
  have p := consume_upd_pre r c
  rw [← hr'] at p
  have hinj : r'.injects = r.injects := by rw [p.injects, h.noinj]; rfl
  have hres := p.results
  rw [hrev] at hres
  have hgt' : c.obj.rev > r.itRev := hrev ▸ hgt
  have hcal := h.calm
  have hcur : ∀ cur ∈ r.objs, cur.id = c.obj.id → cur = c.obj := fun cur hcur e => h.tinv.obj_eq hcur ho e
  -- a result waiting for the same object would be below the iterator, and the object not to be processed
  have hrs : ∀ res ∈ r.results, res.1.id ≠ c.obj.id := fun res hres e =>
    (hcal.only_commits res hres c.obj ho e.symm (Nat.ne_of_gt (Nat.lt_of_le_of_lt (hch.below res hres) hgt'))).elim
      (needs_ne hn).1 (needs_ne hn).2
  have s := h.core.step_update c.obj (r.isFailing c.obj.id) hn hgt' (h.tinv.objs_le _ ho)
    (fun cur hc e => Or.inl (hcur cur hc e)) (fun d hd e => absurd e.symm (h.tinv.disj _ ho d hd)) hrs
    (fun x hx _ g => hrev ▸ hch.lt_upd hc x hx g) p.objs p.dels p.tableRev (p.itRev.trans hrev) p.itDelRev p.refreshedAt p.items p.log
  refine ⟨hres ▸ s.core.invL (s.calm hcal hcur hinj), ?_,
    ⟨p.objs, p.dels, p.tableRev, p.refreshedAt, p.pending, p.cfg, p.now, p.failing, hinj⟩, p.numReconciled⟩
  refine hch.tail_upd hc p.objs p.dels p.itRev p.itDelRev ?_
  rw [hres]
  exact fun res hres => (List.mem_append.1 hres).imp_right fun a => by rw [List.mem_singleton.1 a]; exact hrev.symm

theorem InvL.consume_del {r : R} {c : Change} {cs : List Change} (h : InvL r r.results) (hch : ChOK r r.results (c :: cs))
    (hc : c.deleted = true) :
    let r' := (R.retryClear { r with itDelRev := c.rev } c.obj.id).processSingle c.obj c.rev true
    InvL r' r'.results ∧ ChOK r' r'.results cs ∧ FrameC r r' ∧ r'.numReconciled = r.numReconciled := by
  intro r'
  obtain ⟨hd, hgt⟩ := hch.del c (List.mem_cons_self ..) hc
  obtain ⟨tail, d⟩ := consume_del_spec r c
  have hF := d.frame
  -- a retained deletion has no live object
  have hno : ∀ cur ∈ r.objs, cur.id = c.obj.id → False := fun cur hcur e => h.tinv.disj cur hcur _ hd e
  have s := h.core.step_delete c.obj.id (r.isFailing c.obj.id) c.rev _ tail (h.tinv.dels_le _ hd)
    (fun x hx g => (hch.lt_del hc x hx g).imp_left fun e => by rw [e]) (fun cur hcur e => (hno cur hcur e).elim)
    (fun _ _ _ cur hcur e => (hno cur hcur e).elim) ⟨rfl, rfl, rfl⟩ d.tail_item d.tail_pw d.tail_ne d.tail_nil
    (fun _ => Or.inr ⟨_, hd, rfl⟩) hF.objs hF.dels hF.tableRev hF.itRev hF.itDelRev hF.refreshedAt d.items d.log
  refine ⟨d.results ▸ s.core.invL (s.calm h.calm (Nat.le_of_lt hgt) hF.injects), ?_,
    ⟨hF.objs, hF.dels, hF.tableRev, hF.refreshedAt, hF.pending, hF.cfg, hF.now, hF.failing, hF.injects⟩, d.numReconciled⟩
  rw [d.results]
  exact hch.tail_del hc hF.objs hF.dels hF.itRev hF.itDelRev

/-- one iteration of the loop of `single()`, on a deletion -/
def procD (r : R) (c : Change) : R :=
  { ((R.retryClear { r with itDelRev := c.rev } c.obj.id).processSingle c.obj c.rev true) with
    numReconciled := ((R.retryClear { r with itDelRev := c.rev } c.obj.id).processSingle c.obj c.rev true).numReconciled + 1 }

/-- the same on a changed live object -/
def procU (r : R) (c : Change) : R :=
  { ((R.retryClear { r with itRev := c.rev } c.obj.id).processSingle c.obj c.rev false) with
    numReconciled := ((R.retryClear { r with itRev := c.rev } c.obj.id).processSingle c.obj c.rev false).numReconciled + 1 }

theorem consume_nil (r : R) (l : Nat) : r.consume [] l = (r, [], l) := by unfold R.consume; rfl

theorem skipCond_iff (c : Change) :
    ((!c.deleted) = true ∧ (!decide (c.obj.kind = .pending ∨ c.obj.kind = .refreshing)) = true) ↔
      c.deleted = false ∧ ¬ needs c.obj.kind := by
  simp [needs]

theorem consume_skip (r : R) (c : Change) (cs : List Change) (last : Nat)
    (hc : c.deleted = false) (hn : ¬ needs c.obj.kind) :
    r.consume (c :: cs) last = R.consume { r with itRev := c.rev } cs c.rev := by
  rw [R.consume]
  dsimp only
  rw [if_pos ((skipCond_iff c).2 ⟨hc, hn⟩), hc]
  rfl

theorem consume_del (r : R) (c : Change) (cs : List Change) (last : Nat) (hc : c.deleted = true) :
    r.consume (c :: cs) last =
      if (procD r c).numReconciled ≥ (procD r c).cfg.roundSize then (procD r c, cs, c.rev) else (procD r c).consume cs c.rev := by
  rw [R.consume]
  dsimp only
  rw [if_neg (fun h => absurd (hc.symm.trans ((skipCond_iff c).1 h).1) (by decide)), hc]
  rfl

theorem consume_upd (r : R) (c : Change) (cs : List Change) (last : Nat) (hc : c.deleted = false) (hn : needs c.obj.kind) :
    r.consume (c :: cs) last =
      if (procU r c).numReconciled ≥ (procU r c).cfg.roundSize then (procU r c, cs, c.rev) else (procU r c).consume cs c.rev := by
  rw [R.consume]
  dsimp only
  rw [if_neg (fun h => ((skipCond_iff c).1 h).2 hn), hc]
  rfl

/-- `k` counts the changes read; the loop stops before their end only when the round is full -/
theorem consume_steps {P : Nat → R → List Change → Nat → Prop}
    (hskip : ∀ k r c cs l, P k r (c :: cs) l → c.deleted = false → ¬ needs c.obj.kind → P (k + 1) { r with itRev := c.rev } cs c.rev)
    (hdel : ∀ k r c cs l, P k r (c :: cs) l → c.deleted = true → P (k + 1) (procD r c) cs c.rev)
    (hupd : ∀ k r c cs l, P k r (c :: cs) l → c.deleted = false → needs c.obj.kind → P (k + 1) (procU r c) cs c.rev)
    (cs : List Change) (k : Nat) (r : R) (last : Nat) (h : P k r cs last) :
    ∃ k', k ≤ k' ∧ (cs ≠ [] → k < k') ∧ P k' (r.consume cs last).1 (r.consume cs last).2.1 (r.consume cs last).2.2 ∧
      ((r.consume cs last).1.numReconciled < (r.consume cs last).1.cfg.roundSize → (r.consume cs last).2.1 = []) := by
  induction cs generalizing k r last with
  | nil => rw [consume_nil]; exact ⟨k, Nat.le_refl _, fun e => absurd rfl e, h, fun _ => rfl⟩
  | cons c cs ih =>
    have hfull : ∀ X : R, (r.consume (c :: cs) last =
          if X.numReconciled ≥ X.cfg.roundSize then (X, cs, c.rev) else X.consume cs c.rev) →
        r.consume (c :: cs) last = X.consume cs c.rev ∨
          (X.numReconciled ≥ X.cfg.roundSize ∧ r.consume (c :: cs) last = (X, cs, c.rev)) := by
      intro X e
      by_cases hf : X.numReconciled ≥ X.cfg.roundSize
      · exact Or.inr ⟨hf, e.trans (if_pos hf)⟩
      · exact Or.inl (e.trans (if_neg hf))
    obtain ⟨r1, h1, e⟩ : ∃ r1, P (k + 1) r1 cs c.rev ∧ (r.consume (c :: cs) last = r1.consume cs c.rev ∨
        (r1.numReconciled ≥ r1.cfg.roundSize ∧ r.consume (c :: cs) last = (r1, cs, c.rev))) := by
      cases hc : c.deleted with
      | true => exact ⟨_, hdel k r c cs last h hc, hfull _ (consume_del _ _ _ _ hc)⟩
      | false =>
        by_cases hn : needs c.obj.kind
        · exact ⟨_, hupd k r c cs last h hc hn, hfull _ (consume_upd _ _ _ _ hc hn)⟩
        · exact ⟨_, hskip k r c cs last h hc hn, Or.inl (consume_skip _ _ _ _ hc hn)⟩
    rcases e with e | ⟨hf, e⟩ <;> rw [e]
    · obtain ⟨k', a, _, b⟩ := ih (k + 1) r1 c.rev h1
      exact ⟨k', Nat.le_of_succ_le a, fun _ => a, b⟩
    · exact ⟨k + 1, Nat.le_succ _, fun _ => Nat.lt_succ_self _, h1, fun hlt => absurd hlt (Nat.not_lt.2 hf)⟩

theorem consume_inv {P : R → List Change → Nat → Prop}
    (hskip : ∀ r c cs l, P r (c :: cs) l → c.deleted = false → ¬ needs c.obj.kind → P { r with itRev := c.rev } cs c.rev)
    (hdel : ∀ r c cs l, P r (c :: cs) l → c.deleted = true → P (procD r c) cs c.rev)
    (hupd : ∀ r c cs l, P r (c :: cs) l → c.deleted = false → needs c.obj.kind → P (procU r c) cs c.rev)
    (cs : List Change) (r : R) (last : Nat) (h : P r cs last) :
    P (r.consume cs last).1 (r.consume cs last).2.1 (r.consume cs last).2.2 :=
  have ⟨_, _, _, a, _⟩ := consume_steps (P := fun _ => P) (fun _ => hskip) (fun _ => hdel) (fun _ => hupd) cs 0 r last h
  a

theorem consume_rest_le (cs : List Change) (x : R) (last : Nat) :
    (x.consume cs last).2.1.length ≤ cs.length ∧ (cs ≠ [] → (x.consume cs last).2.1.length < cs.length) := by
  obtain ⟨k, _, hk, a, _⟩ := consume_steps (P := fun k _ cs' _ => cs'.length + k = cs.length)
    (fun _ _ _ _ _ h _ _ => by rw [← h, List.length_cons]; omega) (fun _ _ _ _ _ h _ => by rw [← h, List.length_cons]; omega)
    (fun _ _ _ _ _ h _ _ => by rw [← h, List.length_cons]; omega) cs 0 x last rfl
  exact ⟨by omega, fun hne => by have := hk hne; omega⟩

theorem InvL.skip {r : R} {c : Change} {cs : List Change} (h : InvL r r.results) (hch : ChOK r r.results (c :: cs))
    (hc : c.deleted = false) (hn : ¬ needs c.obj.kind) :
    InvL { r with itRev := c.rev } r.results ∧ ChOK { r with itRev := c.rev } r.results cs := by
  obtain ⟨ho, hrev, hgt⟩ := hch.upd c (List.mem_cons_self ..) hc
  have s := h.core.step_skip (r' := { r with itRev := c.rev }) c.rev (hrev ▸ h.tinv.objs_le _ ho)
    (fun x hx hxn hxgt => (hch.lt_upd hc x hx hxgt).elim (fun e => absurd (e ▸ hxn) hn) id) rfl rfl rfl rfl rfl rfl rfl rfl
  exact ⟨s.core.invL (s.calm h.calm (Nat.le_of_lt hgt) rfl), hch.tail_upd hc rfl rfl rfl rfl (fun res hres => Or.inl hres)⟩

theorem InvL.setNum {x : R} {cs : List Change} (a : InvL x x.results) (b : ChOK x x.results cs) (n : Nat) :
    InvL { x with numReconciled := n } ({ x with numReconciled := n } : R).results ∧
    ChOK { x with numReconciled := n } ({ x with numReconciled := n } : R).results cs ∧
    FrameC x { x with numReconciled := n } :=
  ⟨a.congr rfl rfl rfl rfl rfl rfl rfl rfl rfl, b.congr rfl rfl rfl rfl, by constructor <;> rfl⟩

theorem InvL.procD {r : R} {c : Change} {cs : List Change} (h : InvL r r.results) (hch : ChOK r r.results (c :: cs))
    (hc : c.deleted = true) :
    InvL (procD r c) (procD r c).results ∧ ChOK (procD r c) (procD r c).results cs ∧ FrameC r (procD r c) := by
  obtain ⟨a, b, f, _⟩ := h.consume_del hch hc
  obtain ⟨a', b', f'⟩ := a.setNum b _
  exact ⟨a', b', f.trans f'⟩

theorem InvL.procU {r : R} {c : Change} {cs : List Change} (h : InvL r r.results) (hch : ChOK r r.results (c :: cs))
    (hc : c.deleted = false) (hn : needs c.obj.kind) :
    InvL (procU r c) (procU r c).results ∧ ChOK (procU r c) (procU r c).results cs ∧ FrameC r (procU r c) := by
  obtain ⟨a, b, f, _⟩ := h.consume_upd hch hc hn
  obtain ⟨a', b', f'⟩ := a.setNum b _
  exact ⟨a', b', f.trans f'⟩

theorem InvL.consume (cs : List Change) {r : R} (last : Nat) (h : InvL r r.results) (hch : ChOK r r.results cs) :
    InvL (r.consume cs last).1 (r.consume cs last).1.results ∧
    ChOK (r.consume cs last).1 (r.consume cs last).1.results (r.consume cs last).2.1 ∧
    FrameC r (r.consume cs last).1 ∧
    ((r.consume cs last).1.numReconciled < (r.consume cs last).1.cfg.roundSize → (r.consume cs last).2.1 = []) := by
  obtain ⟨_, _, _, ⟨a, b, f⟩, d⟩ := consume_steps (P := fun _ x cs' _ => InvL x x.results ∧ ChOK x x.results cs' ∧ FrameC r x)
    (fun _ x c cs _ ⟨hI, hC, hF⟩ hc hn => ⟨(hI.skip hC hc hn).1, (hI.skip hC hc hn).2, hF.trans (by constructor <;> rfl)⟩)
    (fun _ x c cs _ ⟨hI, hC, hF⟩ hc => ⟨(hI.procD hC hc).1, (hI.procD hC hc).2.1, hF.trans (hI.procD hC hc).2.2⟩)
    (fun _ x c cs _ ⟨hI, hC, hF⟩ hc hn => ⟨(hI.procU hC hc hn).1, (hI.procU hC hc hn).2.1, hF.trans (hI.procU hC hc hn).2.2⟩)
    cs 0 r last ⟨h, hch, FrameC.refl r⟩
  exact ⟨a, b, f, d⟩

/-! `nextChanges` sorts the newer objects and the newer deletions by insertion, each kind by
  itself, and merges the two; membership and the order within a kind are what is needed. -/

theorem insertCh_eq_merge (c : Change) (l : List Change) : insertCh c l = [c].merge l fun a b => a.rev ≤ b.rev := by
  induction l <;> simp [insertCh, List.cons_merge_cons, *]

theorem foldr_insertCh_eq_isort (l : List Change) : l.foldr insertCh [] = isort (fun a b => a.rev ≤ b.rev) l :=
  congrArg (fun f => l.foldr f []) (funext fun c => funext (insertCh_eq_merge c))

theorem mem_foldr_insertCh (l : List Change) (x : Change) : x ∈ l.foldr insertCh [] ↔ x ∈ l :=
  foldr_insertCh_eq_isort l ▸ (perm_isort _ l).mem_iff

theorem mergeCh_eq_merge (a b : List Change) : mergeCh a b = a.merge b fun x y => x.rev ≤ y.rev := by
  fun_induction mergeCh a b <;> simp [*]

theorem mem_mergeCh (a b : List Change) (x : Change) : x ∈ mergeCh a b ↔ x ∈ a ∨ x ∈ b :=
  mergeCh_eq_merge a b ▸ List.mem_merge

theorem sorted_foldr_insertCh (l : List Change) (h : l.Pairwise (fun a b => a.rev ≠ b.rev)) :
    (l.foldr insertCh []).Pairwise (fun a b => a.rev < b.rev) :=
  foldr_insertCh_eq_isort l ▸ pairwise_lt_isort Change.rev h

theorem pairwise_mergeCh (R : Change → Change → Prop) (a b : List Change) (ha : a.Pairwise R) (hb : b.Pairwise R)
    (hab : ∀ x ∈ a, ∀ y ∈ b, R x y ∧ R y x) : (mergeCh a b).Pairwise R := by
  fun_induction mergeCh a b with
  | case1 r => exact hb
  | case2 l h => exact ha
  | case3 l ls r rs hle ih =>
    rw [List.pairwise_cons] at ha
    rw [List.pairwise_cons]
    refine ⟨fun z hz => ?_, ih ha.2 hb (fun x hx y hy => hab x (List.mem_cons_of_mem _ hx) y hy)⟩
    rcases (mem_mergeCh ..).1 hz with hz | hz
    · exact ha.1 z hz
    · exact (hab l (List.mem_cons_self ..) z hz).1
  | case4 l ls r rs hle ih =>
    rw [List.pairwise_cons] at hb
    rw [List.pairwise_cons]
    refine ⟨fun z hz => ?_, ih ha hb.2 (fun x hx y hy => hab x hx y (List.mem_cons_of_mem _ hy))⟩
    rcases (mem_mergeCh ..).1 hz with hz | hz
    · exact (hab z hz r (List.mem_cons_self ..)).2
    · exact hb.1 z hz

theorem sorted_mergeCh (a b : List Change) (ha : a.Pairwise (fun x y => x.rev < y.rev)) (hb : b.Pairwise (fun x y => x.rev < y.rev))
    (hab : ∀ x ∈ a, ∀ y ∈ b, x.rev ≠ y.rev) : (mergeCh a b).Pairwise (fun x y => x.rev < y.rev) :=
  mergeCh_eq_merge a b ▸ pairwise_lt_merge Change.rev ha hb hab

/-- when the iterator has nothing pending it has passed everything written up to the last refresh -/
def Sync (r : R) : Prop :=
  r.pending = none → (∀ o ∈ r.objs, o.rev ≤ r.itRev ∨ r.refreshedAt < o.rev) ∧ (∀ d ∈ r.dels, d.2 ≤ r.itDelRev ∨ r.refreshedAt < d.2)

theorem Sync.objs {r : R} (h : Sync r) (hp : r.pending = none) {o : RObj} (ho : o ∈ r.objs) :
    o.rev ≤ r.itRev ∨ r.refreshedAt < o.rev := (h hp).1 o ho

theorem Sync.dels {r : R} (h : Sync r) (hp : r.pending = none) {d : RObj × Nat} (hd : d ∈ r.dels) :
    d.2 ≤ r.itDelRev ∨ r.refreshedAt < d.2 := (h hp).2 d hd

theorem nextChanges_fst (r : R) : r.nextChanges.1 = r ∨ r.nextChanges.1 = { r with refreshedAt := r.tableRev } := by
  unfold R.nextChanges; split
  · exact Or.inl rfl
  · exact Or.inr rfl

theorem TInv.next {r : R} (h : TInv r) : TInv r.nextChanges.1 := by
  rcases nextChanges_fst r with e | e <;> rw [e]
  · exact h
  · exact h.set_refreshedAt (Nat.le_refl _)

theorem nextChanges_refreshed (r : R) : r.nextChanges.1.refreshedAt = r.nextChanges.1.tableRev := by
  unfold R.nextChanges
  split
  · rename_i h; exact h.2
  · rfl

/-- the live objects beyond the iterator, as changes in revision order -/
def upsOf (r : R) : List Change :=
  ((r.objs.filter (·.rev > r.itRev)).map fun o => ({ obj := o, rev := o.rev, deleted := false } : Change)).foldr insertCh []

/-- the retained deletions beyond the iterator's delete position, as changes in revision order -/
def delsOf (r : R) : List Change :=
  ((r.dels.filter (·.2 > r.itDelRev)).map fun (o, dr) => ({ obj := o, rev := dr, deleted := true } : Change)).foldr insertCh []

theorem nextChanges_of_idle {r : R} (h : r.pending.isNone ∧ r.refreshedAt = r.tableRev) : r.nextChanges = (r, []) := by
  unfold R.nextChanges; rw [if_pos h]

theorem nextChanges_of_run {r : R} (h : ¬ (r.pending.isNone ∧ r.refreshedAt = r.tableRev)) :
    r.nextChanges = ({ r with refreshedAt := r.tableRev }, mergeCh (delsOf r) (upsOf r)) := by
  unfold R.nextChanges; rw [if_neg h]; rfl

theorem mem_upsOf (r : R) (x : Change) :
    x ∈ upsOf r ↔ ∃ o ∈ r.objs, o.rev > r.itRev ∧ x = { obj := o, rev := o.rev, deleted := false } := by
  unfold upsOf
  rw [mem_foldr_insertCh, List.mem_map]
  constructor
  · rintro ⟨o, ho, rfl⟩
    rw [List.mem_filter] at ho
    exact ⟨o, ho.1, by simpa using ho.2, rfl⟩
  · rintro ⟨o, ho, hgt, rfl⟩
    exact ⟨o, List.mem_filter.2 ⟨ho, by simpa using hgt⟩, rfl⟩

theorem mem_delsOf (r : R) (x : Change) :
    x ∈ delsOf r ↔ ∃ d ∈ r.dels, d.2 > r.itDelRev ∧ x = { obj := d.1, rev := d.2, deleted := true } := by
  unfold delsOf
  rw [mem_foldr_insertCh, List.mem_map]
  constructor
  · rintro ⟨d, hd, rfl⟩
    rw [List.mem_filter] at hd
    exact ⟨d, hd.1, by simpa using hd.2, rfl⟩
  · rintro ⟨d, hd, hgt, rfl⟩
    exact ⟨d, List.mem_filter.2 ⟨hd, by simpa using hgt⟩, rfl⟩

theorem sorted_upsOf {r : R} (ht : TInv r) : (upsOf r).Pairwise (fun a b => a.rev < b.rev) := by
  refine sorted_foldr_insertCh _ ?_
  rw [List.pairwise_map]
  exact (ht.objs_pw.filter _).imp (fun h => h.2)

theorem sorted_delsOf {r : R} (ht : TInv r) : (delsOf r).Pairwise (fun a b => a.rev < b.rev) := by
  refine sorted_foldr_insertCh _ ?_
  rw [List.pairwise_map]
  exact (ht.dels_pw.filter _).imp (fun h => h.2)

theorem mem_nextChanges {r : R} (hrun : ¬ (r.pending.isNone ∧ r.refreshedAt = r.tableRev)) (c : Change) : c ∈ r.nextChanges.2 ↔
    (∃ o ∈ r.objs, o.rev > r.itRev ∧ c = { obj := o, rev := o.rev, deleted := false }) ∨
    (∃ d ∈ r.dels, d.2 > r.itDelRev ∧ c = { obj := d.1, rev := d.2, deleted := true }) := by
  rw [nextChanges_of_run hrun, mem_mergeCh, mem_delsOf, mem_upsOf, Or.comm]

/-- whatever `Next` hands a round is a current object with its revision or a retained deletion -/
theorem nextChanges_current (r : R) (c : Change) (hc : c ∈ r.nextChanges.2) :
    (c.deleted = false ∧ c.obj ∈ r.objs ∧ c.rev = c.obj.rev) ∨ (c.deleted = true ∧ (c.obj, c.rev) ∈ r.dels) := by
  by_cases hrun : r.pending.isNone ∧ r.refreshedAt = r.tableRev
  · rw [nextChanges_of_idle hrun] at hc
    cases hc
  · rcases (mem_nextChanges hrun c).1 hc with ⟨o, ho, _, rfl⟩ | ⟨d, hd, _, rfl⟩
    · exact Or.inl ⟨rfl, ho, rfl⟩
    · exact Or.inr ⟨rfl, hd⟩

/-- `hd`: writes and deletions draw their revisions from the one counter of the table -/
theorem nextChanges_sorted {r : R} (ht : TInv r) (hd : ∀ o ∈ r.objs, ∀ d ∈ r.dels, o.rev ≠ d.2) :
    r.nextChanges.2.Pairwise (fun a b => a.rev < b.rev) := by
  by_cases hno : r.pending.isNone ∧ r.refreshedAt = r.tableRev
  · rw [nextChanges_of_idle hno]; exact List.Pairwise.nil
  · rw [nextChanges_of_run hno]
    refine sorted_mergeCh _ _ (sorted_delsOf ht) (sorted_upsOf ht) fun x hx y hy => ?_
    obtain ⟨d, hdd, _, rfl⟩ := (mem_delsOf r x).1 hx
    obtain ⟨o, ho, _, rfl⟩ := (mem_upsOf r y).1 hy
    exact fun e => hd o ho d hdd e.symm

/-- `Next` hands the round exactly what lies beyond the iterator's position, in revision order -/
theorem chOK_nextChanges {r : R} (ht : TInv r) (hs : Sync r) : ChOK r.nextChanges.1 [] r.nextChanges.2 := by
  by_cases hno : r.pending.isNone ∧ r.refreshedAt = r.tableRev
  · rw [nextChanges_of_idle hno]
    have hp : r.pending = none := Option.isNone_iff_eq_none.1 hno.1
    refine ⟨by simp, by simp, by simp, ?_, ?_, by simp⟩
    · intro o ho
      left
      rcases hs.objs hp ho with a | a
      · exact a
      · have := ht.objs_le o ho; omega
    · intro d hd
      left
      rcases hs.dels hp hd with a | a
      · exact a
      · have := ht.dels_le d hd; omega
  · rw [nextChanges_of_run hno]
    refine ⟨?_, ?_, ?_, ?_, ?_, by simp⟩
    · intro c hc hdel
      rcases (mem_mergeCh ..).1 hc with hc | hc
      · obtain ⟨d, _, _, rfl⟩ := (mem_delsOf r c).1 hc
        cases hdel
      · obtain ⟨o, ho, hgt, rfl⟩ := (mem_upsOf r c).1 hc
        exact ⟨ho, rfl, hgt⟩
    · intro c hc hdel
      rcases (mem_mergeCh ..).1 hc with hc | hc
      · obtain ⟨d, hd, hgt, rfl⟩ := (mem_delsOf r c).1 hc
        exact ⟨hd, hgt⟩
      · obtain ⟨o, _, _, rfl⟩ := (mem_upsOf r c).1 hc
        cases hdel
    · refine pairwise_mergeCh (fun a b => a.deleted = b.deleted → a.rev < b.rev) _ _ ?_ ?_ ?_
      · exact List.Pairwise.imp (by intro a b h _; exact h) (sorted_delsOf ht)
      · exact List.Pairwise.imp (by intro a b h _; exact h) (sorted_upsOf ht)
      · intro x hx y hy
        obtain ⟨d, _, _, rfl⟩ := (mem_delsOf r x).1 hx
        obtain ⟨o, _, _, rfl⟩ := (mem_upsOf r y).1 hy
        exact ⟨fun e => by simp at e, fun e => by simp at e⟩
    · intro o ho
      by_cases hgt : o.rev > r.itRev
      · exact Or.inr ⟨_, (mem_mergeCh ..).2 (Or.inr ((mem_upsOf r _).2 ⟨o, ho, hgt, rfl⟩)), rfl, rfl⟩
      · exact Or.inl (Nat.le_of_not_lt hgt)
    · intro d hd
      by_cases hgt : d.2 > r.itDelRev
      · exact Or.inr ⟨_, (mem_mergeCh ..).2 (Or.inl ((mem_delsOf r _).2 ⟨d, hd, hgt, rfl⟩)), rfl, rfl⟩
      · exact Or.inl (Nat.le_of_not_lt hgt)

end Sdb.Rec
