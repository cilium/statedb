import SdbModel.Lemmas.ReconcilerBatchMeasure
import SdbModel.Lemmas.ReconcilerInjectSim

/-!
  The batch variant of a round with user writes landing while `UpdateBatch` runs.  The
  invariant `JInv`, with the possibly stale change stream `JChOK`, can be replayed through the
  batch phase like `InvL` (`JInv.replay`); the rest follows the round without writes.
-/
namespace Sdb.Rec

theorem JInv.clear_stale {r r' : R} {rs : List Res} (h : JInv r rs) (id : Nat)
    (hst : Stale r.objs r.dels r.itRev r.itDelRev id)
    (hobjs : r'.objs = r.objs) (hdels : r'.dels = r.dels) (htableRev : r'.tableRev = r.tableRev)
    (hitRev : r'.itRev = r.itRev) (hitDelRev : r'.itDelRev = r.itDelRev) (hrefreshedAt : r'.refreshedAt = r.refreshedAt)
    (hitems : r'.items = r.items.filter (·.id ≠ id)) (hlog : r'.log = r.log) (hnextSid : r'.nextSid = r.nextSid) : JInv r' rs := by
  refine ⟨h.tinv.congr hobjs hdels htableRev hitRev hitDelRev hrefreshedAt, ?_, ?_, ?_, ?_, ?_, ?_⟩
  · rw [hitems]; exact h.items_pw.filter _
  · rw [hobjs, hitems, hlog, hitRev]
    exact fun o ho => (h.objOK o ho).clear_stale h.tinv hst ho
  · rw [hdels, hitems, hlog, hitDelRev]
    exact fun d hd => (h.delOK d hd).clear_stale h.tinv hst hd
  · rw [hobjs, hdels, hitems, hitRev, hitDelRev, htableRev, hnextSid]
    exact fun it hit => h.itemOK it (mem_filter_id_ne.1 hit).1
  · rw [hobjs, hitems, hlog, htableRev, hnextSid]
    intro res hres
    obtain ⟨a1, a2, a3, a4, a5⟩ := h.resOK res hres
    refine ⟨a1, a2, a3, a4, fun cur hcur hcid hlive => ?_⟩
    obtain ⟨b1, b2, b3, b4⟩ := a5 cur hcur hcid hlive
    exact ⟨b1, b2, b3, fun it hit hi => b4 it (mem_filter_id_ne.1 hit).1 hi⟩
  · rw [hobjs, hnextSid]; exact h.sidO

/-- what the collecting loop leaves alone -/
structure FrameK (n x : R) : Prop where
  objs : x.objs = n.objs
  dels : x.dels = n.dels
  tableRev : x.tableRev = n.tableRev
  nextSid : x.nextSid = n.nextSid
  log : x.log = n.log
  results : x.results = n.results
  injects : x.injects = n.injects
  failing : x.failing = n.failing
  cfg : x.cfg = n.cfg
  now : x.now = n.now
  refreshedAt : x.refreshedAt = n.refreshedAt
  pending : x.pending = n.pending

theorem JChOK.reorder {S : Nat} {r : R} {rs : List Res} {pre rest : List Change} (h : JChOK S r rs (pre ++ rest)) :
    JChOK S r rs (pre.filter (·.deleted) ++ (pre.filter (fun c => !c.deleted) ++ rest)) :=
  ⟨h.bnd, fun c hc => h.upd c (mem_reorder.1 hc), fun c hc => h.del c (mem_reorder.1 hc), sorted_reorder h.sorted,
    pairwise_reorder h.ids fun _ _ _ _ e => e.symm,
    fun o ho => (h.covO o ho).imp_right fun a => a.imp_right fun ⟨c, hc, e⟩ => ⟨c, mem_reorder.2 hc, e⟩,
    fun d hd => (h.covD d hd).imp_right fun a => a.imp_right fun ⟨c, hc, e⟩ => ⟨c, mem_reorder.2 hc, e⟩,
    fun res hres c hc => h.rsid res hres c (mem_reorder.1 hc)⟩

theorem JInv.replay (S : Nat) : Replay (fun r rs cs => JInv r rs ∧ JChOK S r rs cs) where
  toLoopInv := JInv.loopInv S
  clear id h hst :=
    ⟨h.1.clear_stale id hst (retryClear_objs ..) (retryClear_dels ..) (retryClear_tableRev ..) (retryClear_itRev ..)
      (retryClear_itDelRev ..) (retryClear_refreshedAt ..) (retryClear_items ..) (retryClear_log ..) (retryClear_nextSid ..),
     h.2.congr (retryClear_objs ..) (retryClear_dels ..) (retryClear_tableRev ..) (retryClear_itRev ..) (retryClear_itDelRev ..)
      (retryClear_nextSid ..)⟩
  setPending _ h := ⟨h.1.congr rfl rfl rfl rfl rfl rfl rfl rfl rfl, h.2.congr rfl rfl rfl rfl rfl rfl⟩
  reorder h := ⟨h.1, h.2.reorder⟩

/-- the hypothesis on foreign status writes (known finding K4), for one batch round: whenever a
    `touch` queued in `r.injects` lands during this round (from inside an Update of the update
    batch or of the retry loop), the object it lands on is not in Error state at that moment -/
def R.roundSafeB (r : R) : Prop :=
  (R.deleteBatch { (r.nextChanges.1.consumeB r.nextChanges.2 0 [] []).1 with
      pending := pendAfter r.nextChanges.2 (r.nextChanges.1.consumeB r.nextChanges.2 0 [] []) }
    (r.nextChanges.1.consumeB r.nextChanges.2 0 [] []).2.2.2.1).batchSafe
      (r.nextChanges.1.consumeB r.nextChanges.2 0 [] []).2.2.2.2 ∧
  R.tailSafe (batchOps (r.nextChanges.1.consumeB r.nextChanges.2 0 [] [])
    (pendAfter r.nextChanges.2 (r.nextChanges.1.consumeB r.nextChanges.2 0 [] [])))

instance batchSafeDec : (us : List BEntry) → (r : R) → Decidable (r.batchSafe us)
  | [], _ => isTrue trivial
  | e :: us, r =>
    have := batchSafeDec us (r.processSingle e.1 e.2 false)
    (inferInstance : Decidable (r.updSafe e.1 ∧ (r.processSingle e.1 e.2 false).batchSafe us))

instance (r : R) : Decidable r.roundSafeB := by unfold R.roundSafeB; infer_instance

theorem JRInv.roundB_mid {r : R} (h : JRInv r) (hs : r.roundSafeB) :
    JInv (batchMid r) (batchMid r).results ∧ (batchMid r).tailSafe ∧
    JChOK r.tableRev (batchMid r) (batchMid r).results (collectB r).2.1 ∧
    (batchMid r).refreshedAt = r.tableRev ∧
    ((batchMid r).pending = none → (collectB r).2.1 = []) := by
  have hnc : JInv r.nextChanges.1 [] ∧ r.nextChanges.1.results = [] ∧ r.nextChanges.1.tableRev = r.tableRev := by
    rcases nextChanges_fst r with e | e <;> rw [e]
    · exact ⟨h.inv, h.res, rfl⟩
    · exact ⟨h.inv.set_refreshedAt _ (Nat.le_refl _), h.res, rfl⟩
  have hch := chOK_nextChanges h.inv.tinv h.sync
  have href := nextChanges_refreshed r
  have hnil : r.nextChanges.2 = [] → (collectB r).2.1 = [] :=
    fun e => by rw [collectB, e, consumeB_nil]
  unfold R.roundSafeB at hs
  unfold batchMid collectB at hnil ⊢
  generalize r.nextChanges = nc at hnc hch href hnil hs ⊢
  obtain ⟨hI1, hres1, et⟩ := hnc
  obtain ⟨hK, _⟩ := consumeB_frame nc.2 nc.1 0 [] []
  obtain ⟨hF, _⟩ := batchOps_frame (nc.1.consumeB nc.2 0 [] []) (pendAfter nc.2 (nc.1.consumeB nc.2 0 [] []))
  obtain ⟨⟨hI3, hC3⟩, _⟩ := (JInv.replay nc.1.tableRev).batch_phase ⟨hI1, JChOK.ofChOK hch hI1.tinv hI1.sidO⟩ hres1 hI1.tinv hch 0 _ hs.1
  exact ⟨hI3, hs.2, et ▸ hC3, ((hF.refreshedAt.trans hK.refreshedAt).trans href).trans et,
    fun hpn => pendAfter_none hnil (hF.pending.symm.trans hpn)⟩

theorem JRInv.roundB {r : R} (h : JRInv r) (hs : r.roundSafeB) : JRInv r.roundB := by
  obtain ⟨hI3, hs2, hC3, e1, hr0⟩ := h.roundB_mid hs
  rw [roundB_eq]
  generalize batchMid r = x3 at hI3 hs2 hC3 e1 hr0 ⊢
  obtain ⟨hI, hres, hnum, hT⟩ := roundTail_jinv (collectB r).2.2.1 hI3 hs2
  refine ⟨hI, hres, hnum, fun hpn => ?_⟩
  rw [hT.pending] at hpn
  rw [hr0 hpn] at hC3
  rw [hT.itRev, hT.itDelRev, hT.refreshedAt, e1]
  -- what the tail wrote lies beyond the revision `Next` refreshed at; the rest was delivered
  have e3 : r.tableRev ≤ x3.tableRev := hC3.bnd.2.2
  refine ⟨fun o ho => ?_, fun d hd => ?_⟩
  · rcases hT.grow.objs o ho with a | a
    · exact (hC3.covO o a).imp_right fun b => b.elim id (fun ⟨_, hc, _⟩ => nomatch hc)
    · exact Or.inr (Nat.lt_of_le_of_lt e3 a)
  · rcases hT.grow.dels d hd with a | a
    · exact (hC3.covD d a).imp_right fun b => b.elim id (fun ⟨_, hc, _⟩ => nomatch hc)
    · exact Or.inr (Nat.lt_of_le_of_lt e3 a)

theorem QInv.roundBJ {P : Nat → Prop} {r : R} (h : QInv P r) (hr : JRInv r) (hs : r.roundSafeB)
    (hp : r.failing ≠ [] → PAdd P r) :
    QInv P r.roundB ∧ NCF r r.roundB := by
  obtain ⟨hI3, hs2, _⟩ := hr.roundB_mid hs
  obtain ⟨h3, n3⟩ := h.batch_mid hr.res hp hr.inv.tinv hr.sync
  rw [roundB_eq]
  -- with `batchMid r` in its type, `hs2` as an argument is unfolded by the elaborator: slow
  generalize batchMid r = x3 at hI3 hs2 h3 n3 ⊢
  obtain ⟨hq, n4⟩ := roundTail_qJ _ hI3 hs2 h3
  exact ⟨hq, n3.trans n4⟩

theorem JWInv.roundB {r : R} (h : JWInv r) (hs : r.roundSafeB) : JWInv r.roundB := by
  obtain ⟨hq, n⟩ := h.q.roundBJ h.rinv hs (fun _ => pAdd_bound r)
  refine ⟨h.rinv.roundB hs, ?_⟩
  rw [n.now, n.cfg]; exact hq

theorem roundB_safe_of_noTouch (r : R) (h : NoTouch r.injects) : r.roundSafeB ∧ InjSub r r.roundB := by
  refine ⟨⟨batchSafe_deleteBatch _ _ _ ?_, retries_safe_of_noTouch _ _ ?_⟩, roundB_injSub r⟩
  · show NoTouch (collectB r).1.injects
    rw [collectB, (consumeB_frame ..).1.injects]
    rcases nextChanges_fst r with e | e <;> rw [e] <;> exact h
  · rw [commitStatus_injects]
    exact (batchMid_injSub r).noTouch h

/-- the hypothesis `roundSafeB` for every round `quiesceB` runs (mirrors `R.quiesceB`) -/
def R.quiesceSafeB (r : R) : (fuel : Nat) → Prop
  | 0 => True
  | fuel + 1 =>
    let r := r.fireTimer
    if r.triggered then r.roundSafeB ∧ R.quiesceSafeB r.roundB fuel else True

/-- … and for every round `advanceB` runs (mirrors `R.advanceB`) -/
def R.advanceSafeB (r : R) (ms : Nat) : (fuel : Nat) → Prop
  | 0 => True
  | fuel + 1 =>
    let target := r.now + ms
    match r.timer with
    | .armed t =>
      if t ≤ target then
        R.quiesceSafeB ({ r with now := max t r.now }) 64 ∧
        (let r := ({ r with now := max t r.now }).quiesceB 64
         R.advanceSafeB r (target - r.now) fuel)
      else True
    | _ => True

theorem quiesceSafeB_of_noTouch (fuel : Nat) (r : R) (hn : NoTouch r.injects) : r.quiesceSafeB fuel := by
  induction fuel generalizing r with
  | zero => trivial
  | succ n ih =>
    unfold R.quiesceSafeB
    simp only
    have hn1 : NoTouch r.fireTimer.injects := by rw [(frameT_fireTimer r).injects]; exact hn
    split
    · obtain ⟨a, b⟩ := roundB_safe_of_noTouch r.fireTimer hn1
      exact ⟨a, ih _ (b.noTouch hn1)⟩
    · trivial

theorem JWInv.quiesceBS {r : R} (h : JWInv r) (fuel : Nat) (hs : r.quiesceSafeB fuel) : JWInv (r.quiesceB fuel) := by
  induction fuel generalizing r with
  | zero => exact h
  | succ n ih =>
    unfold R.quiesceSafeB at hs
    unfold R.quiesceB
    simp only at hs ⊢
    split
    · rename_i htr
      rw [if_pos htr] at hs
      exact ih (h.fireTimer.roundB hs.1) hs.2
    · exact h.fireTimer

theorem JWInv.advanceBS {r : R} (h : JWInv r) (ms fuel : Nat) (hs : r.advanceSafeB ms fuel) : JWInv (r.advanceB ms fuel) := by
  induction fuel generalizing r ms with
  | zero => exact h.setNow _ (by omega)
  | succ n ih =>
    unfold R.advanceSafeB at hs
    unfold R.advanceB
    simp only at hs ⊢
    split
    · rename_i t htm
      split
      · rename_i hle
        split at hs
        · rename_i t' htm'
          have ht : t' = t := by rw [htm] at htm'; cases htm'; rfl
          subst ht
          rw [if_pos hle] at hs
          exact ih ((h.setNow (max t' r.now) (by omega)).quiesceBS 64 hs.1) _ hs.2
        · rename_i hna
          exact absurd htm (hna t)
      · exact h.setNow _ (by omega)
    · exact h.setNow _ (by omega)

theorem JWInv.quiesceWB {r : R} (h : JWInv r) (hn : NoTouch r.injects) (fuel : Nat) :
    JWInv (quiesceW R.roundB r fuel) ∧ NoTouch (quiesceW R.roundB r fuel).injects :=
  quiesceW_ind (P := fun x => JWInv x ∧ NoTouch x.injects)
    (fun x h => ⟨h.1.fireTimer, (frameT_fireTimer x).injects ▸ h.2⟩)
    (fun x h _ => ⟨h.1.roundB (roundB_safe_of_noTouch x h.2).1, (roundB_safe_of_noTouch x h.2).2.noTouch h.2⟩) r fuel ⟨h, hn⟩

theorem JWInv.quiesceB {r : R} (h : JWInv r) (hn : NoTouch r.injects) (fuel : Nat) :
    JWInv (r.quiesceB fuel) ∧ NoTouch (r.quiesceB fuel).injects ∧ r.quiesceSafeB fuel :=
  quiesceB_eq r fuel ▸ ⟨(h.quiesceWB hn fuel).1, (h.quiesceWB hn fuel).2, quiesceSafeB_of_noTouch fuel r hn⟩

theorem JWInv.advanceB {r : R} (h : JWInv r) (hn : NoTouch r.injects) (ms fuel : Nat) :
    JWInv (r.advanceB ms fuel) ∧ NoTouch (r.advanceB ms fuel).injects :=
  advanceB_eq r ms fuel ▸ advanceW_ind (P := fun x => JWInv x ∧ NoTouch x.injects)
    (fun _ t h ht => ⟨h.1.setNow t ht, h.2⟩) (fun _ h => h.1.quiesceWB h.2 64) r ms fuel ⟨h, hn⟩

theorem advanceSafeB_of_noTouch (fuel : Nat) (r : R) (ms : Nat) (hn : NoTouch r.injects) (h : JWInv r) : r.advanceSafeB ms fuel := by
  induction fuel generalizing r ms with
  | zero => trivial
  | succ n ih =>
    unfold R.advanceSafeB
    simp only
    split
    · rename_i t htm
      split
      · have h0 : JWInv { r with now := max t r.now } := h.setNow _ (by omega)
        obtain ⟨a, b, c⟩ := h0.quiesceB hn 64
        exact ⟨c, ih _ _ b a⟩
      · trivial
    · trivial

theorem mz_roundBJ {P : Nat → Prop} {r : R} (hr : JRInv r) (hq : QInv P r) (hf : r.failing = []) (hinj : r.injects = [])
    (hrs : 1 ≤ r.cfg.roundSize) (htr : r.triggered = true) : Mz r.roundB < Mz r :=
  mz_roundB_of hr.inv.tinv hr.sync hr.res hr.num hq hf hinj hrs htr

theorem roundB_injects_nil (x : R) (hx : x.injects = []) : x.roundB.injects = [] :=
  (roundB_injSub x).nil hx

theorem quiesceB_injects_nil (n : Nat) (x : R) (hx : x.injects = []) : (x.quiesceB n).injects = [] :=
  quiesceB_eq x n ▸ quiesceW_ind (P := fun y => y.injects = []) (fun y h => (frameT_fireTimer y).injects.trans h)
    (fun y h _ => roundB_injects_nil y h) x n hx

theorem advanceB_injects_nil (n : Nat) (x : R) (m : Nat) (hx : x.injects = []) : (x.advanceB m n).injects = [] :=
  advanceB_eq x m n ▸ advanceW_ind (P := fun y => y.injects = []) (fun _ _ h _ => h)
    (fun y h => quiesceB_eq y 64 ▸ quiesceB_injects_nil 64 y h) x m n hx

theorem JSInv.roundB {B : Nat} {r : R} (h : JSInv B r) : JSInv B r.roundB ∧ r.roundB.now = r.now ∧ r.roundB.cfg = r.cfg := by
  have hs := (roundB_safe_of_noTouch r (noTouch_nil h.noinj)).1
  obtain ⟨hq, n⟩ := h.q.roundBJ h.rinv hs (fun e => absurd h.nofail e)
  exact ⟨⟨h.rinv.roundB hs, hq, n.failing.trans h.nofail, roundB_injects_nil r h.noinj⟩, n.now, n.cfg⟩

theorem JSInv.quiesceB {B : Nat} {r : R} (h : JSInv B r) (fuel : Nat) :
    JSInv B (r.quiesceB fuel) ∧ (r.quiesceB fuel).now = r.now ∧ (r.quiesceB fuel).cfg = r.cfg :=
  quiesceB_eq r fuel ▸ quiesceW_ind (P := fun x => JSInv B x ∧ x.now = r.now ∧ x.cfg = r.cfg)
    (fun x h => ⟨h.1.fireTimer.1, h.1.fireTimer.2.trans h.2.1, (frameT_fireTimer x).cfg.trans h.2.2⟩)
    (fun _ h _ => ⟨h.1.roundB.1, h.1.roundB.2.1.trans h.2.1, h.1.roundB.2.2.trans h.2.2⟩) r fuel ⟨h, rfl, rfl⟩

theorem JSInv.quiesceB_idle {B : Nat} {r : R} (h : JSInv B r) (hrs : 1 ≤ r.cfg.roundSize) (fuel : Nat) (hfuel : Mz r < fuel) :
    (r.quiesceB fuel).triggered = false :=
  quiesceB_eq r fuel ▸ (quiesceW_idle (I := JSInv B) (fun _ h => h.fireTimer.1) (fun _ h => ⟨h.roundB.1, h.roundB.2.2⟩)
    (fun _ h => mz_roundBJ h.rinv h.q h.nofail h.noinj) h hrs fuel hfuel).1

/-! ## nothing but the status is written by a batch round -/

theorem Sim.foldl_processSingle {r0 : R} (ul : List BEntry) {x : R} (h : Sim r0 x) :
    Sim r0 (ul.foldl (fun (x : R) (e : BEntry) => x.processSingle e.1 e.2 false) x) := by
  induction ul generalizing x with
  | nil => exact h
  | cons e ul ih => exact ih (h.processSingle e.1 e.2 false)

theorem JRInv.roundB_sim {r : R} (h : JRInv r) (hs : r.roundSafeB) : Sim r r.roundB := by
  obtain ⟨hI3, hs2, _⟩ := h.roundB_mid hs
  -- `Next`, the collecting loop and the delete batch leave the table and the queued writes alone
  have hS3 : Sim r (batchMid r) := by
    have hS1 : Sim r r.nextChanges.1 := by
      rcases nextChanges_fst r with e | e <;> rw [e]
      · exact Sim.refl r
      · exact (Sim.refl r).same rfl rfl rfl
    unfold batchMid collectB
    generalize r.nextChanges = nc at hS1 ⊢
    rw [batchOps_eq]
    refine Sim.foldl_processSingle _ ?_
    obtain ⟨hK, _⟩ := consumeB_frame nc.2 nc.1 0 [] []
    generalize nc.1.consumeB nc.2 0 [] [] = co at hK ⊢
    generalize pendAfter nc.2 co = pend
    obtain ⟨⟨t, _⟩, _⟩ := foldl_stepD_frame ({ co.1 with pending := pend } : R).failing co.2.2.2.1 { co.1 with pending := pend }
    exact hS1.same (t.objs.trans hK.objs) (t.dels.trans hK.dels) (t.injects.trans hK.injects)
  rw [roundB_eq]
  -- with `batchMid r` in its type, `hs2` as an argument is unfolded by the elaborator: slow
  generalize batchMid r = x3 at hI3 hs2 hS3 ⊢
  exact Sim.tail _ hS3 hI3 hs2

end Sdb.Rec
