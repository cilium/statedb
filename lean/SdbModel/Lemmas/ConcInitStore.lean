import SdbModel.Lemmas.ConcInitStep
import SdbModel.Lemmas.ConcSimCor

/-!
  The two `storeRoot` steps (Commit, registerTable) preserve `CI`.  Here, and nowhere else among the step
  lemmas, the mutual exclusion provided by the simulation (`holds_of_between`, `rootMu_of_between`) is
  used: the storing thread owns the root mutex and the mutexes of all its tables, so no other thread
  relies on the versions it replaces (`store_frame`).  For the commit, `StoreCtx` collects what is known at
  the store and derives that the roles of the channels stay apart when the fresh channels become root
  channels and the replaced / collected ones become private.
-/
namespace Sdb.Conc

theorem rootMu_cEnd (L : List Nat) (c : Bool) :
    (Micro.releaseRoot ∈ cEnd L c ↔ c = true) ∧ (Micro.acquireRoot ∈ cEnd L c ↔ c = true) := by
  cases c <;> simp [cEnd]

theorem inCS_of_between (L : List Nat) (c : Bool) (p : Pos) (hrel : Micro.releaseRoot ∈ code L c p)
    (hacq : Micro.acquireRoot ∉ code L c p) : inCS p = true := by
  cases p with
  | lc | mg | ci | sr | rR | gL | gP | gS | gR | dL | dR => rfl
  | acq _ | clR | clE | uw =>
    -- before the user's writes both root-mutex steps are ahead (commit) or neither (abort)
    simp only [code, List.mem_append, List.mem_map, List.mem_cons, reduceCtorEq, and_false, exists_const, false_or,
      rootMu_cEnd] at hrel hacq
    exact absurd hrel hacq
  | aR | gA | dA => simp [code] at hacq
  | rel _ | gE => simp [-List.map_drop, code] at hrel

theorem rootMu_of_between (st : State) (cs : List Bool) (h : Sim st cs) (tid : Nat) (th : Thread)
    (hth : st.threads[tid]? = some th) (hrel : Micro.releaseRoot ∈ th.prog) (hacq : Micro.acquireRoot ∉ th.prog) :
    st.rootMu = some tid := by
  obtain ⟨s, _, hR, _⟩ := h
  obtain ⟨t, _, _, _, p, hp, hcs, _⟩ := hR.thr tid th hth
  rw [← mem_strip _ _ (by rfl), hp] at hrel hacq
  exact hcs.2 (inCS_of_between _ _ p hrel hacq)

theorem store_frame (st : State) (cs : List Bool) (tid : Nat) (th : Thread) (root' : List TableV) (nc' : Nat)
    (hsim : Sim (install st tid th) cs) (htid : tid < st.threads.length)
    (hmu : Micro.releaseRoot ∈ th.prog ∧ Micro.acquireRoot ∉ th.prog)
    (hheld : ∀ x ∈ lockList th, Micro.release x ∈ th.prog ∧ Micro.acquire x ∉ th.prog)
    (hroot : ∀ x, x < st.root.length → x ∉ lockList th → getT root' x = getT st.root x)
    (j : Nat) (thj : Thread) (cj : Bool) (p : Pos2) (hj : j ≠ tid) (hthj : st.threads[j]? = some thj)
    (hbj : ∀ x ∈ lockList thj, x < st.root.length)
    (hpj : strip2 thj.prog = code2 (lockList thj) cj p) (hlj : Loc st.root st.nextChan thj cj p) :
    Loc root' nc' thj cj p := by
  have hown := install_own st tid th htid
  have hother := (install_other st tid th htid hj).trans hthj
  apply Loc_frame st.root root' st.nextChan nc' thj cj p hlj
  · intro x hx
    have hxl := stable_sub _ _ _ hx
    apply hroot x (hbj x hxl)
    intro hxt
    obtain ⟨b1, b2⟩ := held_of_pos thj _ cj p hpj x hx
    have o1 := holds_of_between _ cs hsim j thj hother x b1 b2
    have o2 := holds_of_between _ cs hsim tid th hown x (hheld x hxt).1 (hheld x hxt).2
    rw [o1] at o2
    simp only [Option.some.injEq] at o2
    exact hj o2
  · intro hn
    exfalso
    obtain ⟨b1, b2⟩ := rootHeld_of_pos thj _ cj p hpj hn
    have o1 := rootMu_of_between _ cs hsim j thj hother b1 b2
    have o2 := rootMu_of_between _ cs hsim tid th hown hmu.1 hmu.2
    rw [o1] at o2
    simp only [Option.some.injEq] at o2
    exact hj o2

theorem forall_getT_append (l : List TableV) (v : TableV) (Q : TableV → Prop)
    (hl : ∀ x, x < l.length → Q (getT l x)) (hv : Q v) : ∀ x, x < (l ++ [v]).length → Q (getT (l ++ [v]) x) := by
  intro x hx
  by_cases hxl : x < l.length
  · rw [getT_append_left _ _ _ hxl]; exact hl x hxl
  · obtain rfl : x = l.length := by
      simp only [List.length_append, List.length_singleton] at hx; omega
    rw [getT_append_length]; exact hv

theorem CI_storeReg {st : State} {cs : List Bool} {tid : Nat} {th : Thread} {c : Bool} {rest : List Micro}
    (S : At st cs tid th c (.act .storeRoot) rest .gS) (hsim : Sim (install st tid th) cs)
    (hstrip : strip2 rest = code2 (lockList th) c .gR) :
    StepCI st { st with root := th.newRoot, nextChan := st.nextChan + 1 } cs tid th { th with prog := rest } c := by
  obtain ⟨hcf, htb, hnew, _⟩ := S.loc
  have hCI := S.ci
  have hL : lockList th = [] := lockList_nil th htb
  have tr' := tracked_of_pos { th with prog := rest } _ c _ hstrip
  have hsr : Micro.act .storeRoot ∈ th.prog := by rw [S.prog]; simp
  have hsr' : Micro.act .storeRoot ∉ rest := fun h => by have := tr'.storeRoot.1 h; simp [srIn] at this
  have hnt' : Micro.act .notify ∉ rest := fun h => by have := tr'.notify.1 h; simp [ntIn] at this
  have hcl' : Micro.act .closeInit ∉ rest := fun h => by have := tr'.closeInit.1 h; simp [clIn] at this
  have noTab : ∀ x, x ∉ lockList { th with prog := rest } := fun x hx => by
    rw [show lockList { th with prog := rest } = lockList th from rfl, hL] at hx; exact absurd hx List.not_mem_nil
  have p' : ∀ w, ¬ priv { th with prog := rest } c w := by
    intro w hw
    rcases hw with ⟨_, x, hx, _⟩ | ⟨_, _, h3, _⟩ | ⟨_, _, h3, _⟩
    · exact noTab x hx
    · exact absurd h3 hnt'
    · exact absurd h3 hcl'
  have hncpos : 1 ≤ st.nextChan := hCI.nc
  obtain ⟨cRI, cRW, cIP, cRV⟩ : RootOK st.root := hCI.rootOK
  have cbR : ∀ w, rootChan st.root w → w < st.nextChan := hCI.bR
  have cbC : ∀ w, w ∈ st.closed → w < st.nextChan := hCI.bC
  have cRC : ∀ w, rootChan st.root w → w ∉ st.closed := hCI.RC
  have hget : ∀ x, x < st.root.length → getT th.newRoot x = getT st.root x := by
    intro x hx; rw [hnew]; exact getT_append_left _ _ _ hx
  have hlast : getT th.newRoot st.root.length = { watch := st.nextChan } := by
    rw [hnew]; exact getT_append_length _ _
  have hlen : th.newRoot.length = st.root.length + 1 := by rw [hnew]; simp
  have hch : ∀ x w, x < th.newRoot.length → chansOf (getT th.newRoot x) w →
      (x < st.root.length ∧ chansOf (getT st.root x) w) ∨ (x = st.root.length ∧ w = st.nextChan) := by
    intro x w hx hw
    rw [hlen] at hx
    by_cases hxl : x < st.root.length
    · exact Or.inl ⟨hxl, by rw [← hget x hxl]; exact hw⟩
    · obtain rfl : x = st.root.length := by omega
      rw [hlast] at hw
      exact Or.inr ⟨rfl, hw.elim id (fun h => absurd h.1 h.2)⟩
  have hchan : ∀ w, rootChan th.newRoot w → rootChan st.root w ∨ w = st.nextChan := fun w ⟨x, hx, hw⟩ =>
    (hch x w hx hw).imp (fun g => ⟨x, g.1, g.2⟩) (fun g => g.2)
  have hmuB := rootHeld_of_pos th _ c .gS S.pos rfl
  refine ⟨?_, .register htb rfl hsr hsr' hnew (by rw [S.prog]; rfl), S.pop th.result⟩
  refine CI_update st _ cs tid th _ c hCI S.lt S.flag rfl (Nat.le_succ _) (by show _ ≤ th.newRoot.length; omega)
    ?_ ?_ ?_ ?_ ?_ ?_ ⟨?_, ?_, ?_, ?_⟩ ?_ ?_ (S.pop th.result) ?_ ?_
  · intro w hw
    rcases hchan w hw with h | h
    · exact Or.inl h
    · exact Or.inr (Or.inr ⟨by show st.nextChan ≤ w; omega, by show w < st.nextChan + 1; omega⟩)
  · intro w hw; exact Or.inl hw
  · intro w hw; exact absurd hw (p' w)
  · intro w hw hm
    rcases hchan w hw with h | h
    · exact cRC w h hm
    · have := cbC w hm; omega
  · intro w hw; exact absurd hw (p' w)
  · intro w hw; exact absurd hw (p' w)
  · intro x y hx hy hxy w cx cy
    rcases hch x w hx cx with ⟨hxl, ox⟩ | ⟨rfl, rfl⟩ <;> rcases hch y _ hy cy with ⟨hyl, oy⟩ | ⟨rfl, e⟩
    · exact cRI x y hxl hyl hxy w ox oy
    · have := cbR w ⟨x, hxl, ox⟩; omega
    · have := cbR _ ⟨y, hyl, oy⟩; omega
    · exact hxy rfl
  · show ∀ x, x < th.newRoot.length → (getT th.newRoot x).initWatch ≠ 0 →
      (getT th.newRoot x).watch ≠ (getT th.newRoot x).initWatch
    rw [hnew]
    exact forall_getT_append _ _ (fun e => e.initWatch ≠ 0 → e.watch ≠ e.initWatch) cRW (fun h => absurd rfl h)
  · show ∀ x, x < th.newRoot.length → ((getT th.newRoot x).initPending = true ↔ (getT th.newRoot x).initWatch ≠ 0)
    rw [hnew]
    exact forall_getT_append _ _ (fun e => e.initPending = true ↔ e.initWatch ≠ 0) cIP (by simp)
  · show ∀ x, x < th.newRoot.length → (getT th.newRoot x).rev = (getT th.newRoot x).cnt
    rw [hnew]
    exact forall_getT_append _ _ (fun e => e.rev = e.cnt) cRV rfl
  · exact fun _ x hx => absurd hx (noTab x)
  · intro w hw hn; exact absurd hw hn
  · exact S.ok rfl rfl (by show _ ≤ th.newRoot.length; omega) hstrip ⟨hcf, htb⟩
  · intro j thj cj p hj hthj hcj hpj hlj
    have hold := (install_other st tid th S.lt hj).trans hthj
    obtain ⟨cj', hcj', hbj, _⟩ := hCI.TH j thj hold
    exact store_frame st cs tid th _ _ hsim S.lt hmuB (by rw [hL]; intro x hx; simp at hx)
      (fun x hx _ => hget x hx) j thj cj p hj hthj hbj hpj hlj

/-- what is known when a committing writer is about to store its root -/
structure StoreCtx (root : List TableV) (th : Thread) : Prop where
  seen : Seen root th
  wr : Wr th
  cur : th.curRoot = root
  ci : Ci th
  tc : th.initToClose = toClose th.entries (dedup th.tables)
  bound : ∀ x ∈ lockList th, x < root.length
  rootOK : RootOK root
  PRf : ∀ w, fresh th w → ¬ rootChan root w
  FIf : ∀ x ∈ lockList th, ∀ y ∈ lockList th, x ≠ y → ∀ w, freshOf th x w → freshOf th y w → False

namespace StoreCtx
variable {root : List TableV} {th : Thread} (C : StoreCtx root th)
include C

theorem entry (x : Nat) (hx : x ∈ lockList th) :
    ∃ n, getT th.entries x = uwEntry (th.regInit.contains x) (th.markInit.contains x) n (getT root x) := by
  obtain ⟨n, hn⟩ := C.wr.entry hx
  exact ⟨n, by rw [← (C.seen x hx).2]; exact hn⟩

theorem old_eq (x : Nat) (hx : x ∈ lockList th) : getT th.oldRoot x = getT root x := (C.seen x hx).2

theorem chans_entry (x : Nat) (hx : x ∈ lockList th) (w : Nat) (h : chansOf (getT th.entries x) w) :
    chansOf (getT root x) w ∨ freshOf th x w := by
  rcases h with h | ⟨h1, h2⟩
  · exact Or.inr (Or.inl h)
  · by_cases h0 : (getT th.oldRoot x).initWatch = 0
    · exact Or.inr (Or.inr ⟨h1, h0, h2⟩)
    · left
      obtain ⟨n, hn⟩ := C.entry x hx
      rw [C.old_eq x hx] at h0
      rw [hn] at h1
      simp only [uwEntry, h0, and_false, if_false] at h1
      exact Or.inr ⟨h1, h2⟩

theorem newRoot_len : th.newRoot.length = root.length := by rw [C.ci.1, C.cur]

theorem newRoot_in (x : Nat) (hx : x ∈ lockList th) : getT th.newRoot x = clr (getT th.entries x) :=
  (C.ci.2 x (by rw [C.cur]; exact C.bound x hx)).1 hx

theorem newRoot_out (x : Nat) (hx : x < root.length) (hxl : x ∉ lockList th) : getT th.newRoot x = getT root x := by
  rw [(C.ci.2 x (by rw [C.cur]; exact hx)).2 hxl, C.cur]

theorem newRoot_cases (x : Nat) (hx : x < root.length) :
    (∃ n, getT th.newRoot x = clr (uwEntry (th.regInit.contains x) (th.markInit.contains x) n (getT root x))) ∨
    getT th.newRoot x = getT root x := by
  by_cases hxl : x ∈ lockList th
  · obtain ⟨n, hn⟩ := C.entry x hxl
    exact Or.inl ⟨n, by rw [C.newRoot_in x hxl, hn]⟩
  · exact Or.inr (C.newRoot_out x hx hxl)

/-- channels "of table `x`" before the store: committed ones and freshly allocated ones -/
def allOf (root : List TableV) (th : Thread) (x : Nat) (w : Nat) : Prop :=
  chansOf (getT root x) w ∨ (x ∈ lockList th ∧ freshOf th x w)

theorem newRoot_chans (x : Nat) (hx : x < root.length) (w : Nat) (h : chansOf (getT th.newRoot x) w) :
    allOf root th x w := by
  by_cases hxl : x ∈ lockList th
  · rw [C.newRoot_in x hxl] at h
    rcases C.chans_entry x hxl w (chansOf_clr _ _ h) with h' | h'
    · exact Or.inl h'
    · exact Or.inr ⟨hxl, h'⟩
  · rw [C.newRoot_out x hx hxl] at h
    exact Or.inl h

theorem allOf_disj (x y : Nat) (hx : x < root.length) (hy : y < root.length) (hxy : x ≠ y) (w : Nat)
    (h1 : allOf root th x w) (h2 : allOf root th y w) : False := by
  rcases h1 with h1 | ⟨hxl, h1⟩
  · rcases h2 with h2 | ⟨hyl, h2⟩
    · exact C.rootOK.RI x y hx hy hxy w h1 h2
    · exact C.PRf w ⟨y, hyl, h2⟩ ⟨x, hx, h1⟩
  · rcases h2 with h2 | ⟨hyl, h2⟩
    · exact C.PRf w ⟨x, hxl, h1⟩ ⟨y, hy, h2⟩
    · exact C.FIf x hxl y hyl hxy w h1 h2

omit C in
theorem allOf_cases (x : Nat) (hx : x < root.length) (w : Nat) (h : allOf root th x w) :
    rootChan root w ∨ fresh th w := by
  rcases h with h | ⟨hxl, h⟩
  · exact Or.inl ⟨x, hx, h⟩
  · exact Or.inr ⟨x, hxl, h⟩

theorem toNotify_mem (w : Nat) (h : w ∈ th.toNotify) : ∃ x ∈ lockList th, w = (getT root x).watch := by
  rw [C.wr.toNotify_eq, List.mem_map] at h
  obtain ⟨x, hx, rfl⟩ := h
  have hxl := mem_lockList_of_dedup th x hx
  exact ⟨x, hxl, by rw [C.old_eq x hxl]⟩

theorem toClose_mem (w : Nat) (h : w ∈ th.initToClose) :
    ∃ x ∈ lockList th, w = (getT th.entries x).initWatch ∧ w ≠ 0 ∧ (getT th.entries x).initPending = false := by
  rw [C.tc, mem_toClose] at h
  obtain ⟨x, hx, hcol, he⟩ := h
  exact ⟨x, mem_lockList_of_dedup th x hx, he, he ▸ hcol.1, hcol.2⟩

theorem entry_watch_ne_init (x : Nat) (hx : x ∈ lockList th) (hne : (getT th.entries x).initWatch ≠ 0) :
    (getT th.entries x).watch ≠ (getT th.entries x).initWatch := by
  obtain ⟨n, hn⟩ := C.entry x hx
  intro heq
  by_cases hc : (th.regInit.contains x = true ∧ (getT root x).initWatch = 0)
  · rw [hn] at heq
    simp only [uwEntry, hc, and_self, if_true] at heq
    omega
  · have hinit : (getT th.entries x).initWatch = (getT root x).initWatch := by
      rw [hn]; simp only [uwEntry, hc, if_false]
    apply C.PRf (getT th.entries x).watch ⟨x, hx, Or.inl rfl⟩
    refine ⟨x, C.bound x hx, Or.inr ⟨by rw [heq, hinit], ?_⟩⟩
    rw [heq]; exact hne

theorem init_allOf (x : Nat) (hx : x ∈ lockList th) (w : Nat) (h1 : w = (getT th.entries x).initWatch) (h2 : w ≠ 0) :
    allOf root th x w := by
  rcases C.chans_entry x hx w (Or.inr ⟨h1, h2⟩) with h | h
  · exact Or.inl h
  · exact Or.inr ⟨hx, h⟩

theorem watch_ne_entry_init (x : Nat) (hxl : x ∈ lockList th) (w : Nat) (hw : w = (getT root x).watch)
    (h1 : w = (getT th.entries x).initWatch) (h2 : w ≠ 0) : False := by
  have hx := C.bound x hxl
  rcases C.chans_entry x hxl w (Or.inr ⟨h1, h2⟩) with h' | h'
  · rcases h' with h' | ⟨h', _⟩
    · -- the entry's init channel is the committed watch: then it equals the committed init channel
      obtain ⟨n, hn⟩ := C.entry x hxl
      by_cases hc : (th.regInit.contains x = true ∧ (getT root x).initWatch = 0)
      · exact C.PRf w ⟨x, hxl, Or.inr ⟨h1, by rw [C.old_eq x hxl]; exact hc.2, h2⟩⟩ ⟨x, hx, Or.inl hw⟩
      · have hinit : (getT th.entries x).initWatch = (getT root x).initWatch := by
          rw [hn]; simp only [uwEntry, hc, if_false]
        rw [hinit] at h1
        exact C.rootOK.RW x hx (by rw [← h1]; exact h2) (by rw [← hw, ← h1])
    · exact C.rootOK.RW x hx (by rw [← h']; exact h2) (by rw [← hw, ← h'])
  · exact C.PRf w ⟨x, hxl, h'⟩ ⟨x, hx, Or.inl hw⟩

theorem chans_newRoot_inv (x : Nat) (hx : x ∈ lockList th) (w : Nat) (h : chansOf (getT th.newRoot x) w) :
    w = (getT th.entries x).watch ∨
    (w = (getT th.entries x).initWatch ∧ w ≠ 0 ∧ ¬ Collectable (getT th.entries x)) := by
  rw [C.newRoot_in x hx] at h
  exact chansOf_clr_cases _ w h

theorem toNotify_not_new (w : Nat) (h : w ∈ th.toNotify) : ¬ rootChan th.newRoot w := by
  obtain ⟨x, hxl, hw⟩ := C.toNotify_mem w h
  have hx := C.bound x hxl
  have hax : allOf root th x w := Or.inl (Or.inl hw)
  rintro ⟨y, hy, hcy⟩
  rw [C.newRoot_len] at hy
  by_cases hxy : x = y
  · subst hxy
    rcases C.chans_newRoot_inv x hxl w hcy with h1 | ⟨h1, h2, _⟩
    · exact C.PRf w ⟨x, hxl, Or.inl h1⟩ ⟨x, hx, Or.inl hw⟩
    · exact C.watch_ne_entry_init x hxl w hw h1 h2
  · exact C.allOf_disj x y hx hy hxy w hax (C.newRoot_chans y hy w hcy)

theorem toClose_not_new (w : Nat) (h : w ∈ th.initToClose) : ¬ rootChan th.newRoot w := by
  obtain ⟨x, hxl, hw, hne, hpend⟩ := C.toClose_mem w h
  have hx := C.bound x hxl
  have hax := C.init_allOf x hxl w hw hne
  rintro ⟨y, hy, hcy⟩
  rw [C.newRoot_len] at hy
  by_cases hxy : x = y
  · subst hxy
    rcases C.chans_newRoot_inv x hxl w hcy with h1 | ⟨_, _, h3⟩
    · exact C.entry_watch_ne_init x hxl (by rw [← hw]; exact hne) (by rw [← h1, ← hw])
    · exact h3 ⟨by rw [← hw]; exact hne, hpend⟩
  · exact C.allOf_disj x y hx hy hxy w hax (C.newRoot_chans y hy w hcy)

theorem toNotify_not_toClose (w : Nat) (h : w ∈ th.toNotify) : w ∉ th.initToClose := by
  obtain ⟨x, hxl, hw⟩ := C.toNotify_mem w h
  have hx := C.bound x hxl
  intro h2
  obtain ⟨y, hyl, hw2, hne, _⟩ := C.toClose_mem w h2
  have hy := C.bound y hyl
  by_cases hxy : x = y
  · subst hxy
    exact C.watch_ne_entry_init x hxl w hw hw2 hne
  · exact C.allOf_disj x y hx hy hxy w (Or.inl (Or.inl hw)) (C.init_allOf y hyl w hw2 hne)

end StoreCtx

theorem CI_storeCommit {st : State} {cs : List Bool} {tid : Nat} {th : Thread} {c : Bool} {rest : List Micro}
    (S : At st cs tid th c (.act .storeRoot) rest .sr) (hsim : Sim (install st tid th) cs)
    (hstrip : strip2 rest = code2 (lockList th) c .rR) :
    StepCI st { st with root := th.newRoot, nextChan := st.nextChan + 1 } cs tid th { th with prog := rest } c := by
  obtain ⟨hct, hseen, hwr, hcur, hci, htc⟩ := S.loc
  subst hct
  have hCI := S.ci
  have hb := S.bound
  have hown_old := S.own
  have hc := S.flag
  have tr := tracked_of_pos th _ true _ S.pos
  have tr' := tracked_of_pos { th with prog := rest } _ true _ hstrip
  have huw : Micro.userWrites ∉ th.prog := fun h => by have := tr.userWrites.1 h; simp [uwIn] at this
  have hsr : Micro.act .storeRoot ∈ th.prog := by rw [S.prog]; simp
  have hsr' : Micro.act .storeRoot ∉ rest := fun h => by have := tr'.storeRoot.1 h; simp [srIn] at this
  have hnt' : Micro.act .notify ∈ rest := tr'.notify.2 rfl
  have hcl' : Micro.act .closeInit ∈ rest := tr'.closeInit.2 rfl
  have hfp : freshPhase th true := ⟨huw, Or.inr hsr⟩
  have pf : ∀ w, fresh th w → priv th true w := fun w hw => Or.inl ⟨hfp, hw⟩
  have cRC : ∀ w, rootChan st.root w → w ∉ st.closed := hCI.RC
  have cPR : ∀ w, priv th true w → ¬ rootChan st.root w := fun w hw => hCI.PR tid th true w hown_old hc hw
  have cPC : ∀ w, priv th true w → w ∉ st.closed := fun w hw => hCI.PC tid th true w hown_old hc hw
  have C : StoreCtx st.root th :=
    ⟨hseen, hwr, hcur, hci, htc, hb, hCI.rootOK, fun w hw => cPR w (pf w hw),
      fun x hx y hy hxy w fx fy => hCI.FIc tid th true hown_old hc hfp x hx y hy hxy w fx fy⟩
  have hlen : th.newRoot.length = st.root.length := C.newRoot_len
  have p' : ∀ w, priv { th with prog := rest } true w → w ∈ th.toNotify ∨ w ∈ th.initToClose := by
    intro w hw
    rcases hw with ⟨⟨_, h2⟩, _⟩ | ⟨_, _, _, h4⟩ | ⟨_, _, _, h4⟩
    · rcases h2 with h2 | h2
      · simp at h2
      · exact absurd h2 hsr'
    · exact Or.inl h4
    · exact Or.inr h4
  have newChan : ∀ w, rootChan th.newRoot w → rootChan st.root w ∨ priv th true w := by
    intro w ⟨x, hx, hw⟩
    rw [hlen] at hx
    rcases StoreCtx.allOf_cases x hx w (C.newRoot_chans x hx w hw) with h | h
    · exact Or.inl h
    · exact Or.inr (pf w h)
  have privOld : ∀ w, w ∈ th.toNotify ∨ w ∈ th.initToClose → rootChan st.root w ∨ priv th true w := by
    intro w hw
    rcases hw with hw | hw
    · obtain ⟨x, hxl, hx⟩ := C.toNotify_mem w hw
      exact Or.inl ⟨x, hb x hxl, Or.inl hx⟩
    · obtain ⟨x, hxl, h1, h2, _⟩ := C.toClose_mem w hw
      rcases StoreCtx.allOf_cases x (hb x hxl) w (C.init_allOf x hxl w h1 h2) with h | h
      · exact Or.inl h
      · exact Or.inr (pf w h)
  have hheld : ∀ x ∈ lockList th, Micro.release x ∈ th.prog ∧ Micro.acquire x ∉ th.prog :=
    held_of_pos th _ true .sr S.pos
  have hmuB := rootHeld_of_pos th _ true .sr S.pos rfl
  refine ⟨?_, .commit rfl rfl hsr hsr' huw hlen hheld (fun x hx =>
      ⟨fun hxl => ⟨C.old_eq x hxl, C.entry x hxl, C.newRoot_in x hxl⟩, C.newRoot_out x hx⟩) (by rw [S.prog]; rfl),
    S.pop th.result⟩
  refine CI_update st _ cs tid th _ true hCI S.lt hc rfl (Nat.le_succ _) (by show _ ≤ th.newRoot.length; omega)
    (fun w hw => (newChan w hw).imp id Or.inl) (fun w hw => Or.inl hw) (fun w hw => (privOld w (p' w hw)).imp id Or.inl)
    (fun w hw => (newChan w hw).elim (cRC w) (cPC w)) (fun w hw => (privOld w (p' w hw)).elim (cRC w) (cPC w))
    (fun w hw => (p' w hw).elim (C.toNotify_not_new w) (C.toClose_not_new w)) ⟨?_, ?_, ?_, ?_⟩ ?_ ?_ (S.pop th.result) ?_ ?_
  · intro x y hx hy hxy w cx cy
    dsimp only at hx hy cx cy
    rw [hlen] at hx hy
    exact C.allOf_disj x y hx hy hxy w (C.newRoot_chans x hx w cx) (C.newRoot_chans y hy w cy)
  · intro x hx hne
    dsimp only at hx hne ⊢
    rw [hlen] at hx
    by_cases hxl : x ∈ lockList th
    · rw [C.newRoot_in x hxl] at hne ⊢
      have hi := clr_initWatch _ hne
      rw [clr_watch, hi]
      exact C.entry_watch_ne_init x hxl (hi ▸ hne)
    · rw [C.newRoot_out x hx hxl] at hne ⊢
      exact C.rootOK.RW x hx hne
  · intro x hx
    dsimp only at hx ⊢
    rw [hlen] at hx
    rcases C.newRoot_cases x hx with ⟨n, e⟩ | e <;> rw [e]
    · exact clr_uwEntry_IP _ _ _ _ (C.rootOK.IP x hx)
    · exact C.rootOK.IP x hx
  · intro x hx
    dsimp only at hx ⊢
    rw [hlen] at hx
    rcases C.newRoot_cases x hx with ⟨n, e⟩ | e <;> rw [e]
    · rw [clr_uwEntry_rev, clr_uwEntry_cnt, C.rootOK.RV x hx]
    · exact C.rootOK.RV x hx
  · intro ⟨_, h2⟩
    rcases h2 with h2 | h2
    · simp at h2
    · exact absurd h2 hsr'
  · intro w hw hn; exact absurd hw hn
  · exact S.ok rfl rfl (by show _ ≤ th.newRoot.length; omega) hstrip
      ⟨rfl, hwr, ⟨htc, C.toNotify_not_toClose⟩, fun x hx => C.newRoot_in x hx⟩
  · intro j thj cj p hj hthj hcj hpj hlj
    have hold := (install_other st tid th S.lt hj).trans hthj
    obtain ⟨cj', hcj', hbj, _⟩ := hCI.TH j thj hold
    exact store_frame st cs tid th _ _ hsim S.lt hmuB hheld
      (fun x hx hxl => C.newRoot_out x hx hxl) j thj cj p hj hthj hbj hpj hlj

end Sdb.Conc
