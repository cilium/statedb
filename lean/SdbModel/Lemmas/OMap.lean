import SdbModel.Model.Table
import SdbModel.Lemmas.Enc

/-!
  `Tbl.OMap` is an association list; under `OMap.Sorted` (keys strictly ascending for `cmpL`, the total order
  on byte lists of Lemmas/Enc) it obeys the finite-map laws and membership is `get`.
-/
namespace Sdb

namespace Tbl.OMap
variable {α : Type}

def Sorted (m : OMap α) : Prop := m.Pairwise fun a b => cmpL a.1 b.1 = .lt

theorem sorted_nil : Sorted ([] : OMap α) := List.Pairwise.nil

theorem sorted_cons {k : Key} {v : α} {r : OMap α} :
    Sorted ((k, v) :: r) ↔ (∀ e ∈ r, cmpL k e.1 = .lt) ∧ Sorted r := by
  unfold Sorted; exact List.pairwise_cons

@[simp] theorem get_nil (k : Key) : get ([] : OMap α) k = none := rfl

theorem get_cons (k' : Key) (v : α) (r : OMap α) (k : Key) :
    get ((k', v) :: r) k = match cmpL k' k with
      | .eq => some v
      | .lt => get r k
      | .gt => none := rfl

theorem get_none_of_all_gt (m : OMap α) (k : Key) (h : ∀ e ∈ m, cmpL k e.1 = .lt) : get m k = none := by
  cases m with
  | nil => rfl
  | cons e r =>
    obtain ⟨k', v⟩ := e
    have := h (k', v) (List.mem_cons_self ..)
    rw [get_cons, (cmpL_lt_iff_gt k k').mp this]

theorem get_some_mem (m : OMap α) (k : Key) (v : α) (h : get m k = some v) : (k, v) ∈ m := by
  induction m with
  | nil => simp at h
  | cons e r ih =>
    obtain ⟨k', v'⟩ := e
    rw [get_cons] at h
    split at h
    · rename_i hc
      have := (cmpL_eq_iff k' k).mp hc
      simp only [Option.some.injEq] at h
      subst this; subst h
      exact List.mem_cons_self ..
    · exact List.mem_cons_of_mem _ (ih h)
    · simp at h

theorem mem_get_some (m : OMap α) (hs : Sorted m) (k : Key) (v : α) (h : (k, v) ∈ m) : get m k = some v := by
  induction m with
  | nil => simp at h
  | cons e r ih =>
    obtain ⟨k', v'⟩ := e
    have ⟨hall, hr⟩ := sorted_cons.mp hs
    rw [get_cons]
    rcases List.mem_cons.mp h with h | h
    · simp only [Prod.mk.injEq] at h
      obtain ⟨h1, h2⟩ := h
      subst h1; subst h2
      rw [cmpL_refl]
    · have := hall _ h
      simp only at this
      rw [this]
      exact ih hr h

theorem mem_iff_get (m : OMap α) (hs : Sorted m) (k : Key) (v : α) : (k, v) ∈ m ↔ get m k = some v :=
  ⟨mem_get_some m hs k v, get_some_mem m k v⟩

theorem get_none_iff (m : OMap α) (hs : Sorted m) (k : Key) : get m k = none ↔ ∀ v, (k, v) ∉ m := by
  constructor
  · intro h v hv
    rw [mem_get_some m hs k v hv] at h; simp at h
  · intro h
    cases hg : get m k with
    | none => rfl
    | some v => exact absurd (get_some_mem m k v hg) (h v)

theorem sorted_unique (m : OMap α) (hs : Sorted m) (k : Key) (v w : α) (h1 : (k, v) ∈ m) (h2 : (k, w) ∈ m) : v = w := by
  have a := mem_get_some m hs k v h1
  have b := mem_get_some m hs k w h2
  rw [a] at b; simpa using b

theorem eq_nil_of_get_none (m : OMap α) (h : ∀ k, get m k = none) : m = [] := by
  cases m with
  | nil => rfl
  | cons e r =>
    obtain ⟨k, v⟩ := e
    have := h k
    rw [get_cons, cmpL_refl] at this
    simp at this

/-- equal lookups give the same entries, and a sorted list is determined by its entries -/
theorem ext_get (m n : OMap α) (hm : Sorted m) (hn : Sorted n) (h : ∀ k, get m k = get n k) : m = n :=
  ascending_ext Prod.fst m n hm hn fun e => by
    obtain ⟨k, v⟩ := e
    rw [mem_iff_get m hm, mem_iff_get n hn, h]

theorem get_insert_self (m : OMap α) (k : Key) (v : α) : get (insert m k v) k = some v := by
  induction m with
  | nil => simp [insert, get_cons, cmpL_refl]
  | cons e r ih =>
    obtain ⟨k', v'⟩ := e
    unfold insert
    split
    · rw [get_cons, cmpL_refl]
    · rename_i hc; rw [get_cons, hc]; exact ih
    · rw [get_cons, cmpL_refl]

theorem get_insert_other (m : OMap α) (k k2 : Key) (v : α) (hne : k2 ≠ k) : get (insert m k v) k2 = get m k2 := by
  have hne' : cmpL k k2 ≠ .eq := fun h => hne ((cmpL_eq_iff k k2).mp h).symm
  -- a new first entry `(k, v)` does not change what is found under `k2`, provided `k2` is absent when `k2 < k`
  have front : ∀ r : OMap α, (cmpL k k2 = .gt → get r k2 = none) → get ((k, v) :: r) k2 = get r k2 := by
    intro r hr
    rw [get_cons]
    cases hc : cmpL k k2 with
    | eq => exact absurd hc hne'
    | lt => rfl
    | gt => exact (hr hc).symm
  induction m with
  | nil => exact front [] fun _ => rfl
  | cons e r ih =>
    obtain ⟨k', v'⟩ := e
    unfold insert
    split
    · rename_i hc
      have := (cmpL_eq_iff k' k).mp hc
      subst this
      rw [get_cons k', get_cons k']
      cases hc2 : cmpL k' k2 with
      | eq => exact absurd hc2 hne'
      | lt => rfl
      | gt => rfl
    · rw [get_cons, get_cons (k' := k'), ih]
    · rename_i hc
      refine front _ fun hgt => ?_
      have : cmpL k2 k' = .lt := cmpL_lt_trans _ _ _ ((cmpL_gt_iff_lt k k2).mp hgt) ((cmpL_gt_iff_lt k' k).mp hc)
      rw [get_cons, (cmpL_lt_iff_gt k2 k').mp this]

theorem get_insert (m : OMap α) (k k2 : Key) (v : α) :
    get (insert m k v) k2 = if k2 = k then some v else get m k2 := by
  by_cases h : k2 = k
  · subst h; simp [get_insert_self]
  · simp [h, get_insert_other m k k2 v h]

theorem mem_insert_imp (m : OMap α) (k : Key) (v : α) (e : Key × α) (h : e ∈ insert m k v) :
    e = (k, v) ∨ e ∈ m := by
  induction m with
  | nil => simp [insert] at h; exact Or.inl h
  | cons e' r ih =>
    obtain ⟨k', v'⟩ := e'
    unfold insert at h
    split at h
    · rcases List.mem_cons.mp h with h | h
      · exact Or.inl h
      · exact Or.inr (List.mem_cons_of_mem _ h)
    · rcases List.mem_cons.mp h with h | h
      · exact Or.inr (h ▸ List.mem_cons_self ..)
      · rcases ih h with h | h
        · exact Or.inl h
        · exact Or.inr (List.mem_cons_of_mem _ h)
    · rcases List.mem_cons.mp h with h | h
      · exact Or.inl h
      · exact Or.inr h

theorem sorted_insert (m : OMap α) (hs : Sorted m) (k : Key) (v : α) : Sorted (insert m k v) := by
  induction m with
  | nil => exact sorted_cons.mpr ⟨by simp, sorted_nil⟩
  | cons e r ih =>
    obtain ⟨k', v'⟩ := e
    have ⟨ha, hr⟩ := sorted_cons.mp hs
    unfold insert
    split
    · rename_i hc
      have := (cmpL_eq_iff k' k).mp hc
      subst this
      exact sorted_cons.mpr ⟨ha, hr⟩
    · rename_i hc
      refine sorted_cons.mpr ⟨?_, ih hr⟩
      intro e he
      rcases mem_insert_imp r k v e he with h | h
      · subst h; exact hc
      · exact ha e h
    · rename_i hc
      have hkk' : cmpL k k' = .lt := (cmpL_gt_iff_lt k' k).mp hc
      refine sorted_cons.mpr ⟨?_, hs⟩
      intro e he
      rcases List.mem_cons.mp he with h | h
      · subst h; exact hkk'
      · exact cmpL_lt_trans _ _ _ hkk' (ha e h)

theorem mem_insert_iff (m : OMap α) (hs : Sorted m) (k : Key) (v : α) (k2 : Key) (w : α) :
    (k2, w) ∈ insert m k v ↔ (k2 = k ∧ w = v) ∨ (k2 ≠ k ∧ (k2, w) ∈ m) := by
  rw [mem_iff_get _ (sorted_insert m hs k v), get_insert, mem_iff_get m hs]
  by_cases h : k2 = k
  · simp [h]; exact eq_comm
  · simp [h]

theorem erase_cons (k' : Key) (v' : α) (r : OMap α) (k : Key) :
    erase ((k', v') :: r) k = match cmpL k' k with
      | .eq => r
      | .lt => (k', v') :: erase r k
      | .gt => (k', v') :: r := rfl

theorem mem_erase_imp (m : OMap α) (k : Key) (e : Key × α) (h : e ∈ erase m k) : e ∈ m := by
  induction m with
  | nil => simp [erase] at h
  | cons e' r ih =>
    obtain ⟨k', v'⟩ := e'
    unfold erase at h
    split at h
    · exact List.mem_cons_of_mem _ h
    · rcases List.mem_cons.mp h with h | h
      · exact h ▸ List.mem_cons_self ..
      · exact List.mem_cons_of_mem _ (ih h)
    · exact h

theorem sorted_erase (m : OMap α) (hs : Sorted m) (k : Key) : Sorted (erase m k) := by
  induction m with
  | nil => exact sorted_nil
  | cons e r ih =>
    obtain ⟨k', v'⟩ := e
    have ⟨ha, hr⟩ := sorted_cons.mp hs
    unfold erase
    split
    · exact hr
    · exact sorted_cons.mpr ⟨fun e he => ha e (mem_erase_imp r k e he), ih hr⟩
    · exact hs

theorem get_erase_self (m : OMap α) (hs : Sorted m) (k : Key) : get (erase m k) k = none := by
  induction m with
  | nil => rfl
  | cons e r ih =>
    obtain ⟨k', v'⟩ := e
    have ⟨ha, hr⟩ := sorted_cons.mp hs
    unfold erase
    split
    · rename_i hc
      have := (cmpL_eq_iff k' k).mp hc
      subst this
      exact get_none_of_all_gt r k' ha
    · rename_i hc; rw [get_cons, hc]; exact ih hr
    · rename_i hc; rw [get_cons, hc]

theorem get_erase_other (m : OMap α) (hs : Sorted m) (k k2 : Key) (hne : k2 ≠ k) : get (erase m k) k2 = get m k2 := by
  induction m with
  | nil => rfl
  | cons e r ih =>
    obtain ⟨k', v'⟩ := e
    have ⟨ha, hr⟩ := sorted_cons.mp hs
    unfold erase
    split
    · rename_i hc
      have := (cmpL_eq_iff k' k).mp hc
      subst this
      rw [get_cons]
      cases hc2 : cmpL k' k2 with
      | eq => exact absurd ((cmpL_eq_iff k' k2).mp hc2).symm hne
      | lt => rfl
      | gt =>
        have hx : cmpL k2 k' = .lt := (cmpL_gt_iff_lt k' k2).mp hc2
        exact get_none_of_all_gt r k2 (fun e he => cmpL_lt_trans _ _ _ hx (ha e he))
    · rw [get_cons, get_cons (k' := k')]
      cases hc2 : cmpL k' k2 <;> simp [ih hr]
    · rfl

theorem get_erase (m : OMap α) (hs : Sorted m) (k k2 : Key) :
    get (erase m k) k2 = if k2 = k then none else get m k2 := by
  by_cases h : k2 = k
  · subst h; simp [get_erase_self m hs]
  · simp [h, get_erase_other m hs k k2 h]

theorem erase_absent (m : OMap α) (hs : Sorted m) (k : Key) (h : get m k = none) : erase m k = m := by
  apply ext_get _ _ (sorted_erase m hs k) hs
  intro x
  rw [get_erase m hs]
  by_cases hx : x = k
  · subst hx; simp [h]
  · simp [hx]

theorem insert_erase (m : OMap α) (hs : Sorted m) (k : Key) (v : α) : insert (erase m k) k v = insert m k v :=
  ext_get _ _ (sorted_insert _ (sorted_erase m hs k) k v) (sorted_insert m hs k v) fun x => by
    rw [get_insert, get_insert, get_erase m hs]; split <;> rfl

theorem mem_erase_iff (m : OMap α) (hs : Sorted m) (k : Key) (k2 : Key) (w : α) :
    (k2, w) ∈ erase m k ↔ k2 ≠ k ∧ (k2, w) ∈ m := by
  rw [mem_iff_get _ (sorted_erase m hs k), get_erase m hs, mem_iff_get m hs]
  by_cases h : k2 = k <;> simp [h]

theorem Sorted.values_ordered {m : OMap α} (hs : Sorted m) (key : α → Key) (hk : ∀ k v, (k, v) ∈ m → k = key v) :
    (m.map (·.2)).Pairwise fun a b => cmpL (key a) (key b) = .lt := by
  rw [List.pairwise_map]
  refine List.Pairwise.imp_of_mem (fun {a b} ha hb hlt => ?_) hs
  rw [← hk a.1 a.2 ha, ← hk b.1 b.2 hb]; exact hlt

theorem Sorted.values_nodup {m : OMap α} (hs : Sorted m) (key : α → Key) (hk : ∀ k v, (k, v) ∈ m → k = key v) :
    (m.map (·.2)).Nodup := by
  refine (hs.values_ordered key hk).imp fun {a b} h e => ?_
  rw [e] at h
  exact cmpL_lt_irrefl _ h

theorem length_insert (m : OMap α) (k : Key) (v : α) :
    (insert m k v).length = if (get m k).isSome then m.length else m.length + 1 := by
  induction m with
  | nil => rfl
  | cons e r ih =>
    obtain ⟨k', v'⟩ := e
    unfold insert
    rw [get_cons]
    cases cmpL k' k with
    | eq => rfl
    | lt => simp only [List.length_cons, ih]; split <;> rfl
    | gt => rfl

theorem length_erase (m : OMap α) (k : Key) :
    (erase m k).length = if (get m k).isSome then m.length - 1 else m.length := by
  induction m with
  | nil => rfl
  | cons e r ih =>
    obtain ⟨k', v'⟩ := e
    rw [erase_cons, get_cons]
    cases cmpL k' k with
    | eq => rfl
    | lt =>
      simp only [List.length_cons, ih]
      split
      · -- a map that holds `k` is not empty
        rename_i h
        cases r with
        | nil => cases h
        | cons _ _ => rfl
      · rfl
    | gt => rfl

theorem length_erase_of_mem {m : OMap α} (hs : Sorted m) {k : Key} {v : α} (h : (k, v) ∈ m) :
    (erase m k).length + 1 = m.length := by
  rw [length_erase, mem_get_some m hs k v h]
  exact Nat.sub_add_cancel (List.length_pos_of_mem h)

theorem sorted_filter (m : OMap α) (hs : Sorted m) (p : Key × α → Bool) : Sorted (m.filter p) :=
  List.Pairwise.filter p hs

theorem prefixQ_sublist (m : OMap α) (p : Key) : List.Sublist (prefixQ m p) m := List.filter_sublist

theorem sorted_prefixQ (m : OMap α) (hs : Sorted m) (p : Key) : Sorted (prefixQ m p) := sorted_filter m hs _

theorem mem_prefixQ (m : OMap α) (p : Key) (k : Key) (v : α) :
    (k, v) ∈ prefixQ m p ↔ (k, v) ∈ m ∧ p <+: k := by
  unfold prefixQ
  rw [List.mem_filter]
  simp only [hasPrefix_iff]

theorem lowerBound_sublist (m : OMap α) (k : Key) : List.Sublist (lowerBound m k) m := List.filter_sublist

theorem sorted_lowerBound (m : OMap α) (hs : Sorted m) (k : Key) : Sorted (lowerBound m k) := sorted_filter m hs _

theorem mem_lowerBound (m : OMap α) (b : Key) (k : Key) (v : α) :
    (k, v) ∈ lowerBound m b ↔ (k, v) ∈ m ∧ cmpL k b ≠ .lt := by
  unfold lowerBound
  rw [List.mem_filter]
  simp

theorem lowerBound_eq_dropWhile (m : OMap α) (hs : Sorted m) (b : Key) :
    lowerBound m b = m.dropWhile fun e => cmpL e.1 b == .lt := by
  induction m with
  | nil => rfl
  | cons e r ih =>
    obtain ⟨k, v⟩ := e
    have ⟨ha, hr⟩ := sorted_cons.mp hs
    unfold lowerBound at ih ⊢
    rw [List.filter_cons, List.dropWhile_cons]
    by_cases hc : cmpL k b = .lt
    · simp only [hc, bne_self_eq_false, Bool.false_eq_true, if_false, beq_self_eq_true, if_true]
      exact ih hr
    · have h1 : (cmpL k b != .lt) = true := by simp [hc]
      have h2 : (cmpL k b == .lt) = false := by simp [hc]
      simp only [h1, h2, if_true, Bool.false_eq_true, if_false]
      congr 1
      rw [List.filter_eq_self]
      intro e he
      have hke := ha e he
      have : cmpL e.1 b ≠ .lt := fun hx => hc (cmpL_lt_trans _ _ _ hke hx)
      simp [this]

/-- what a write does to the primary index, and all that the `write` lemmas of the other indexes ask of it -/
def Updated (m : OMap α) (id : Key) (new : Option α) (m' : OMap α) : Prop :=
  ∀ k, get m' k = if k = id then new else get m k

theorem Updated.insert (m : OMap α) (id : Key) (v : α) : Updated m id (some v) (insert m id v) :=
  fun k => get_insert m id k v

theorem Updated.erase {m : OMap α} (hs : Sorted m) (id : Key) : Updated m id none (erase m id) :=
  fun k => get_erase m hs id k

end Tbl.OMap
end Sdb
