import SdbModel.Lemmas.ReconcilerProgressReach

/-!
  A retry item can only disappear or change together with a call on the target for its object
  (`Tr`); hence, once the loop is idle at a time later than every retry time, every queued retry
  has run.
-/
namespace Sdb.Rec

/-- `Tr` inside a round that began in `v0`; every result waiting for its commit has its call in the
    log too -/
def TM (v0 v : V) (rs : List Res) : Prop :=
  ∃ L, v.log = v0.log ++ L ∧ (∀ it ∈ v0.items, it ∈ v.items ∨ ∃ c ∈ L, c.id = it.id) ∧ (∀ res ∈ rs, ∃ c ∈ L, c.id = res.1.id)

theorem TM.refl (v : V) : TM v v [] := ⟨[], by simp, fun it hit => Or.inl hit, fun res hr => by cases hr⟩

theorem TM.congr {v0 v v' : V} {rs : List Res} (h : TM v0 v rs) (h1 : v'.log = v.log) (h2 : v'.items = v.items) : TM v0 v' rs := by
  obtain ⟨L, a, b, c⟩ := h
  exact ⟨L, by rw [h1]; exact a, by rw [h2]; exact b, c⟩

theorem TM.attempt {v0 v v' : V} {rs : List Res} (h : TM v0 v rs) (o : RObj) (rev : Nat) (d f : Bool)
    (hlog : v'.log = v.log ++ [⟨if d then "D" else "U", o.id, o.data, !f⟩])
    (hitems : ∀ it ∈ v.items, it.id ≠ o.id → it ∈ v'.items) : TM v0 v' (rs ++ resOf o rev d f) := by
  obtain ⟨L, a, b, c⟩ := h
  refine ⟨L ++ [⟨if d then "D" else "U", o.id, o.data, !f⟩], by rw [hlog, a, List.append_assoc], fun it hit => ?_, fun res hr => ?_⟩
  · rcases b it hit with hm | ⟨c', hc', e⟩
    · by_cases hid : it.id = o.id
      · exact Or.inr ⟨_, List.mem_append_right _ (List.mem_singleton.2 rfl), hid.symm⟩
      · exact Or.inl (hitems it hm hid)
    · exact Or.inr ⟨c', List.mem_append_left _ hc', e⟩
  · rcases List.mem_append.1 hr with hr | hr
    · obtain ⟨c', hc', e⟩ := c res hr
      exact ⟨c', List.mem_append_left _ hc', e⟩
    · exact ⟨_, List.mem_append_right _ (List.mem_singleton.2 rfl), by rw [(mem_resOf.1 hr).2]⟩

theorem tm_consume (v0 : V) : ConsumeSteps fun v rs _ _ => TM v0 v rs where
  skip _ _ _ _ _ _ _ _ hk := hk.congr rfl rfl
  upd r c cs _ _ _ _ _ hk := by
    refine hk.attempt c.obj c.rev false _ (single_log ..) fun it hit hne => ?_
    exact mem_single_of_ne ((mem_clear_items { r.v with itRev := c.rev } ..).2 ⟨hit, hne⟩) hne ..
  del r c cs _ _ _ _ hk := by
    have := hk.attempt (v' := (({ r.v with itDelRev := c.rev } : V).clear c.obj.id).single c.obj c.rev true (r.isFailing c.obj.id))
      c.obj c.rev true (r.isFailing c.obj.id) (single_log ..)
      (fun it hit hne => mem_single_of_ne ((mem_clear_items { r.v with itDelRev := c.rev } ..).2 ⟨hit, hne⟩) hne ..)
    simpa [resOf] using this

theorem tm_retry (v0 : V) : RetryStep (TM v0) where
  step _ h hd hq := hq.attempt h.obj h.rev h.delete _ (single_log ..) fun _ hit hne =>
    mem_single_other hit (hd.objId ▸ hne) h.obj hd.objId h.rev _ _

theorem tm_commit (v0 : V) : CommitSteps (TM v0) where
  drop _ _ _ hq := by
    obtain ⟨L, a, b, c⟩ := hq
    exact ⟨L, a, b, fun x hx => c x (List.mem_cons_of_mem _ hx)⟩
  write r res rs _ hc hq := by
    obtain ⟨L, a, b, c⟩ := hq
    have horig := (hc.inv.resOK res (List.mem_cons_self ..)).orig_id
    refine ⟨L, by rw [commit_log]; exact a, fun it hit => ?_, fun x hx => c x (List.mem_cons_of_mem _ hx)⟩
    rcases b it hit with hm | hc
    · by_cases hid : it.id = res.2.1.id
      · obtain ⟨c', hc', e⟩ := c res (List.mem_cons_self ..)
        exact Or.inr ⟨c', hc', e.trans (horig.symm.trans hid.symm)⟩
      · exact Or.inl ((mem_commit_items ..).2 (Or.inl ⟨hm, fun _ => hid⟩))
    · exact Or.inr hc

/-- between rounds: every retry item of `r` is still there, unchanged, or a call for its object
    was logged -/
def Tr (r r' : R) : Prop := ∃ L, r'.log = r.log ++ L ∧ ∀ it ∈ r.items, it ∈ r'.items ∨ ∃ c ∈ L, c.id = it.id

theorem Tr.refl (r : R) : Tr r r := ⟨[], by simp, fun it hit => Or.inl hit⟩

theorem Tr.trans {a b c : R} (h1 : Tr a b) (h2 : Tr b c) : Tr a c := by
  obtain ⟨L1, e1, f1⟩ := h1
  obtain ⟨L2, e2, f2⟩ := h2
  refine ⟨L1 ++ L2, by rw [e2, e1, List.append_assoc], fun it hit => ?_⟩
  rcases f1 it hit with hm | ⟨c', hc', e⟩
  · rcases f2 it hm with hm' | ⟨c', hc', e⟩
    · exact Or.inl hm'
    · exact Or.inr ⟨c', List.mem_append_right _ hc', e⟩
  · exact Or.inr ⟨c', List.mem_append_left _ hc', e⟩

theorem Tr.of_eq {r r' : R} (h1 : r'.log = r.log) (h2 : r'.items = r.items) : Tr r r' :=
  ⟨[], by simp [h1], fun it hit => Or.inl (by rw [h2]; exact hit)⟩

theorem Tr.round {r : R} (hr : RInv r) : Tr r r.round := by
  obtain ⟨L, a, b, _⟩ := (tail_ind (tm_commit r.v) (tm_retry r.v) hr.single_mid (round_ind (tm_consume r.v) hr (TM.refl r.v))).at6
  rw [v_log, ← round_log] at a
  simp only [v_items, ← round_items] at b
  exact ⟨L, a, b⟩

theorem Tr.quiesce {r : R} (hr : RInv r) (fuel : Nat) : Tr r (r.quiesce fuel) :=
  (quiesce_ind (P := fun x => RInv x ∧ Tr r x)
    (fun x h => ⟨h.1.fireTimer, h.2.trans (Tr.of_eq (congrArg V.log (fireTimer_v x)) (congrArg V.items (fireTimer_v x)))⟩)
    (fun _ h => ⟨h.1.round, h.2.trans (Tr.round h.1)⟩) ⟨hr, Tr.refl r⟩ fuel).2

theorem Tr.advance {r : R} (hr : RInv r) (ms fuel : Nat) : Tr r (r.advance ms fuel) :=
  (advance_ind (P := fun x => RInv x ∧ Tr r x) (fun _ t _ h => ⟨h.1.setNow t, h.2.trans (Tr.of_eq rfl rfl)⟩)
    (fun _ fuel h => ⟨h.1.quiesce fuel, h.2.trans (Tr.quiesce h.1 fuel)⟩) ⟨hr, Tr.refl r⟩ ms fuel).2

theorem WInv.idle_not_due {r : R} (h : WInv r) (hidle : r.triggered = false) : ∀ it ∈ r.items, r.now < it.retryAt := by
  have hi := not_triggered hidle
  intro it hit
  rcases h.q.timerBy it hit (h.rinv.items_queued it hit) with a | ⟨u, a, b⟩
  · exact absurd a hi.notFired
  · have := hi.armedLater u a
    omega

theorem retried_within_max {r : R} (h : WInv r) (ms fuel : Nat) (hms : r.cfg.maxB < ms)
    (hidle : (r.advance ms fuel).triggered = false) :
    ∃ L, (r.advance ms fuel).log = r.log ++ L ∧ ∀ it ∈ r.items, ∃ c ∈ L, c.id = it.id := by
  obtain ⟨L, e, f⟩ := Tr.advance h.rinv ms fuel
  refine ⟨L, e, fun it hit => ?_⟩
  rcases f it hit with hm | hc
  · have h1 := (h.advance ms fuel).idle_not_due hidle it hm
    have h2 := h.q.times it hit
    rw [(h.advance_frame ms fuel).1] at h1
    omega
  · exact hc

end Sdb.Rec
