import SdbModel.Lemmas.ArtWF
import SdbModel.Lemmas.OMap

/-! The reference ordered map of C11: a strictly `cmpL`-ascending association list with `sinsert` / `sdelete` / `look`.
    It is `Tbl.OMap Nat` under other names: the laws of insertion, deletion and length come from `Lemmas/OMap`, except
    `look_sinsert` / `look_sdelete`, which hold of any list (`Tbl.OMap.get` agrees with `look` on sorted lists only).
    `entries` of a well-formed tree is such a list, and two such lists with the same members are equal. -/
namespace Sdb.Art

theorem ne_of_cmpL_gt {k a : List Nat} (h : cmpL k a = .gt) : a ≠ k := fun e => by
  rw [e, cmpL_refl] at h; exact nomatch h

theorem cmpL_prefix_lt (x : List Nat) (c : Nat) (t : List Nat) : cmpL x (x ++ c :: t) = .lt := by
  have := cmpL_append_left x [] (c :: t)
  simpa using this

def KLt (a b : List Nat × Nat) : Prop := cmpL a.1 b.1 = .lt

def Sorted (l : List (List Nat × Nat)) : Prop := l.Pairwise KLt

theorem sorted_ext (l₁ l₂ : List (List Nat × Nat)) (h₁ : Sorted l₁) (h₂ : Sorted l₂)
    (h : ∀ e, e ∈ l₁ ↔ e ∈ l₂) : l₁ = l₂ :=
  ascending_ext Prod.fst l₁ l₂ h₁ h₂ h

def sinsert : List (List Nat × Nat) → List Nat → Nat → List (List Nat × Nat)
  | [], k, v => [(k, v)]
  | (a, x) :: r, k, v =>
    match cmpL k a with
    | .lt => (k, v) :: (a, x) :: r
    | .eq => (k, v) :: r
    | .gt => (a, x) :: sinsert r k v

def sdelete (l : List (List Nat × Nat)) (k : List Nat) : List (List Nat × Nat) :=
  l.filter (fun e => decide (e.1 ≠ k))

/-! The dictionary: `Sorted` is `OMap.Sorted` by definition, `sinsert` is `OMap.insert` (`cmpL` taken the other way
round), and on sorted lists `look` is `OMap.get` and `sdelete` is `OMap.erase`. -/

theorem sinsert_eq_insert (l : List (List Nat × Nat)) (k : List Nat) (v : Nat) :
    sinsert l k v = Tbl.OMap.insert l k v := by
  induction l with
  | nil => rfl
  | cons x r ih =>
    obtain ⟨a, w⟩ := x
    rw [sinsert, Tbl.OMap.insert, cmpL_swap k a]
    cases cmpL k a with
    | lt => rfl
    | eq => rfl
    | gt => exact congrArg ((a, w) :: ·) ih

theorem look_eq_get (l : List (List Nat × Nat)) (h : Sorted l) (k : List Nat) : look l k = Tbl.OMap.get l k := by
  induction l with
  | nil => rfl
  | cons x r ih =>
    obtain ⟨a, w⟩ := x
    rw [look_cons, Tbl.OMap.get_cons]
    have hne : cmpL a k ≠ .eq → a ≠ k := fun hc e => hc (e ▸ cmpL_refl a)
    cases hc : cmpL a k with
    | eq => exact if_pos ((cmpL_eq_iff a k).mp hc)
    | lt => rw [if_neg (hne (by rw [hc]; decide))]; exact ih (List.pairwise_cons.mp h).2
    | gt =>
      rw [if_neg (hne (by rw [hc]; decide))]
      -- the keys of `r` lie above `a`, which lies above `k`
      refine (look_eq_none_iff r k).mpr fun e he eq => cmpL_lt_irrefl k ?_
      have := cmpL_lt_trans k a e.1 ((cmpL_gt_iff_lt a k).mp hc) ((List.pairwise_cons.mp h).1 e he)
      rwa [eq] at this

theorem mem_iff_look (l : List (List Nat × Nat)) (h : Sorted l) (k : List Nat) (v : Nat) :
    (k, v) ∈ l ↔ look l k = some v :=
  look_eq_get l h k ▸ Tbl.OMap.mem_iff_get l h k v

theorem sdelete_eq_erase (l : List (List Nat × Nat)) (h : Sorted l) (k : List Nat) :
    sdelete l k = Tbl.OMap.erase l k :=
  sorted_ext _ _ (List.Pairwise.filter _ h) (Tbl.OMap.sorted_erase l h k) fun ⟨k2, w⟩ => by
    rw [Tbl.OMap.mem_erase_iff l h, sdelete, List.mem_filter, decide_eq_true_eq, and_comm]

theorem mem_sinsert (l : List (List Nat × Nat)) (h : Sorted l) (k : List Nat) (v : Nat) (e : List Nat × Nat) :
    e ∈ sinsert l k v ↔ e = (k, v) ∨ (e.1 ≠ k ∧ e ∈ l) := by
  obtain ⟨k2, w⟩ := e
  rw [sinsert_eq_insert, Tbl.OMap.mem_insert_iff l h, Prod.mk.injEq]

theorem sinsert_sorted (l : List (List Nat × Nat)) (h : Sorted l) (k : List Nat) (v : Nat) :
    Sorted (sinsert l k v) :=
  sinsert_eq_insert l k v ▸ Tbl.OMap.sorted_insert l h k v

theorem sdelete_sorted (l : List (List Nat × Nat)) (h : Sorted l) (k : List Nat) : Sorted (sdelete l k) :=
  List.Pairwise.filter _ h

theorem mem_sdelete (l : List (List Nat × Nat)) (k : List Nat) (e : List Nat × Nat) :
    e ∈ sdelete l k ↔ e.1 ≠ k ∧ e ∈ l := by
  simp [sdelete, and_comm]

theorem look_sinsert (l : List (List Nat × Nat)) (k : List Nat) (v : Nat) (k' : List Nat) :
    look (sinsert l k v) k' = if k' = k then some v else look l k' := by
  induction l with
  | nil => simp [sinsert, look_cons, eq_comm]
  | cons x r ih =>
    obtain ⟨a, w⟩ := x
    simp only [sinsert]
    cases hc : cmpL k a with
    | lt => simp only [look_cons]; by_cases h : k = k' <;> simp [h, eq_comm]
    | eq =>
      cases (cmpL_eq_iff k a).mp hc
      simp only [look_cons]; by_cases h : k = k' <;> simp [h, eq_comm]
    | gt =>
      simp only [look_cons, ih]
      by_cases h : a = k'
      · simp [h, h ▸ ne_of_cmpL_gt hc]
      · simp [h]

theorem look_sdelete (l : List (List Nat × Nat)) (k k' : List Nat) :
    look (sdelete l k) k' = if k' = k then none else look l k' := by
  induction l with
  | nil => exact (ite_self none).symm
  | cons x r ih =>
    obtain ⟨a, w⟩ := x
    by_cases h : a = k
    · rw [show sdelete ((a, w) :: r) k = sdelete r k from List.filter_cons_of_neg (by simpa using h), ih, look_cons]
      by_cases h' : k' = k
      · rw [if_pos h', if_pos h']
      · rw [if_neg h', if_neg h', if_neg fun e => h' (e.symm.trans h)]
    · rw [show sdelete ((a, w) :: r) k = (a, w) :: sdelete r k from List.filter_cons_of_pos (by simpa using h),
        look_cons, look_cons, ih]
      by_cases h' : a = k'
      · rw [if_pos h', if_pos h', if_neg fun e => h (h'.trans e)]
      · rw [if_neg h', if_neg h']

theorem length_sinsert (l : List (List Nat × Nat)) (h : Sorted l) (k : List Nat) (v : Nat) :
    (sinsert l k v).length = if (look l k).isNone then l.length + 1 else l.length := by
  rw [sinsert_eq_insert, Tbl.OMap.length_insert, look_eq_get l h]
  cases Tbl.OMap.get l k <;> rfl

theorem sdelete_of_look_none (l : List (List Nat × Nat)) (k : List Nat) (h : look l k = none) : sdelete l k = l :=
  List.filter_eq_self.mpr fun e he => decide_eq_true ((look_eq_none_iff l k).mp h e he)

theorem length_sdelete (l : List (List Nat × Nat)) (h : Sorted l) (k : List Nat) :
    (sdelete l k).length = if (look l k).isSome then l.length - 1 else l.length := by
  rw [sdelete_eq_erase l h, Tbl.OMap.length_erase, look_eq_get l h]

theorem sorted_look_ext (l₁ l₂ : List (List Nat × Nat)) (h₁ : Sorted l₁) (h₂ : Sorted l₂)
    (h : ∀ k, look l₁ k = look l₂ k) : l₁ = l₂ :=
  Tbl.OMap.ext_get l₁ l₂ h₁ h₂ fun k => by rw [← look_eq_get l₁ h₁, ← look_eq_get l₂ h₂, h k]

theorem sorted_nil : Sorted [] := List.Pairwise.nil

theorem sorted_single (e : List Nat × Nat) : Sorted [e] := List.pairwise_singleton _ _

theorem sinsert_comm (l : List (List Nat × Nat)) (h : Sorted l) (k k' : List Nat) (v v' : Nat) (hne : k ≠ k') :
    sinsert (sinsert l k v) k' v' = sinsert (sinsert l k' v') k v := by
  apply sorted_look_ext
  · exact sinsert_sorted _ (sinsert_sorted _ h _ _) _ _
  · exact sinsert_sorted _ (sinsert_sorted _ h _ _) _ _
  · intro q
    simp only [look_sinsert]
    by_cases h1 : q = k
    · simp [h1, hne]
    · by_cases h2 : q = k'
      · simp [h2, Ne.symm hne]
      · simp [h1, h2]

theorem sinsert_override (l : List (List Nat × Nat)) (h : Sorted l) (k : List Nat) (v v' : Nat) :
    sinsert (sinsert l k v) k v' = sinsert l k v' := by
  apply sorted_look_ext
  · exact sinsert_sorted _ (sinsert_sorted _ h _ _) _ _
  · exact sinsert_sorted _ h _ _
  · intro q
    simp only [look_sinsert]
    by_cases h1 : q = k <;> simp [h1]

theorem length_le_sinsert (l : List (List Nat × Nat)) (h : Sorted l) (k : List Nat) (v : Nat) : l.length ≤ (sinsert l k v).length := by
  rw [length_sinsert l h]
  split
  · exact Nat.le_succ _
  · exact Nat.le_refl _

theorem sinsert_nil (k : List Nat) (v : Nat) : sinsert [] k v = [(k, v)] := rfl

theorem sdelete_nil (k : List Nat) : sdelete [] k = [] := rfl

theorem sdelete_single (a : List Nat) (w : Nat) (k : List Nat) :
    sdelete [(a, w)] k = if a = k then [] else [(a, w)] := by
  unfold sdelete
  by_cases h : a = k <;> simp [h]

theorem sdelete_sinsert (l : List (List Nat × Nat)) (h : Sorted l) (k : List Nat) (v : Nat) (hk : look l k = none) :
    sdelete (sinsert l k v) k = l := by
  apply sorted_look_ext _ _ (sdelete_sorted _ (sinsert_sorted _ h _ _) _) h
  intro q
  rw [look_sdelete, look_sinsert]
  by_cases h1 : q = k <;> simp [h1, hk]

mutual
theorem entries_sorted (acc : List Nat) : (n : Node) → WFNode acc n → Sorted (entries n)
  | .leaf p d, _ => List.pairwise_singleton _ _
  | .inner k p lf kids w t, h => by
    obtain ⟨hlf, hk⟩ := h
    rw [entries_inner]
    refine List.pairwise_append.mpr ⟨?_, entriesK_sorted (acc ++ p) kids hk, fun a ha e he => ?_⟩
    · cases lf <;> simp [lfList]
    · -- the node's own key is a proper prefix of every key below it
      obtain ⟨c, _, t2, h2⟩ := entriesK_pfx (acc ++ p) kids hk e he
      rw [KLt, lfList_key hlf a ha, h2]
      exact cmpL_prefix_lt _ _ _
theorem entriesK_sorted (acc : List Nat) : (kids : Kids) → WFKids acc kids → Sorted (entriesK kids)
  | .nil, _ => List.Pairwise.nil
  | .cons b n r, h => by
    obtain ⟨⟨tl, hp⟩, hn, hlt, hr⟩ := h
    refine List.pairwise_append.mpr ⟨entries_sorted acc n hn, entriesK_sorted acc r hr, fun a ha e he => ?_⟩
    -- keys below `n` continue with `b`, keys below later children with a larger byte
    obtain ⟨t1, h1⟩ := entries_pfx acc n hn a ha
    obtain ⟨c, hc, t2, h2⟩ := entriesK_pfx acc r hr e he
    rw [KLt, h1, h2, hp, List.append_assoc]
    exact cmpL_diff_lt acc b c _ _ (hlt c hc)
end

end Sdb.Art
