import SdbModel.Lemmas.ChangesInv

/-! Watch channels of change iterators: every commit that changed the revision index of a table bumps its
    generation `gen`, and an iterator's channel (`watchGen`) reads closed once the committed generation exceeds it.
    Invariant `Inv2`: an idle iterator in good standing whose channel is still open has seen everything. -/
namespace Sdb.Chg
open Sdb.Tbl Sdb.Chg.OMap

theorem watchClosed_of_gen_lt {db : DB} {it : ChangeIter}
    (h : ∀ g, it.watchGen = some g → g < (tbl db.root it.table).gen) : watchClosed db it = true := by
  unfold watchClosed
  cases hg : it.watchGen with
  | none => rfl
  | some g => exact decide_eq_true (h g hg)

theorem watchClosed_eq_false_iff {db : DB} {it : ChangeIter} :
    watchClosed db it = false ↔ ∃ g, it.watchGen = some g ∧ (tbl db.root it.table).gen ≤ g := by
  unfold watchClosed
  cases it.watchGen with
  | none =>
    constructor
    · intro h; cases h
    · rintro ⟨g, hg, _⟩; cases hg
  | some g =>
    simp only [gt_iff_lt, decide_eq_false_iff_not, Nat.not_lt]
    constructor
    · intro h; exact ⟨g, rfl, h⟩
    · rintro ⟨g', hg, h⟩; cases hg; exact h

/-- the entry `e` of the open write transaction is the committed `t` until `revDirty` is set -/
structure WGen (t e : TableS) : Prop where
  gen : e.gen = t.gen
  clean : e.revDirty = false → e.rev = t.rev ∧ e.primary = t.primary ∧ e.grave = t.grave

/-- the iterator has seen every live object and every retained deletion of `t` -/
def CaughtUp (it : ChangeIter) (t : TableS) : Prop :=
  (∀ k o, (k, o) ∈ t.primary → o.rev ≤ it.revision) ∧ (∀ k g, (k, g) ∈ t.grave → g.rev ≤ it.deleteRevision)

structure Inv2 (s : St) : Prop where
  wgen : ∀ es, s.db.wtxn = some es → ∀ i, WGen (tbl s.db.root i) (tbl es i)
  watchLe : ∀ (ci : Nat) (it : ChangeIter) (g : Nat), s.db.iters[ci]? = some it → it.watchGen = some g →
      g ≤ (tbl s.db.root it.table).gen
  idle : ∀ (ci : Nat) (it : ChangeIter) (g : Nat), s.db.iters[ci]? = some it → it.closed = false →
      Live s it → it.watchGen = some g → it.pending = none →
      (tbl s.db.root it.table).gen ≤ g → CaughtUp it (tbl s.db.root it.table)

theorem WStep.wgen {e e' : TableS} (w : WStep e e') :
    e'.gen = e.gen ∧ (e'.revDirty = false → e'.rev = e.rev ∧ e'.primary = e.primary ∧ e'.grave = e.grave ∧ e.revDirty = false) := by
  cases w with
  | modify g o m hb =>
    rcases modify_writes e g o m with h | hm
    · rw [h]; exact ⟨rfl, fun h => ⟨rfl, rfl, rfl, h⟩⟩
    · exact ⟨hm.gen, fun h => by rw [hm.revDirty] at h; cases h⟩
  | delete g id hb =>
    rcases delete_writes e g id with h | ⟨_, _, hd⟩
    · rw [h]; exact ⟨rfl, fun h => ⟨rfl, rfl, rfl, h⟩⟩
    · exact ⟨hd.gen, fun h => by rw [hd.revDirty] at h; cases h⟩
  | aux _ hrev hp _ hg _ _ _ hgen hdirty => exact ⟨hgen, fun h => ⟨hrev, hp, hg, by rw [← hdirty]; exact h⟩⟩

theorem CaughtUp.congr {it it' : ChangeIter} {t t' : TableS} (h : CaughtUp it t)
    (h1 : it'.revision = it.revision) (h2 : it'.deleteRevision = it.deleteRevision)
    (h3 : t'.primary = t.primary) (h4 : ∀ k g, (k, g) ∈ t'.grave → (k, g) ∈ t.grave) : CaughtUp it' t' := by
  constructor
  · intro k o ho; rw [h3] at ho; rw [h1]; exact h.1 k o ho
  · intro k g hg; rw [h2]; exact h.2 k g (h4 k g hg)

/-- what `Inv2` says of one iterator; its position in `iters` plays no part -/
structure Watched (s : St) (it : ChangeIter) : Prop where
  le : ∀ g, it.watchGen = some g → g ≤ (tbl s.db.root it.table).gen
  idle : ∀ g, it.closed = false → Live s it → it.watchGen = some g → it.pending = none →
      (tbl s.db.root it.table).gen ≤ g → CaughtUp it (tbl s.db.root it.table)

theorem Inv2.watched {s : St} (h2 : Inv2 s) {ci : Nat} {it : ChangeIter} (hi : s.db.iters[ci]? = some it) :
    Watched s it :=
  ⟨fun g => h2.watchLe ci it g hi, fun g => h2.idle ci it g hi⟩

theorem Inv2.of_watched {s : St} (hw : ∀ es, s.db.wtxn = some es → ∀ i, WGen (tbl s.db.root i) (tbl es i))
    (h : ∀ (ci : Nat) (it : ChangeIter), s.db.iters[ci]? = some it → Watched s it) : Inv2 s :=
  ⟨hw, fun ci it g hi => (h ci it hi).le g, fun ci it g hi => (h ci it hi).idle g⟩

theorem Inv2.of_none {s : St} (hw : s.db.wtxn = none) (h : ∀ (ci : Nat) (it : ChangeIter), s.db.iters[ci]? = some it → Watched s it) :
    Inv2 s :=
  .of_watched (fun es he => by rw [hw] at he; cases he) h

theorem Inv2.of_frame {s s' : St} (h2 : Inv2 s) (hr : s'.db.root = s.db.root) (hw : s'.db.wtxn = s.db.wtxn)
    (h : ∀ (ci : Nat) (it : ChangeIter), s'.db.iters[ci]? = some it → Watched s' it) : Inv2 s' :=
  .of_watched (fun es he i => by rw [hr]; rw [hw] at he; exact h2.wgen es he i) h

theorem Watched.of_fresh {s : St} {it : ChangeIter} (hg : it.watchGen = some (tbl s.db.root it.table).gen)
    (hidle : it.closed = false → Live s it → it.pending = none → CaughtUp it (tbl s.db.root it.table)) :
    Watched s it := by
  constructor
  · intro g e; rw [hg] at e; cases e; exact Nat.le_refl _
  · intro g hc hl _ hp _; exact hidle hc hl hp

theorem Watched.transfer {s s' : St} {it it' : ChangeIter} (h : Watched s it)
    (htable : it'.table = it.table) (hwatch : it'.watchGen = it.watchGen)
    (hrev : it'.revision = it.revision) (hdel : it'.deleteRevision = it.deleteRevision)
    (hidle : it'.closed = false → Live s' it' → it'.pending = none → it.closed = false ∧ Live s it ∧ it.pending = none)
    (hgen : (tbl s'.db.root it.table).gen = (tbl s.db.root it.table).gen)
    (hprimary : (tbl s'.db.root it.table).primary = (tbl s.db.root it.table).primary)
    (hgrave : ∀ k g, (k, g) ∈ (tbl s'.db.root it.table).grave → (k, g) ∈ (tbl s.db.root it.table).grave) :
    Watched s' it' := by
  constructor
  · intro g hg; rw [htable, hgen]; exact h.le g (hwatch ▸ hg)
  · intro g hc hlv hg hp hle
    obtain ⟨hc', hlv', hp'⟩ := hidle hc hlv hp
    rw [htable] at hle ⊢
    rw [hgen] at hle
    exact (h.idle g hc' hlv' (hwatch ▸ hg) hp' hle).congr hrev hdel hprimary hgrave

theorem Watched.frame {s s' : St} {it : ChangeIter} (h : Watched s it) (hr : s'.db.root = s.db.root)
    (hl : Live s' it → Live s it) : Watched s' it :=
  h.transfer rfl rfl rfl rfl (fun hc hlv hp => ⟨hc, hl hlv, hp⟩) (by rw [hr]) (by rw [hr])
    (fun k g hg => by rw [hr] at hg; exact hg)

theorem Inv2.init : Inv2 St.init :=
  .of_none rfl fun _ _ h => by simp [St.init, newDB] at h

theorem Inv2.beginW {s : St} (h2 : Inv2 s) (lm la : Bool) : Inv2 { s with db := s.db.beginW lm la } := by
  refine .of_watched (fun es he i => ?_) fun ci it hi => (h2.watched hi).frame rfl fun hl => hl.of_beginW lm la
  obtain ⟨l, e⟩ := (beginW_entries s.db lm la he).2 i
  rw [e]
  exact ⟨rfl, fun _ => ⟨rfl, rfl, rfl⟩⟩

theorem Inv2.abort {s : St} (h2 : Inv2 s) : Inv2 { s with db := s.db.abort } :=
  .of_none rfl fun _ _ hi => (h2.watched hi).frame rfl fun hl => hl.of_none rfl id

theorem Inv2.commit {s : St} (h : Inv s) (h2 : Inv2 s) : Inv2 { s with db := s.db.commit } := by
  cases hw : s.db.wtxn with
  | none => rw [commit_none hw]; exact h2
  | some es =>
    obtain ⟨root', e, hroot⟩ := commit_some hw (h.wOld es hw).2
    rw [e]
    refine .of_none rfl fun ci it hi => ?_
    have W := h2.watched (s := s) hi
    have wg := h2.wgen es hw it.table
    by_cases hl : (tbl es it.table).locked
    · have hnew : tbl root' it.table = commitEntry (tbl es it.table) := by rw [hroot, if_pos hl]
      by_cases hd : (tbl es it.table).revDirty
      · -- a dirty entry bumps the generation past every channel handed out before
        have hgen : (tbl root' it.table).gen = (tbl s.db.root it.table).gen + 1 := by
          rw [hnew, commitEntry_gen, if_pos hd, wg.gen]
        constructor
        · intro g hg; have := W.le g hg; show g ≤ (tbl root' it.table).gen; omega
        · intro g _ _ hg _ hle
          have := W.le g hg
          have hle : (tbl root' it.table).gen ≤ g := hle
          omega
      · -- a clean entry is the committed one
        obtain ⟨_, hprimary, hgrave⟩ := wg.clean (by simpa using hd)
        refine W.transfer rfl rfl rfl rfl (fun hc hlv hp => ⟨hc, ?_, hp⟩)
          (show (tbl root' it.table).gen = _ by rw [hnew, commitEntry_gen, if_neg hd, wg.gen])
          (show (tbl root' it.table).primary = _ by rw [hnew]; exact hprimary)
          (fun k x hx => by have hx : (k, x) ∈ (tbl root' it.table).grave := hx; rw [hnew] at hx; rw [← hgrave]; exact hx)
        have hr : it.tracker ∈ (tbl es it.table).trackers := by
          have : it.tracker ∈ (tbl root' it.table).trackers := hlv.registered rfl
          rw [hnew] at this; exact this
        refine (h.live_or_pend hw hi hc hr).resolve_right fun ⟨hb, p⟩ => ?_
        have := p.be
        omega
    · have hnew : tbl root' it.table = tbl s.db.root it.table := by rw [hroot, if_neg hl]
      exact W.transfer rfl rfl rfl rfl
        (fun hc hlv hp =>
          have hr : it.tracker ∈ (tbl root' it.table).trackers := hlv.registered rfl
          ⟨hc, .of_registered (hnew ▸ hr), hp⟩)
        (show (tbl root' it.table).gen = _ by rw [hnew]) (show (tbl root' it.table).primary = _ by rw [hnew])
        (fun k x hx => by have hx : (k, x) ∈ (tbl root' it.table).grave := hx; rw [hnew] at hx; exact hx)

theorem Inv2.write {s : St} (h2 : Inv2 s) (es : List TableS) (i : Nat) (t' : TableS)
    (hw : s.db.wtxn = some es) (w : WStep (tbl es i) t') : Inv2 { s with db := setW s.db i t' } := by
  rw [setW_some hw]
  refine .of_watched (fun es' he j => ?_) fun ci it hi => (h2.watched hi).frame rfl fun hl => hl.of_write hw w rfl rfl
  cases he
  refine tbl_set_forall (P := fun j t => WGen (tbl s.db.root j) t) (h2.wgen es hw) ?_ j
  have g := h2.wgen es hw i
  obtain ⟨hgen, hclean⟩ := w.wgen
  refine { gen := hgen.trans g.gen, clean := fun hd => ?_ }
  obtain ⟨hrev, hprimary, hgrave, hd0⟩ := hclean hd
  obtain ⟨hrev0, hprimary0, hgrave0⟩ := g.clean hd0
  exact ⟨hrev.trans hrev0, hprimary.trans hprimary0, hgrave.trans hgrave0⟩

theorem Inv2.create {s : St} (h : Inv s) (h2 : Inv2 s) (ti : Nat) : Inv2 { s with db := iterCreate s.db ti } := by
  rcases iterCreate_spec s.db ti with e | ⟨es, hw, _, it0, htable, _, _, htracker, _, hbase, hwatch, hpending, e⟩
  · rw [e]; exact h2
  rw [e]
  have hold := (h.wOld es hw).1
  refine .of_watched (fun es' he j => ?_) fun ci it hi => ?_
  · cases he
    refine tbl_set_forall (P := fun j t => WGen (tbl s.db.root j) t) (h2.wgen es hw) ?_ j
    exact ⟨(h2.wgen es hw ti).gen, (h2.wgen es hw ti).clean⟩
  · have hi' : (s.db.iters.push it0)[ci]? = some it := hi
    rcases getElem?_push_cases hi' with hi' | ⟨_, e⟩
    · exact (h2.watched hi').frame rfl fun hl => hl.of_create hw rfl rfl (Nat.ne_of_lt (h.freshI ci it hi'))
    · -- the new iterator is not idle: created after writes of this transaction, or not live
      subst e
      refine .of_fresh (by rw [hwatch, hold, htable]; rfl) fun _ hlv hp => ?_
      exfalso
      have hlt := hpending hp
      rw [hold] at hlt
      rcases hlv with hr | ⟨_, _, _, hb⟩
      · have hr' : it.tracker ∈ (tbl s.db.root it.table).trackers := hr
        rw [htracker] at hr'
        exact Nat.lt_irrefl _ (h.freshR _ _ hr')
      · have hb' : it.base ≤ (tbl s.db.root it.table).rev := hb
        rw [hbase, htable] at hb'
        omega

theorem Inv2.next {s : St} (h : Inv s) (h2 : Inv2 s) (ci : Nat) (k : Int)
    (committed current : List TableS)
    (hc : committed = s.db.root ∨ (s.db.wtxn.isSome ∧ committed = s.db.oldRoot)) :
    Inv2 { db := (iterNext s.db ci committed current k).1,
           log := fun j => if j = ci then s.log ci ++ (iterNext s.db ci committed current k).2.1 else s.log j } := by
  rcases h.next_cases ci k committed current hc rfl with e | ⟨it, it', taken, rest, m⟩
  · rw [e]; exact h2
  · refine h2.of_frame m.root m.wtxn fun cj x hx => ?_
    rcases m.cases hx with ⟨_, e⟩ | ⟨_, hx'⟩
    · subst e
      refine .of_fresh (by rw [m.watchGen, m.table, m.root]) fun hxc hl hp => ?_
      -- in good standing the root is not stale, and a sequence run off its end leaves nothing pending
      have r := h.reg ci it m.hi (m.closed ▸ hxc) (hl.congr m.root m.wtxn m.table m.tracker m.base)
      have hrle := r.rle
      have hdle := r.dle
      have hT := h.rootT it.table
      have hb := hT.bound
      obtain ⟨_, hp', hr', hd'⟩ := r.synced.consume_prefix hT taken rest (by omega) (by omega) m.isPrefix
      rw [m.done r.base hp, ← m.revision, ← m.deleteRevision] at hp'
      rw [m.table, m.root]
      exact passed_of_pendingOf_nil hT (m.revision ▸ hr') (m.deleteRevision ▸ hd') hp'
    · exact (h2.watched hx').frame m.root fun hl => hl.congr m.root m.wtxn rfl rfl rfl

theorem Inv2.close {s : St} (h2 : Inv2 s) (ci : Nat) (hw : s.db.wtxn = none) :
    Inv2 { s with db := iterClose s.db ci } := by
  rcases iterClose_spec s.db ci with e | ⟨it, h1, e⟩
  · rw [e]; exact h2
  · rw [e]
    have hf := tbl_close_fields s.db.root it.table it.tracker
    refine .of_none hw fun cj x hx => ?_
    rcases getElem?_set!_cases (lt_size_of_getElem? h1) hx with ⟨_, e⟩ | ⟨_, hx'⟩
    · subst e
      exact (h2.watched h1).transfer rfl rfl rfl rfl (fun hc => by cases hc) (hf _).gen (hf _).primary
        (fun k g hg => (hf _).grave ▸ hg)
    · exact (h2.watched hx').transfer rfl rfl rfl rfl
        (fun hc hl hp => ⟨hc, hl.of_none hw ((hf _).trackers _), hp⟩) (hf _).gen (hf _).primary
        (fun k g hg => (hf _).grave ▸ hg)

theorem Inv2.gcWrite {s : St} (h : Inv s) (h2 : Inv2 s) (hw : s.db.wtxn = none) (dead dead' : List (Nat × List Key))
    (paused trig : Bool) :
    Inv2 { s with db := { (gcApply s.db dead) with gcDead := dead', gcPaused := paused, gcTrig := trig } } := by
  have hwt : (gcApply s.db dead).wtxn = none := hw
  refine .of_none hwt fun ci it hi => ?_
  obtain ⟨gr, g, e⟩ := tbl_gcApply_frame s.db dead it.table
  refine (h2.watched (s := s) hi).transfer rfl rfl rfl rfl
    (fun hc hl hp => ⟨hc, hl.of_none hwt fun hm => ?_, hp⟩) ?_ ?_ fun k y hy => ?_
  · have hm : it.tracker ∈ (tbl (gcApply s.db dead).root it.table).trackers := hm
    rw [e] at hm
    exact hm
  · show (tbl (gcApply s.db dead).root it.table).gen = _
    rw [e]
  · show (tbl (gcApply s.db dead).root it.table).primary = _
    rw [e]
  · have hy : (k, y) ∈ (tbl (gcApply s.db dead).root it.table).grave := hy
    rw [tbl_gcApply] at hy
    exact (((gcTable_mem (h.rootT it.table) (deadKeys dead it.table)).2 k y).mp hy).1

theorem Inv2.gcScanStep {s : St} (h2 : Inv2 s) :
    Inv2 { s with db := { s.db with gcDead := gcScan s.db, gcPaused := true, gcTrig := false } } :=
  ⟨h2.wgen, h2.watchLe, h2.idle⟩

theorem Step.inv2 {s s' : St} (st : Step s s') (h : Inv s) (h2 : Inv2 s) : Inv2 s' := by
  cases st with
  | beginW lm la _ => exact h2.beginW lm la
  | commit => exact h2.commit h
  | abort => exact h2.abort
  | write es i t' hw w => exact h2.write es i t' hw w
  | create ti => exact h2.create h ti
  | next ci k committed current hc => exact h2.next h ci k committed current hc
  | close ci hw => exact h2.close ci hw
  | gcScan => exact h2.gcScanStep
  | gcApplyPaused hw =>
    exact h2.gcWrite h hw s.db.gcDead [] (paused := false) (trig := (Tbl.gcApply s.db s.db.gcDead).gcTrig)
  | gcRun hw =>
    exact h2.gcWrite h hw (Tbl.gcScan s.db) s.db.gcDead
      (paused := (Tbl.gcApply s.db (Tbl.gcScan s.db)).gcPaused) (trig := false)

theorem Reach.inv2 {s : St} (r : Reach s) : Inv2 s := by
  induction r with
  | init => exact Inv2.init
  | step hr st ih => exact st.inv2 hr.inv ih
end Sdb.Chg
