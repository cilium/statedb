import SdbModel.Lemmas.ArtWatch

/-! Which channels one write of Model.Art records.  The channel a query hands out is the closest non-nil watch on its
    search path, a function of the tree alone: `pw` for Get (`search_eq_pw`), `ppw` for Prefix (ArtPFrame); `Chan` is
    what the arguments use of either.  When the nodes a transaction owns carry channels not below a bound `B`
    (`Inner (OFq id B)`), a write of `key` records the watches on the path of `key` (`W.closes`) and keeps, or
    records, those of every other key (`W.frame`). -/
namespace Sdb.ArtW
open Sdb.Art


def nz (w : Nat) : Option Nat := if w ≠ 0 then some w else none

def lfw : Option LeafD → Option Nat
  | some d => nz d.watch
  | none => none

mutual
/-- the closest non-nil watch on the search path of `key` in the subtree, if any -/
def pw : Node → List Nat → Option Nat
  | .leaf p d, key => if hasPrefix key p ∧ key.drop p.length = [] then nz d.watch else none
  | .inner _ p lf kids nw _, key =>
    if hasPrefix key p then
      match key.drop p.length with
      | [] => lfw lf
      | b :: r => (pwK kids b (b :: r)).or (nz nw)
    else none
def pwK : Kids → Nat → List Nat → Option Nat
  | .nil, _, _ => none
  | .cons c n r, b, key => if c = b then pw n key else if c < b then pwK r b key else none
end


mutual
def Inner (q : Nat → Nat → Prop) : Node → Prop
  | .leaf _ _ => True
  | .inner _ _ _ kids w t => q t w ∧ InnerK q kids
def InnerK (q : Nat → Nat → Prop) : Kids → Prop
  | .nil => True
  | .cons _ n r => Inner q n ∧ InnerK q r
end

mutual
theorem marks_inner {q : Nat → Nat → Prop} : (n : Node) → (Marks q True n ↔ Inner q n)
  | .leaf _ _ => by simp only [Marks, Inner]
  | .inner _ _ _ kids _ _ => by simp only [Marks, Inner, implies_true, true_and, marksK_inner kids]
theorem marksK_inner {q : Nat → Nat → Prop} : (k : Kids) → (MarksK q True k ↔ InnerK q k)
  | .nil => by simp only [MarksK, InnerK]
  | .cons _ n r => by simp only [MarksK, InnerK, marks_inner n, marksK_inner r]
end

theorem Inner.marks {q : Nat → Nat → Prop} {l : Prop} {n : Node} (h : Inner q n) (hl : l) : Marks q l n :=
  Marks.mono (fun _ _ h => h) (fun _ => hl) n ((marks_inner n).2 h)

theorem InnerK.marks {q : Nat → Nat → Prop} {l : Prop} {k : Kids} (h : InnerK q k) (hl : l) : MarksK q l k :=
  MarksK.mono (fun _ _ h => h) (fun _ => hl) k ((marksK_inner k).2 h)

theorem InnerK.insert {q : Nat → Nat → Prop} (b : Nat) (n : Node) (hn : Inner q n) :
    (k : Kids) → InnerK q k → InnerK q (k.insert b n) :=
  fun k h => (marksK_inner _).1 (MarksK.insert b n ((marks_inner n).2 hn) k ((marksK_inner k).2 h))

theorem insKids_Inner {q : Nat → Nat → Prop} (P : ArtParams) (st : St) (hq : QOk q st) :
    (kids : Kids) → (b : Nat) → (key full : List Nat) → (val : Nat) → (mod : Option (Nat → Nat → Nat)) →
    (r : InsRes) → (kids' : Kids) → InnerK q kids →
    insKids P st kids b key full val mod = some (r, kids') → InnerK q kids' :=
  fun kids b key full val mod r kids' hs h =>
    (marksK_inner _).1 (insKids_marks P st hq trivial kids b key full val mod r kids' ((marksK_inner kids).2 hs) h)

theorem delKids_Inner {q : Nat → Nat → Prop} (P : ArtParams) (st : St) (hq : QOk q st) :
    (kids : Kids) → (b : Nat) → (key : List Nat) → InnerK q kids → (r : DelRes) → (kids' : Kids) →
    delKids P st kids b key = some (r, kids') → InnerK q kids' :=
  fun kids b key hs r kids' h =>
    (marksK_inner _).1 (delKids_marks P st hq kids b key ((marksK_inner kids).2 hs) r kids' h)


def OFq (id B : Nat) : Nat → Nat → Prop := fun t w => t = id → w = 0 ∨ B ≤ w

theorem nz_some {w c : Nat} (h : nz w = some c) : w = c ∧ c ≠ 0 := by
  unfold nz at h
  split at h
  · simp only [Option.some.injEq] at h; subst h; exact ⟨rfl, by assumption⟩
  · simp at h

theorem nz_of_ne {w : Nat} (h : w ≠ 0) : nz w = some w := if_pos h

theorem mem_of_nz {w c : Nat} {pend : List Nat} (hc : nz w = some c) (h : w = 0 ∨ w ∈ pend) : c ∈ pend := by
  obtain ⟨hwc, hc0⟩ := nz_some hc
  subst hwc
  exact h.resolve_left hc0

theorem lfw_some {lf : Option LeafD} {c : Nat} (h : lfw lf = some c) : ∃ d, lf = some d ∧ nz d.watch = some c := by
  cases lf with
  | none => simp [lfw] at h
  | some d => exact ⟨d, rfl, h⟩


theorem key_follows_prefix (key q pfx : List Nat) (b : Nat) (r : List Nat) (hkq : hasPrefix key q = true)
    (hq : hasPrefix q pfx = true) (hd : q.drop pfx.length = b :: r) :
    hasPrefix key pfx = true ∧ ∃ r', key.drop pfx.length = b :: r' ∧ hasPrefix (b :: r') (b :: r) = true := by
  refine ⟨hasPrefix_trans _ _ _ hkq hq, ?_⟩
  have := hasPrefix_dropN pfx.length key q hkq
  rw [hd] at this
  obtain ⟨r', he, hr⟩ := hasPrefix_cons_inv _ b r this
  exact ⟨r', he, by rw [← he]; exact this⟩

theorem commonPrefix_hasPrefix (a b : List Nat) : hasPrefix a (commonPrefix a b) = true :=
  (hasPrefix_iff _ _).2 ⟨_, (commonPrefix_split a b).1.symm⟩

theorem commonPrefix_hasPrefix_right (a b : List Nat) : hasPrefix b (commonPrefix a b) = true :=
  (hasPrefix_iff _ _).2 ⟨_, (commonPrefix_split a b).2.1.symm⟩

/-- an insert that neither matches the node's prefix exactly nor goes below the node
    leaves part of that prefix under the fork -/
theorem fork_rest_ne_nil (key p : List Nat) (hex : key ≠ p)
    (hno : ¬ (key ≠ [] ∧ hasPrefix key p = true ∧ key.length ≠ p.length)) :
    p.drop (commonPrefix key p).length ≠ [] := by
  intro hth
  have hcp := commonPrefix_hasPrefix key p
  have hpc : p = commonPrefix key p := hasPrefix_drop_nil p _ (commonPrefix_hasPrefix_right key p) hth
  rw [← hpc] at hcp
  have hl := hasPrefix_length _ _ hcp
  refine hno ⟨fun e => hex ?_, hcp, fun he => hex (((hasPrefix_iff key p).1 hcp).eq_of_length he.symm).symm⟩
  subst e
  exact (List.eq_nil_of_length_eq_zero (Nat.le_zero.mp hl)).symm

/-- The Get path watch in what a deletion leaves behind.  No proof uses it, but `delKidsOut` below has a `match` of the
    same shape and is compiled with this definition's matcher `pwD.match_1`: without it `delKidsOut` is another term. -/
def pwD (k : List Nat) : DelRes → Option Nat
  | .replaced _ n _ => pw n k
  | _ => none

/-- the children a successful `delKids` leaves: rebuilt, or with the child erased -/
def delKidsOut (r : DelRes) (kids kids' : Kids) (b' : Nat) : Kids :=
  match r with
  | .replaced _ _ _ => kids'
  | _ => kids.erase b'


theorem drop_append_same (l p k : List Nat) : (l ++ k).drop (l ++ p).length = k.drop p.length := by
  rw [List.length_append, ← List.drop_drop, List.drop_left]

theorem setPfx_pfx (n : Node) : n.setPfx n.pfx = n := by cases n <;> rfl

theorem setPfx_setPfx (n : Node) (a b : List Nat) : (n.setPfx a).setPfx b = n.setPfx b := by cases n <;> rfl

theorem Rw.own_or_rec {id B : Nat} {st st' : St} {w t w' c : Nat} (h : Rw st w t st' w') (hid : st.txnID = id)
    (hq : OFq id B t w) (hc : nz w = some c) : B ≤ c ∨ c ∈ st'.pending := by
  rcases h.out with ⟨ht, _⟩ | ⟨hr, _⟩
  · obtain ⟨hwc, hc0⟩ := nz_some hc
    subst hwc
    exact Or.inl ((hq (ht.trans hid)).resolve_left hc0)
  · exact Or.inr (mem_of_nz hc hr)

theorem Re.keep_or_rec {st st' : St} {lf : Option LeafD} {w' c : Nat} (h : Re st lf st' w') (hc : lfw lf = some c) :
    c ∈ st'.pending ∨ nz w' = some c := by
  obtain ⟨d, rfl, hd⟩ := lfw_some hc
  rcases h.toRw.out with ⟨_, hw⟩ | ⟨hr, _⟩
  · right; rw [hw]; exact hd
  · left; exact mem_of_nz hd hr

theorem Re.recorded {st st' : St} {lf : Option LeafD} {w' c : Nat} (h : Re st lf st' w') (hid : st.txnID ≠ 0)
    (hc : lfw lf = some c) : c ∈ st'.pending := by
  obtain ⟨d, rfl, hd⟩ := lfw_some hc
  exact mem_of_nz hd ((h.toRw.out.resolve_left fun h => hid h.1.symm).1)

/-- a channel read off what is left of a tree (`none`: nothing) -/
def chR (f : Node → List Nat → Option Nat) : Option Node → List Nat → Option Nat
  | none, _ => none
  | some r, k => f r k

/-- What the closure and frame arguments use of a path watch `f` with its version `fK` for
    the children of a node.  `pw` satisfies it with `ex = true` (the entry at the end of the
    key has a channel of its own), `ppw` with `ex = false`. -/
structure Chan (ex : Bool) (f : Node → List Nat → Option Nat) (fK : Kids → Nat → List Nat → Option Nat) : Prop where
  nil : ∀ b k, fK .nil b k = none
  cons : ∀ a n r b k, fK (.cons a n r) b k = if a = b then f n k else if a < b then fK r b k else none
  leaf : ∀ {p d k c}, f (.leaf p d) k = some c → ex = true ∧ k = p ∧ nz d.watch = some c
  inner : ∀ {kind p lf kids nw t k c}, f (.inner kind p lf kids nw t) k = some c →
    nz nw = some c ∨ (ex = true ∧ k = p ∧ lfw lf = some c) ∨
    (hasPrefix k p = true ∧ ∃ b r, k.drop p.length = b :: r ∧ fK kids b (b :: r) = some c)
  leaf_self : ∀ p d, ex = true → f (.leaf p d) p = nz d.watch
  inner_self : ∀ kind p lf kids nw t, ex = true → f (.inner kind p lf kids nw t) p = lfw lf
  deeper : ∀ kind {p} lf kids nw t {k b r}, hasPrefix k p = true → k.drop p.length = b :: r →
    f (.inner kind p lf kids nw t) k = (fK kids b (b :: r)).or (nz nw)
  -- prefixes are relative to the parent
  shift : ∀ n l k, f (n.setPfx (l ++ n.pfx)) (l ++ k) = f n k

namespace Chan
variable {ex : Bool} {f : Node → List Nat → Option Nat} {fK : Kids → Nat → List Nat → Option Nat}

theorem leaf_watch (hf : Chan ex f fK) {p : List Nat} {d : LeafD} {k : List Nat} {c : Nat} (h : f (.leaf p d) k = some c) :
    nz d.watch = some c :=
  (hf.leaf h).2.2

theorem single (hf : Chan ex f fK) {a : Nat} {child : Node} {b : Nat} {k : List Nat} {c : Nat}
    (h : fK (.cons a child .nil) b k = some c) : f child k = some c := by
  rw [hf.cons, hf.nil] at h
  split at h
  · exact h
  · split at h <;> cases h

theorem rewatch (hf : Chan ex f fK) {kind : Nat} {p : List Nat} {lf : Option LeafD} {kids : Kids} {nw t : Nat}
    {k : List Nat} {c : Nat} (h : f (.inner kind p lf kids nw t) k = some c) :
    nz nw = some c ∨ (hasPrefix k p = true ∧ ∀ kind' nw' t', f (.inner kind' p lf kids nw' t') k = some c) := by
  rcases hf.inner h with h1 | ⟨hex, hkp, h1⟩ | ⟨hp, b, r, hk, h1⟩
  · exact Or.inl h1
  · subst hkp
    exact Or.inr ⟨hasPrefix_self _, fun _ _ _ => by rw [hf.inner_self _ _ _ _ _ _ hex]; exact h1⟩
  · exact Or.inr ⟨hp, fun _ _ _ => by rw [hf.deeper _ _ _ _ _ hp hk, h1]; rfl⟩

theorem inner_frame (hf : Chan ex f fK) (B : Nat) (pend : List Nat) {kind : Nat} {p : List Nat} {lf : Option LeafD}
    {kids : Kids} {nw t : Nat} {k : List Nat} {c : Nat} (kind' : Nat) (lf' : Option LeafD) (kids' : Kids) (nw' t' : Nat)
    (hkids : ∀ b k2, fK kids b k2 = some c → B ≤ c ∨ c ∈ pend ∨ fK kids' b k2 = some c)
    (hnw : nz nw = some c → B ≤ c ∨ c ∈ pend)
    (hlf : ex = true → lfw lf = some c → B ≤ c ∨ c ∈ pend ∨ lfw lf' = some c)
    (hc : f (.inner kind p lf kids nw t) k = some c) :
    B ≤ c ∨ c ∈ pend ∨ f (.inner kind' p lf' kids' nw' t') k = some c := by
  rcases hf.inner hc with h | ⟨hex, hkp, h⟩ | ⟨hp, b, r, hk, h⟩
  · exact (hnw h).imp_right Or.inl
  · refine (hlf hex h).imp_right (Or.imp_right fun e => ?_)
    rw [hkp, hf.inner_self _ _ _ _ _ _ hex]; exact e
  · refine (hkids b (b :: r) h).imp_right (Or.imp_right fun hx => ?_)
    rw [hf.deeper _ _ _ _ _ hp hk, hx]; rfl

/-- an inner node replaced by its one remaining child, which moves up with its own watch -/
theorem merge_frame (hf : Chan ex f fK) (B : Nat) (pend : List Nat) {kind : Nat} {p : List Nat} {lf : Option LeafD}
    {kids : Kids} {nw t : Nat} {k : List Nat} {c : Nat} (a : Nat) (child : Node)
    (hkids : ∀ b k2, fK kids b k2 = some c → B ≤ c ∨ c ∈ pend ∨ fK (.cons a child .nil) b k2 = some c)
    (hnw : nz nw = some c → B ≤ c ∨ c ∈ pend) (hlf : lfw lf = some c → B ≤ c ∨ c ∈ pend)
    (hc : f (.inner kind p lf kids nw t) k = some c) :
    B ≤ c ∨ c ∈ pend ∨ f (mergeUp p child) k = some c := by
  rcases hf.inner hc with h | ⟨_, _, h⟩ | ⟨hp, b, r, hk, h⟩
  · exact (hnw h).imp_right Or.inl
  · exact (hlf h).imp_right Or.inl
  · refine (hkids b (b :: r) h).imp_right (Or.imp_right fun hx => ?_)
    have := hf.shift child p (k.drop p.length)
    rw [← hasPrefix_true_eq k p hp, hk] at this
    unfold mergeUp
    rw [this]; exact hf.single hx

theorem fork (hf : Chan ex f fK) (k4 : Nat) (common : List Nat) (n : Node) (key : List Nat) (d : LeafD) (w id : Nat)
    {k : List Nat} {c : Nat} (hcp : hasPrefix n.pfx common = true)
    (hdiv : ∀ kb ks tb ts, key = kb :: ks → n.pfx.drop common.length = tb :: ts → kb ≠ tb)
    (hnil : n.pfx.drop common.length = [] → ∃ p d', n = .leaf p d')
    (hkp : hasPrefix k n.pfx = true) (hc : f n k = some c) :
    f (forkNode k4 common (n.setPfx (n.pfx.drop common.length)) key d w id) k = some c := by
  have hkc := hasPrefix_trans _ _ _ hkp hcp
  have hks := hasPrefix_true_eq k common hkc
  have hkd := hasPrefix_dropN common.length k n.pfx hkp
  have hthis : f (n.setPfx (n.pfx.drop common.length)) (k.drop common.length) = some c := by
    have := hf.shift (n.setPfx (n.pfx.drop common.length)) common (k.drop common.length)
    rw [Node.pfx_setPfx, ← hasPrefix_true_eq _ _ hcp, setPfx_setPfx, setPfx_pfx, ← hks] at this
    rw [← this]; exact hc
  unfold forkNode
  rw [Node.pfx_setPfx]
  cases hth : n.pfx.drop common.length with
  | nil =>
    obtain ⟨p, d', hn⟩ := hnil hth
    subst hn
    rw [hth] at hthis
    obtain ⟨hex, hk0, hw⟩ := hf.leaf hthis
    simp only [Node.setPfx, Node.getLeaf]
    rw [hks, hk0, List.append_nil, hf.inner_self _ _ _ _ _ _ hex]; exact hw
  | cons tb ts =>
    rw [hth] at hkd hthis
    obtain ⟨r, hkr, _⟩ := hasPrefix_cons_inv _ tb ts hkd
    rw [hkr] at hthis
    cases key with
    | nil =>
      simp only
      rw [hf.deeper _ _ _ _ _ hkc hkr, hf.cons, if_pos rfl, hthis]; rfl
    | cons kb ks =>
      have hne := hdiv kb ks tb ts rfl hth
      simp only
      split
      · rw [hf.deeper _ _ _ _ _ hkc hkr, hf.cons, if_pos rfl, hthis]; rfl
      · rw [hf.deeper _ _ _ _ _ hkc hkr, hf.cons, if_neg hne, if_pos (by omega), hf.cons, if_pos rfl, hthis]; rfl

theorem fork_new (hf : Chan true f fK) (k4 : Nat) (common : List Nat) (this : Node) (key' : List Nat) (d : LeafD) (w id : Nat)
    {key : List Nat} (hcp : hasPrefix key common = true) (hk : key.drop common.length = key')
    (hdiv : ∀ kb ks tb ts, key' = kb :: ks → this.pfx = tb :: ts → kb ≠ tb) (hne : key' = [] → this.pfx ≠ [])
    (h0 : d.watch ≠ 0) : f (forkNode k4 common this key' d w id) key = some d.watch := by
  have hleaf : ∀ p, f (.leaf p d) p = some d.watch := fun p => (hf.leaf_self p d rfl).trans (nz_of_ne h0)
  unfold forkNode
  cases hth : this.pfx with
  | nil =>
    cases key' with
    | nil => exact absurd hth (hne rfl)
    | cons kb ks => simp only [List.headD_cons]; rw [hf.deeper _ _ _ _ _ hcp hk, hf.cons, if_pos rfl, hleaf]; rfl
  | cons tb ts =>
    cases key' with
    | nil =>
      simp only
      rw [hasPrefix_drop_nil _ _ hcp hk, hf.inner_self _ _ _ _ _ _ rfl]; exact nz_of_ne h0
    | cons kb ks =>
      have hne := hdiv kb ks tb ts rfl hth
      simp only
      split
      · rw [hf.deeper _ _ _ _ _ hcp hk, hf.cons, if_neg (fun e => hne e.symm), if_pos (by assumption), hf.cons, if_pos rfl,
          hleaf]; rfl
      · rw [hf.deeper _ _ _ _ _ hcp hk, hf.cons, if_pos rfl, hleaf]; rfl

theorem kids_eq (hf : Chan ex f fK) (b : Nat) (k : List Nat) : (kids : Kids) →
    fK kids b k = (kids.find b).bind fun n => f n k
  | .nil => by rw [hf.nil]; rfl
  | .cons a n r => by
    rw [hf.cons, Kids.find]
    split
    · rfl
    · split
      · exact hf.kids_eq b k r
      · rfl

theorem kids_some (hf : Chan ex f fK) {kids : Kids} {b : Nat} {k : List Nat} {c : Nat} :
    fK kids b k = some c ↔ ∃ n, kids.find b = some n ∧ f n k = some c := by
  rw [hf.kids_eq]; exact Option.bind_eq_some_iff

theorem set_frame (hf : Chan ex f fK) {B : Nat} {pend : List Nat} {kids : Kids} {b : Nat} {n n' : Node} {c : Nat}
    (hfind : kids.find b = some n) (hn : ∀ k2, f n k2 = some c → B ≤ c ∨ c ∈ pend ∨ f n' k2 = some c)
    (b2 : Nat) (k2 : List Nat) (h : fK kids b2 k2 = some c) :
    B ≤ c ∨ c ∈ pend ∨ fK (kids.set b n') b2 k2 = some c := by
  obtain ⟨m, hm, h⟩ := hf.kids_some.mp h
  by_cases hb : b = b2
  · subst hb
    rw [hfind] at hm; cases hm
    exact (hn k2 h).imp_right (Or.imp_right fun hx => hf.kids_some.mpr ⟨n', find_set_self b n' kids n hfind, hx⟩)
  · exact Or.inr (Or.inr (hf.kids_some.mpr ⟨m, by rw [find_set_ne hb]; exact hm, h⟩))

theorem erase_frame (hf : Chan ex f fK) {B : Nat} {pend : List Nat} {kids : Kids} {b : Nat} {n : Node} {c : Nat}
    (hfind : kids.find b = some n) (hn : ∀ k2, f n k2 = some c → B ≤ c ∨ c ∈ pend ∨ chR f none k2 = some c)
    (b2 : Nat) (k2 : List Nat) (h : fK kids b2 k2 = some c) :
    B ≤ c ∨ c ∈ pend ∨ fK (kids.erase b) b2 k2 = some c := by
  obtain ⟨m, hm, h⟩ := hf.kids_some.mp h
  by_cases hb : b2 = b
  · subst hb
    rw [hfind] at hm; cases hm
    exact (hn k2 h).imp_right (Or.imp_right nofun)
  · exact Or.inr (Or.inr (hf.kids_some.mpr ⟨m, find_erase hb kids hm, h⟩))

theorem insert_frame (hf : Chan ex f fK) {kids : Kids} {b : Nat} (hfind : kids.find b = none) (n : Node) {c : Nat}
    (b2 : Nat) (k2 : List Nat) (h : fK kids b2 k2 = some c) : fK (kids.insert b n) b2 k2 = some c := by
  obtain ⟨m, hm, h⟩ := hf.kids_some.mp h
  exact hf.kids_some.mpr ⟨m, find_insert n kids hfind hm, h⟩

/-- the channel of `k` at an inner node that the write of `key` goes below: the node's own, or one
    further down the same child -/
theorem below (hf : Chan ex f fK) {kind : Nat} {pfx : List Nat} {lf : Option LeafD} {kids : Kids} {w t : Nat}
    {key k : List Nat} {b : Nat} {r : List Nat} {c : Nat} (hk : key.drop pfx.length = b :: r)
    (hkk : hasPrefix key k = true) (hek : ex = true → key = k) (hc : f (.inner kind pfx lf kids w t) k = some c) :
    nz w = some c ∨ ∃ r' n, kids.find b = some n ∧ f n (b :: r') = some c ∧ hasPrefix (b :: r) (b :: r') = true ∧
      (ex = true → b :: r = b :: r') := by
  rcases hf.inner hc with h | ⟨he, hkp, _⟩ | ⟨hp, b', r', hk', h⟩
  · exact Or.inl h
  · rw [hek he, hkp, List.drop_length] at hk; cases hk
  · obtain ⟨_, r2, hk2, hkr⟩ := key_follows_prefix key k pfx b' r' hkk hp hk'
    rw [hk] at hk2; cases hk2
    obtain ⟨n, hfind, hn⟩ := hf.kids_some.mp h
    exact Or.inr ⟨r', n, hfind, hn, hkr, fun he => by rw [← hk, ← hk', hek he]⟩

/-- the channel of a prefix `k` of `pfx` at the inner node with that prefix: the node's own, or the entry's -/
theorem at_ (hf : Chan ex f fK) {kind : Nat} {pfx : List Nat} {lf : Option LeafD} {kids : Kids} {w t : Nat}
    {k : List Nat} {c : Nat} (hkk : hasPrefix pfx k = true) (hc : f (.inner kind pfx lf kids w t) k = some c) :
    nz w = some c ∨ (ex = true ∧ lfw lf = some c) := by
  rcases hf.inner hc with h | ⟨he, _, h⟩ | ⟨hp, b', r', hk', _⟩
  · exact Or.inl h
  · exact Or.inr ⟨he, h⟩
  · have h1 := hasPrefix_length _ _ hkk
    have h2 := congrArg List.length hk'
    simp only [List.length_drop, List.length_cons] at h2
    omega

end Chan

theorem pw_inner_eq (kind : Nat) (p : List Nat) (lf : Option LeafD) (kids : Kids) (nw t : Nat) (k : List Nat)
    (hp : hasPrefix k p = true) :
    pw (.inner kind p lf kids nw t) k =
      match k.drop p.length with
      | [] => lfw lf
      | b :: r => (pwK kids b (b :: r)).or (nz nw) := by
  unfold pw; simp only [hp, if_true]

theorem pwChan : Chan true pw pwK where
  nil := fun _ _ => by rw [pwK]
  cons := fun _ _ _ _ _ => by rw [pwK]
  leaf := fun {p d k c} h => by
    unfold pw at h
    split at h
    · rename_i hk; exact ⟨rfl, hasPrefix_drop_nil _ _ hk.1 hk.2, h⟩
    · cases h
  inner := fun {kind p lf kids nw t k c} h => by
    by_cases hp : hasPrefix k p = true
    · rw [pw_inner_eq _ _ _ _ _ _ _ hp] at h
      cases hk : List.drop p.length k with
      | nil => rw [hk] at h; exact Or.inr (Or.inl ⟨rfl, hasPrefix_drop_nil _ _ hp hk, h⟩)
      | cons b r =>
        rw [hk] at h
        rcases Option.or_eq_some_iff.1 h with h | ⟨_, h⟩
        · exact Or.inr (Or.inr ⟨hp, b, r, rfl, h⟩)
        · exact Or.inl h
    · unfold pw at h; rw [if_neg hp] at h; cases h
  leaf_self := fun p d _ => by rw [pw, if_pos ⟨hasPrefix_self p, List.drop_length⟩]
  inner_self := fun _ p _ _ _ _ _ => by rw [pw_inner_eq _ _ _ _ _ _ _ (hasPrefix_self p), List.drop_length]
  deeper := fun _ _ _ _ _ _ _ _ _ hp hk => by rw [pw_inner_eq _ _ _ _ _ _ _ hp, hk]
  shift := fun n _ _ => by
    cases n <;> simp only [Node.setPfx, Node.pfx, pw, hasPrefix_append_left, drop_append_same]

theorem pw_inner_rewatch (kind kind' : Nat) (p : List Nat) (lf : Option LeafD) (kids : Kids) (nw nw' t t' : Nat)
    (k : List Nat) (c : Nat) (h : pw (.inner kind p lf kids nw t) k = some c) :
    nz nw = some c ∨ pw (.inner kind' p lf kids nw' t') k = some c :=
  (pwChan.rewatch h).imp_right fun h => h.2 kind' nw' t'

/-! Frame: the path watch of ANY key is kept, or recorded, or the transaction's own.  Closure: that of the written key
    (of a prefix of it) is recorded or the transaction's own.  An insert clones the entry at the end of its key, which
    records the entry's channel only if the transaction's id is not the stamp 0 that entries report: hence `RecordsEntry`
    in the closure; for the frame a kept entry is as good as a recorded one. -/

/-- asked only where it matters: the tree has an entry (`l`, from `Marks q l`) and the path watch reads entries (`ex`) -/
def RecordsEntry (l : Prop) (ex : Bool) (rw : Option Nat) (id : Nat) : Prop := l → ex = true → rw.isSome → id ≠ 0

theorem RecordsEntry.of_delete {l : Prop} {ex : Bool} {id : Nat} : RecordsEntry l ex none id := fun _ _ h => nomatch h
theorem RecordsEntry.of_prefix {l : Prop} {rw : Option Nat} {id : Nat} : RecordsEntry l false rw id := fun _ h => nomatch h
theorem RecordsEntry.of_id {l : Prop} {ex : Bool} {rw : Option Nat} {id : Nat} (h : id ≠ 0) : RecordsEntry l ex rw id :=
  fun _ _ _ => h
theorem RecordsEntry.of_stamps {ex : Bool} {rw : Option Nat} {id : Nat} : RecordsEntry (0 ≠ id) ex rw id :=
  fun h _ _ => h.symm

theorem W.frame {ex : Bool} {f : Node → List Nat → Option Nat} {fK : Kids → Nat → List Nat → Option Nat}
    (hf : Chan ex f fK) {B : Nat} {l : Prop}
    {id : Nat} {st st' : St} {n : Node} {key : List Nat} {res : Option Node} {rw : Option Nat}
    (h : W id st n key st' res rw) : st.txnID = id → Marks (OFq id B) l n → ∀ k c, f n k = some c →
      B ≤ c ∨ c ∈ st'.pending ∨ chR f res k = some c := by
  induction h with
  | kid _ _ hfind hw hrw ih =>
    rintro rfl hs k c hc
    exact hf.inner_frame B _ _ _ _ _ _
      (hf.set_frame hfind fun k2 h2 => (ih rfl (hs.kid hfind) k2 c h2).imp_right (Or.imp_left (hrw.le.sub c)))
      (hrw.own_or_rec hw.le.id hs.hdr) (fun _ h => Or.inr (Or.inr h)) hc
  | slot _ _ hfind hre hrw =>
    rintro rfl hs k c hc
    exact hf.inner_frame B _ _ _ _ _ _ (fun b2 k2 hb => Or.inr (Or.inr (hf.insert_frame hfind _ b2 k2 hb)))
      (hrw.own_or_rec hre.le.id hs.hdr) (fun _ h => Or.inr (Or.inr h)) hc
  | atInner hrw hre =>
    rintro rfl hs k c hc
    exact hf.inner_frame B _ _ _ _ _ _ (fun _ _ hb => Or.inr (Or.inr hb))
      (fun h => (hrw.own_or_rec rfl hs.hdr h).imp_right (hre.le.sub c)) (fun _ h => Or.inr (hre.keep_or_rec h)) hc
  | atLeaf hre =>
    rintro rfl _ k c hc
    obtain ⟨he, rfl, hw⟩ := hf.leaf hc
    exact Or.inr ((hre.keep_or_rec hw).imp_right fun h => (hf.leaf_self _ _ he).trans h)
  | @fork st1 st2 st3 n this key k4 d w4 hex hno hin hre hrw =>
    rintro rfl hs k c hc
    have hcp2 := commonPrefix_hasPrefix_right key n.pfx
    have hdiv := (commonPrefix_split key n.pfx).2.2
    have hle := hre.le.trans hrw.le
    cases hin with
    | leaf p d0 =>
      obtain ⟨_, hkp, _⟩ := hf.leaf hc
      exact Or.inr (Or.inr (hf.fork _ _ (.leaf p d0) _ _ _ _ hcp2 hdiv (fun _ => ⟨p, d0, rfl⟩)
        (by rw [hkp]; exact hasPrefix_self p) hc))
    | @inner _ kind p lf kids w t w' hrw1 =>
      rcases hf.rewatch hc with h | ⟨hkp, h⟩
      · exact (hrw1.own_or_rec rfl hs.hdr h).imp_right fun hx => Or.inl (hle.sub c hx)
      · exact Or.inr (Or.inr (hf.fork _ _ (.inner kind p lf kids w' st.txnID) _ _ _ _ hcp2 hdiv
          (fun hth => absurd hth (fork_rest_ne_nil key p hex (hno rfl))) hkp (h kind w' _)))
  | kidGone _ _ hfind hw hrw ih =>
    rintro rfl hs k c hc
    exact hf.inner_frame B _ _ _ _ _ _
      (fun b2 k2 hb => (hf.erase_frame hfind (ih rfl (hs.kid hfind) · c) b2 k2 hb).imp_right
        (Or.imp_left (hrw.le.sub c)))
      (hrw.own_or_rec hw.le.id hs.hdr) (fun _ h => Or.inr (Or.inr h)) hc
  | @kidGoneMerge st1 kind pfx kids w t key b r n a child _ _ hfind hw hkk ih =>
    rintro rfl hs k c hc
    have hkids := fun b2 k2 hb => (hf.erase_frame hfind (ih rfl (hs.kid hfind) · c) b2 k2 hb).imp_right
        (Or.imp_left ((record_le st1 w).sub c))
    rw [hkk] at hkids
    exact hf.merge_frame B _ a child hkids (fun h => Or.inr (mem_of_nz h (record_mem _ w)))
      (fun h => by simp [lfw] at h) hc
  | delLeaf =>
    rintro rfl _ k c hc
    exact Or.inr (Or.inl (mem_of_nz (hf.leaf_watch hc) (record_mem _ _)))
  | delMerge kind pfx d a child w t =>
    rintro rfl _ k c hc
    exact hf.merge_frame (lf := some d) B _ a child (fun _ _ hb => Or.inr (Or.inr hb)) (fun h => Or.inr (mem_of_nz h (record_mem _ w)))
      (fun h => Or.inr ((record_le _ w).sub c (mem_of_nz (w := d.watch) h (record_mem st d.watch)))) hc
  | @delClone st2 kind pfx d kids w t w' hrw =>
    rintro rfl hs k c hc
    exact hf.inner_frame (lf := some d) B _ _ _ _ _ _ (fun _ _ hb => Or.inr (Or.inr hb)) (hrw.own_or_rec (record_le _ _).id hs.hdr)
      (fun _ h => Or.inr (Or.inl (hrw.le.sub c (mem_of_nz (w := d.watch) h (record_mem st d.watch))))) hc
  | delGone kind pfx d w t =>
    rintro rfl _ k c hc
    rcases hf.inner hc with h | ⟨_, _, h⟩ | ⟨_, b, r, _, h⟩
    · exact Or.inr (Or.inl (mem_of_nz h (record_mem _ w)))
    · exact Or.inr (Or.inl ((record_le _ w).sub c (mem_of_nz (w := d.watch) h (record_mem st d.watch))))
    · rw [hf.nil] at h; cases h

theorem W.closes {ex : Bool} {f : Node → List Nat → Option Nat} {fK : Kids → Nat → List Nat → Option Nat}
    (hf : Chan ex f fK) {B : Nat} {l : Prop} {id : Nat} {st st' : St} {n : Node} {key : List Nat} {res : Option Node}
    {rw : Option Nat} (h : W id st n key st' res rw) : st.txnID = id → Marks (OFq id B) l n →
    RecordsEntry l ex rw id → ∀ k, hasPrefix key k = true → (ex = true → key = k) → ∀ c, f n k = some c →
      B ≤ c ∨ c ∈ st'.pending := by
  induction h with
  | kid _ hk hfind hw hrw ih =>
    rintro rfl hs hid k hkk hek c hc
    rcases hf.below hk hkk hek hc with h | ⟨r', n', hfind', hn, hkr, her⟩
    · exact hrw.own_or_rec hw.le.id hs.hdr h
    · cases hfind.symm.trans hfind'
      exact (ih rfl (hs.kid hfind) hid _ hkr her c hn).imp_right (hrw.le.sub c)
  | slot _ hk hfind hre hrw =>
    rintro rfl hs _ k hkk hek c hc
    rcases hf.below hk hkk hek hc with h | ⟨_, _, hfind', _⟩
    · exact hrw.own_or_rec hre.le.id hs.hdr h
    · rw [hfind] at hfind'; cases hfind'
  | atInner hrw hre =>
    rintro rfl hs hid k hkk _ c hc
    rcases hf.at_ hkk hc with h | ⟨he, h⟩
    · exact (hrw.own_or_rec rfl hs.hdr h).imp_right (hre.le.sub c)
    · obtain ⟨d, rfl, _⟩ := lfw_some h
      exact Or.inr (hre.recorded (by rw [hrw.le.id]; exact hid (hs.entry rfl) he rfl) h)
  | atLeaf hre =>
    rintro rfl hs hid k _ _ c hc
    obtain ⟨he, _, hw⟩ := hf.leaf hc
    exact Or.inr (hre.recorded (hid hs he rfl) hw)
  | @fork st1 st2 st3 n this key k4 d w4 hex hno hin hre hrw =>
    rintro rfl hs _ k hkk hek c hc
    cases hin with
    | leaf p d0 =>
      obtain ⟨he, hkp, _⟩ := hf.leaf hc
      exact absurd ((hek he).trans hkp) hex
    | @inner _ kind p lf kids w t w' hrw1 =>
      rcases hf.inner hc with h | ⟨he, hkp, _⟩ | ⟨hp, b, r, hk, _⟩
      · exact (hrw1.own_or_rec rfl hs.hdr h).imp_right ((hre.le.trans hrw.le).sub c)
      · exact absurd ((hek he).trans hkp) hex
      · obtain ⟨hp', r', hk', _⟩ := key_follows_prefix key k p b r hkk hp hk
        have hl := congrArg List.length hk'
        simp only [List.length_drop, List.length_cons] at hl
        exact absurd ⟨fun e => by rw [e] at hl; simp at hl, hp', fun e => by rw [Node.pfx] at e; omega⟩ (hno rfl)
  | kidGone _ hk hfind hw hrw ih =>
    rintro rfl hs hid k hkk hek c hc
    rcases hf.below hk hkk hek hc with h | ⟨r', n', hfind', hn, hkr, her⟩
    · exact hrw.own_or_rec hw.le.id hs.hdr h
    · cases hfind.symm.trans hfind'
      exact (ih rfl (hs.kid hfind) hid _ hkr her c hn).imp_right (hrw.le.sub c)
  | kidGoneMerge _ hk hfind hw _ ih =>
    rintro rfl hs hid k hkk hek c hc
    rcases hf.below hk hkk hek hc with h | ⟨r', n', hfind', hn, hkr, her⟩
    · exact Or.inr (mem_of_nz h (record_mem _ _))
    · cases hfind.symm.trans hfind'
      exact (ih rfl (hs.kid hfind) hid _ hkr her c hn).imp_right ((record_le _ _).sub c)
  | delLeaf => rintro rfl _ _ k _ _ c hc; exact Or.inr (mem_of_nz (hf.leaf_watch hc) (record_mem _ _))
  | delMerge kind pfx d a child w t =>
    rintro rfl _ _ k hkk _ c hc
    rcases hf.at_ hkk hc with h | ⟨_, h⟩
    · exact Or.inr (mem_of_nz h (record_mem _ w))
    · exact Or.inr ((record_le _ w).sub c (mem_of_nz (w := d.watch) h (record_mem st d.watch)))
  | @delClone st2 kind pfx d kids w t w' hrw =>
    rintro rfl hs _ k hkk _ c hc
    rcases hf.at_ hkk hc with h | ⟨_, h⟩
    · exact hrw.own_or_rec (record_le _ _).id hs.hdr h
    · exact Or.inr (hrw.le.sub c (mem_of_nz (w := d.watch) h (record_mem st d.watch)))
  | delGone kind pfx d w t =>
    rintro rfl _ _ k hkk _ c hc
    rcases hf.at_ hkk hc with h | ⟨_, h⟩
    · exact Or.inr (mem_of_nz h (record_mem _ w))
    · exact Or.inr ((record_le _ w).sub c (mem_of_nz (w := d.watch) h (record_mem st d.watch)))

section
variable {ex : Bool} {f : Node → List Nat → Option Nat} {fK : Kids → Nat → List Nat → Option Nat} {B : Nat} {l : Prop}
  {id : Nat} {st st' : St} {root root' : Option Node} {key : List Nat} {rw : Option Nat}

theorem WR.frame (hf : Chan ex f fK) (h : WR id st root key st' root' rw) (hid : st.txnID = id)
    (hs : ∀ r, root = some r → Marks (OFq id B) l r) (k : List Nat) (c : Nat) (hc : chR f root k = some c) :
    B ≤ c ∨ c ∈ st'.pending ∨ chR f root' k = some c := by
  cases h with
  | node h => exact h.frame hf hid (hs _ rfl) k c hc
  | first _ => cases hc

theorem WR.closes (hf : Chan ex f fK) (h : WR id st root key st' root' rw) (hid : st.txnID = id)
    (hs : ∀ r, root = some r → Marks (OFq id B) l r) (hl : RecordsEntry l ex rw id) (k : List Nat)
    (hkk : hasPrefix key k = true) (hek : ex = true → key = k) (c : Nat) (hc : chR f root k = some c) :
    B ≤ c ∨ c ∈ st'.pending := by
  cases h with
  | node h => exact h.closes hf hid (hs _ rfl) hl k hkk hek c hc
  | first _ => cases hc

end

namespace Chan
variable {ex : Bool} {f : Node → List Nat → Option Nat} {fK : Kids → Nat → List Nat → Option Nat} {l : Prop}

theorem insKids_frame (hf : Chan ex f fK) (P : ArtParams) (st : St) (B : Nat)
    (kids : Kids) (b' : Nat) (key full : List Nat) (val : Nat) (mod : Option (Nat → Nat → Nat))
    (r : InsRes) (kids' : Kids) (hs : MarksK (OFq st.txnID B) l kids)
    (h : insKids P st kids b' key full val mod = some (r, kids')) (b : Nat) (k2 : List Nat) (c : Nat)
    (hb : fK kids b k2 = some c) : B ≤ c ∨ c ∈ r.st.pending ∨ fK kids' b k2 = some c := by
  obtain ⟨n, hfind, rfl, rfl⟩ := insKids_some h
  exact hf.set_frame hfind (fun k2 => (insNode_W P st n key full val mod).frame hf rfl (MarksK.find _ hs hfind) k2 c) b k2 hb

theorem insKids_closes (hf : Chan ex f fK) (P : ArtParams) (st : St) (B : Nat)
    (kids : Kids) (b : Nat) (key full : List Nat) (val : Nat) (mod : Option (Nat → Nat → Nat)) (k : List Nat)
    (hs : MarksK (OFq st.txnID B) l kids) (hl : ∀ w, RecordsEntry l ex (some w) st.txnID) (hkk : hasPrefix key k = true)
    (hek : ex = true → key = k) (c : Nat) (hc : fK kids b k = some c) :
    ∃ r kids', insKids P st kids b key full val mod = some (r, kids') ∧ (B ≤ c ∨ c ∈ r.st.pending) := by
  obtain ⟨n, hfind, hn⟩ := hf.kids_some.mp hc
  rw [insKids_eq_find, hfind]
  exact ⟨_, _, rfl, (insNode_W P st n key full val mod).closes hf rfl (MarksK.find _ hs hfind) (hl _) k hkk hek c hn⟩

theorem delKids_frame (hf : Chan ex f fK) (P : ArtParams) (st : St) (B : Nat) (kids : Kids) (b' : Nat) (key : List Nat)
    (r : DelRes) (kids' : Kids) (st' : St) (hs : MarksK (OFq st.txnID B) l kids)
    (h : delKids P st kids b' key = some (r, kids')) (hr : delSt r = some st') (b : Nat) (k2 : List Nat) (c : Nat)
    (hb : fK kids b k2 = some c) :
    B ≤ c ∨ c ∈ st'.pending ∨ fK (delKidsOut r kids kids' b') b k2 = some c := by
  obtain ⟨n, hfind, hdn, hk'⟩ := delKids_some h
  have ih := fun k2 => (delNode_W P st n key st' (by rw [hdn]; exact hr)).frame hf rfl (MarksK.find _ hs hfind) k2 c
  rw [hdn] at ih
  cases r with
  | notFound => cases hr
  | replaced s n' o =>
    simp only [delKidsOut]
    rw [hk']
    exact hf.set_frame hfind ih b k2 hb
  | removed s o =>
    simp only [delKidsOut]
    exact hf.erase_frame hfind ih b k2 hb

theorem delKids_closes (hf : Chan ex f fK) (P : ArtParams) (st : St) (B : Nat) (kids : Kids) (b : Nat) (key k : List Nat)
    (r : DelRes) (kids' : Kids) (st' : St) (hs : MarksK (OFq st.txnID B) l kids) (hkk : hasPrefix key k = true)
    (hek : ex = true → key = k) (h : delKids P st kids b key = some (r, kids')) (hr : delSt r = some st') (c : Nat)
    (hc : fK kids b k = some c) : B ≤ c ∨ c ∈ st'.pending := by
  obtain ⟨n, hfind, hn⟩ := hf.kids_some.mp hc
  obtain ⟨n', hfind', hdn, _⟩ := delKids_some h
  rw [hfind] at hfind'; cases hfind'
  exact (delNode_W P st n key st' (by rw [hdn]; exact hr)).closes hf rfl (MarksK.find _ hs hfind) .of_delete
    k hkk hek c hn

end Chan


theorem searchK_find (b w : Nat) (key : List Nat) : (kids : Kids) →
    searchK kids b w key = match kids.find b with
      | some n => searchNode n w key
      | none => (none, w)
  | .nil => by simp only [searchK, Kids.find]
  | .cons c n r => by
    rw [searchK, Kids.find]
    split
    · rfl
    · split
      · exact searchK_find b w key r
      · rfl

theorem nz_getD (nw w : Nat) : (nz nw).getD w = if nw ≠ 0 then nw else w := by
  unfold nz; split <;> rfl

theorem search_eq_pw : (n : Node) → (w : Nat) → (key : List Nat) → (searchNode n w key).2 = (pw n key).getD w := by
  intro n
  induction n using find_induct with
  | leaf p d =>
    intro w key
    unfold searchNode pw
    simp only [Node.pfx, Node.getLeaf]
    by_cases hp : hasPrefix key p = true
    · cases hk : List.drop p.length key with
      | nil => simp only [hp, if_true, and_self, nz_getD]
      | cons b r => simp [hp]
    · simp [hp]
  | inner kind p lf kids nw t ih =>
    intro w key
    unfold searchNode pw
    simp only [Node.pfx, Node.getLeaf]
    by_cases hp : hasPrefix key p = true
    · simp only [hp, if_true]
      cases hk : List.drop p.length key with
      | nil =>
        cases lf with
        | none => rfl
        | some d => simp only [lfw, nz_getD]
      | cons b r =>
        simp only
        rw [searchK_find, pwChan.kids_eq]
        cases hfind : kids.find b with
        | none => simp only [Option.bind_none, Option.none_or, nz_getD]
        | some n =>
          simp only [Option.bind_some]
          rw [ih b n hfind]
          cases pw n (b :: r) with
          | some c => rfl
          | none => simp only [Option.none_or, Option.getD_none, nz_getD]
    · simp [hp]

theorem searchK_eq_pw : (kids : Kids) → (b w : Nat) → (key : List Nat) →
    (searchK kids b w key).2 = (pwK kids b key).getD w := by
  intro kids b w key
  rw [searchK_find, pwChan.kids_eq]
  cases kids.find b with
  | none => rfl
  | some n => exact search_eq_pw n w key

theorem insKids_closes_mixed (P : ArtParams) (st : St) (B : Nat) (hid : st.txnID ≠ 0) : (kids : Kids) → (b : Nat) →
    (key full : List Nat) → (val : Nat) → (mod : Option (Nat → Nat → Nat)) → InnerK (OFq st.txnID B) kids →
    ∀ c, pwK kids b key = some c →
    match insKids P st kids b key full val mod with
    | some (r, _) => B ≤ c ∨ c ∈ r.st.pending
    | none => B ≤ c :=
  fun kids b key full val mod hs c hc => by
    obtain ⟨r, kids', h, hr⟩ :=
      pwChan.insKids_closes P st B kids b key full val mod key (hs.marks trivial) (fun _ => .of_id hid) (hasPrefix_self key)
        (fun _ => rfl) c hc
    rw [h]; exact hr

theorem delKids_closes_mixed (P : ArtParams) (st : St) (B : Nat) : (kids : Kids) → (b : Nat) → (key : List Nat) →
    (r : DelRes) → (kids' : Kids) → (st' : St) → InnerK (OFq st.txnID B) kids →
    delKids P st kids b key = some (r, kids') → delSt r = some st' →
    ∀ c, pwK kids b key = some c → B ≤ c ∨ c ∈ st'.pending :=
  fun kids b key r kids' st' hs =>
    pwChan.delKids_closes P st B kids b key key r kids' st' (hs.marks trivial) (hasPrefix_self key) (fun _ => rfl)

theorem insKids_frame (P : ArtParams) (st : St) (B : Nat) (hid : st.txnID ≠ 0) : (kids : Kids) → (b' : Nat) →
    (key full : List Nat) → (val : Nat) → (mod : Option (Nat → Nat → Nat)) → (r : InsRes) → (kids' : Kids) →
    InnerK (OFq st.txnID B) kids → insKids P st kids b' key full val mod = some (r, kids') →
    ∀ b k2 c, pwK kids b k2 = some c → B ≤ c ∨ c ∈ r.st.pending ∨ pwK kids' b k2 = some c :=
  fun kids b' key full val mod r kids' hs => pwChan.insKids_frame P st B kids b' key full val mod r kids' (hs.marks trivial)

theorem delKids_frame (P : ArtParams) (st : St) (B : Nat) : (kids : Kids) → (b' : Nat) → (key : List Nat) →
    (r : DelRes) → (kids' : Kids) → (st' : St) → InnerK (OFq st.txnID B) kids →
    delKids P st kids b' key = some (r, kids') → delSt r = some st' →
    ∀ b k2 c, pwK kids b k2 = some c → B ≤ c ∨ c ∈ st'.pending ∨ pwK (delKidsOut r kids kids' b') b k2 = some c :=
  fun kids b' key r kids' st' hs => pwChan.delKids_frame P st B kids b' key r kids' st' (hs.marks trivial)

end Sdb.ArtW
