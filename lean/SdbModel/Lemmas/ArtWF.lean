import SdbModel.Model.Art
import SdbModel.Lemmas.Enc

/-! The well-formedness invariant of the adaptive radix tree model (`Model.Art`), the abstract lookup
    `look` on association lists, and how `entries` / `searchNode` relate to it.  Also what the contents and
    the watch side both need of `hasPrefix` and `commonPrefix` (`pfx_cases`, `commonPrefix_split`, `insAt_cond`), and
    `forkNode`, the node that a partial match builds. -/
namespace Sdb.Art

def Kids.keys : Kids → List Nat
  | .nil => []
  | .cons b _ r => b :: keys r

mutual
/-- well-formedness of a subtree whose path from the root spells `acc`:
    every stored key is the path to its leaf, each child's compressed prefix
    starts with the byte it is stored under, children strictly ascend. -/
def WFNode (acc : List Nat) : Node → Prop
  | .leaf p d => d.key = acc ++ p
  | .inner _ p lf kids _ _ => (∀ d, lf = some d → d.key = acc ++ p) ∧ WFKids (acc ++ p) kids
def WFKids (acc : List Nat) : Kids → Prop
  | .nil => True
  | .cons b n r => (∃ t, n.pfx = b :: t) ∧ WFNode acc n ∧ (∀ c ∈ r.keys, b < c) ∧ WFKids acc r
end

theorem WFNode.lf_key {acc p : List Nat} {k w t : Nat} {lf : Option LeafD} {kids : Kids}
    (h : WFNode acc (.inner k p lf kids w t)) {d : LeafD} (hd : lf = some d) : d.key = acc ++ p := h.1 d hd

theorem WFNode.kids {acc p : List Nat} {k w t : Nat} {lf : Option LeafD} {kids : Kids}
    (h : WFNode acc (.inner k p lf kids w t)) : WFKids (acc ++ p) kids := h.2

theorem WFKids.head {acc : List Nat} {b : Nat} {n : Node} {r : Kids} (h : WFKids acc (.cons b n r)) : WFNode acc n :=
  h.2.1

/-- first value stored under key `k` (the abstract `Get`) -/
def look : List (List Nat × Nat) → List Nat → Option Nat
  | [], _ => none
  | (a, v) :: r, k => if a = k then some v else look r k

@[simp] theorem look_nil (k : List Nat) : look [] k = none := rfl
theorem look_cons (a : List Nat) (v : Nat) (r : List (List Nat × Nat)) (k : List Nat) :
    look ((a, v) :: r) k = if a = k then some v else look r k := rfl

theorem look_eq_none_iff (l : List (List Nat × Nat)) (k : List Nat) :
    look l k = none ↔ ∀ e ∈ l, e.1 ≠ k := by
  induction l with
  | nil => exact ⟨fun _ _ h => (nomatch h), fun _ => rfl⟩
  | cons x r ih =>
    obtain ⟨a, v⟩ := x
    rw [look_cons, List.forall_mem_cons]
    by_cases h : a = k
    · rw [if_pos h]; exact ⟨fun h' => (nomatch h'), fun h' => absurd h h'.1⟩
    · rw [if_neg h, ih]; exact ⟨fun h' => ⟨h, h'⟩, And.right⟩

theorem look_append (l₁ l₂ : List (List Nat × Nat)) (k : List Nat) :
    look (l₁ ++ l₂) k = match look l₁ k with | some v => some v | none => look l₂ k := by
  induction l₁ with
  | nil => simp
  | cons x r ih =>
    obtain ⟨a, v⟩ := x
    simp only [List.cons_append, look_cons]
    by_cases h : a = k
    · simp [h]
    · simp [h, ih]

theorem look_append_of_none (l₁ l₂ : List (List Nat × Nat)) (k : List Nat) (h : look l₁ k = none) :
    look (l₁ ++ l₂) k = look l₂ k := by
  rw [look_append, h]

theorem look_append_of_none_right (l₁ l₂ : List (List Nat × Nat)) (k : List Nat) (h : look l₂ k = none) :
    look (l₁ ++ l₂) k = look l₁ k := by
  rw [look_append, h]; cases look l₁ k <;> rfl

theorem look_some_mem (l : List (List Nat × Nat)) (k : List Nat) (v : Nat) (h : look l k = some v) :
    (k, v) ∈ l := by
  induction l with
  | nil => simp at h
  | cons x r ih =>
    obtain ⟨a, w⟩ := x
    rw [look_cons] at h
    by_cases hk : a = k
    · simp [hk] at h; simp [hk, h]
    · simp [hk] at h; exact List.mem_cons_of_mem _ (ih h)

/-! The insertion and deletion proofs describe the new entries by their members (`e.1 ≠ k ∧ e ∈ old`, plus the
new binding); these lemmas carry such a description from a child to the node around it. -/

section
variable {k : List Nat} {A A' B B' : List (List Nat × Nat)}

theorem mem_del_cons {v : Nat} (hB : ∀ e ∈ B, e.1 ≠ k) (e : List Nat × Nat) :
    e ∈ B ↔ e.1 ≠ k ∧ e ∈ (k, v) :: B := by
  rw [List.mem_cons]
  exact ⟨fun h => ⟨hB e h, .inr h⟩, fun ⟨h0, h⟩ => h.resolve_left fun he => h0 (by rw [he])⟩

theorem mem_del_append_right (hA : ∀ e ∈ A, e.1 ≠ k) (hB : ∀ e, e ∈ B' ↔ e.1 ≠ k ∧ e ∈ B) (e : List Nat × Nat) :
    e ∈ A ++ B' ↔ e.1 ≠ k ∧ e ∈ A ++ B := by
  rw [List.mem_append, List.mem_append, hB, and_or_left]
  exact or_congr_left ⟨fun h => ⟨hA e h, h⟩, And.right⟩

theorem mem_del_append_left (hA : ∀ e, e ∈ A' ↔ e.1 ≠ k ∧ e ∈ A) (hB : ∀ e ∈ B, e.1 ≠ k) (e : List Nat × Nat) :
    e ∈ A' ++ B ↔ e.1 ≠ k ∧ e ∈ A ++ B := by
  rw [List.mem_append, List.mem_append, hA, and_or_left]
  exact or_congr_right ⟨fun h => ⟨hB e h, h⟩, And.right⟩

theorem mem_ins_append_right {x : List Nat × Nat} (hA : ∀ e ∈ A, e.1 ≠ k)
    (hB : ∀ e, e ∈ B' ↔ e = x ∨ (e.1 ≠ k ∧ e ∈ B)) (e : List Nat × Nat) :
    e ∈ A ++ B' ↔ e = x ∨ (e.1 ≠ k ∧ e ∈ A ++ B) := by
  rw [List.mem_append, List.mem_append, hB, and_or_left, or_left_comm]
  exact or_congr_right (or_congr_left ⟨fun h => ⟨hA e h, h⟩, And.right⟩)

theorem mem_ins_append_left {x : List Nat × Nat} (hA : ∀ e, e ∈ A' ↔ e = x ∨ (e.1 ≠ k ∧ e ∈ A))
    (hB : ∀ e ∈ B, e.1 ≠ k) (e : List Nat × Nat) :
    e ∈ A' ++ B ↔ e = x ∨ (e.1 ≠ k ∧ e ∈ A ++ B) := by
  rw [List.mem_append, List.mem_append, hA, and_or_left, or_assoc]
  exact or_congr_right (or_congr_right ⟨fun h => ⟨hB e h, h⟩, And.right⟩)

theorem mem_ins_head {x : List Nat × Nat} (hA : ∀ e ∈ A, e.1 = k)
    (hB : ∀ e ∈ B, e.1 ≠ k) (e : List Nat × Nat) : e ∈ x :: B ↔ e = x ∨ (e.1 ≠ k ∧ e ∈ A ++ B) := by
  rw [List.mem_cons, List.mem_append]
  exact or_congr_right ⟨fun h => ⟨hB e h, .inr h⟩, fun ⟨h0, h⟩ => h.resolve_left fun h => h0 (hA e h)⟩

theorem mem_ins_of_absent {x : List Nat × Nat} (hA : ∀ e ∈ A, e.1 ≠ k) (hA' : ∀ e, e ∈ A' ↔ e = x ∨ e ∈ A)
    (e : List Nat × Nat) : e ∈ A' ↔ e = x ∨ (e.1 ≠ k ∧ e ∈ A) := by
  rw [hA']
  exact or_congr_right ⟨fun h => ⟨hA e h, h⟩, And.right⟩
end

def lfList : Option LeafD → List (List Nat × Nat)
  | some d => [(d.key, d.val)]
  | none => []

theorem lfList_key {lf : Option LeafD} {x : List Nat} (hlf : ∀ d, lf = some d → d.key = x) :
    ∀ e ∈ lfList lf, e.1 = x := by
  intro e he
  cases lf with
  | none => exact nomatch he
  | some d => rw [List.mem_singleton.mp he]; exact hlf d rfl

theorem entries_inner (k : Nat) (p : List Nat) (lf : Option LeafD) (kids : Kids) (w t : Nat) :
    entries (.inner k p lf kids w t) = lfList lf ++ entriesK kids := by
  cases lf <;> rfl

theorem entries_leaf (p : List Nat) (d : LeafD) : entries (.leaf p d) = [(d.key, d.val)] := rfl

@[simp] theorem Node.pfx_setPfx (p : List Nat) (n : Node) : (n.setPfx p).pfx = p := by
  cases n <;> rfl

@[simp] theorem entries_setPfx (p : List Nat) (n : Node) : entries (n.setPfx p) = entries n := by
  cases n <;> simp [Node.setPfx, entries]

@[simp] theorem Node.getLeaf_setPfx (p : List Nat) (n : Node) : (n.setPfx p).getLeaf = n.getLeaf := by
  cases n <;> rfl

theorem Node.isLeaf_setPfx (p : List Nat) (n : Node) : (n.setPfx p).isLeaf = n.isLeaf := by
  cases n <;> rfl

theorem WFNode_setPfx (acc acc' p' : List Nat) (n : Node) (h : acc ++ n.pfx = acc' ++ p') :
    WFNode acc n → WFNode acc' (n.setPfx p') := by
  cases n with
  | leaf p d => simp only [Node.pfx] at h; simp [WFNode, Node.setPfx, h]
  | inner k p lf kids w t => simp only [Node.pfx] at h; simp [WFNode, Node.setPfx, h]

theorem cloneNode_leaf (st : St) (p : List Nat) (d : LeafD) :
    ∃ st' w, cloneNode st (.leaf p d) = (st', .leaf p { d with watch := w }) := by
  unfold cloneNode
  split
  · exact ⟨st, d.watch, rfl⟩
  · exact ⟨_, _, rfl⟩

theorem cloneNode_inner (st : St) (k : Nat) (p : List Nat) (lf : Option LeafD) (kids : Kids) (w t : Nat) :
    ∃ st' w' t', cloneNode st (.inner k p lf kids w t) = (st', .inner k p lf kids w' t') := by
  unfold cloneNode
  split
  · exact ⟨st, w, t, rfl⟩
  · exact ⟨_, _, _, rfl⟩

theorem cloneLeafD_eq (st : St) (d : LeafD) : ∃ st' w, cloneLeafD st d = (st', { d with watch := w }) := by
  unfold cloneLeafD
  split
  · exact ⟨st, d.watch, rfl⟩
  · exact ⟨_, _, rfl⟩

theorem newLeafD_eq (st : St) (full : List Nat) (val : Nat) :
    ∃ st' w, newLeafD st full val = (st', { key := full, val := val, watch := w }) := ⟨_, _, rfl⟩

@[simp] theorem cloneNode_pfx (st : St) (n : Node) : (cloneNode st n).2.pfx = n.pfx := by
  cases n with
  | leaf p d => obtain ⟨st', w, h⟩ := cloneNode_leaf st p d; rw [h]; rfl
  | inner k p lf kids w t => obtain ⟨st', w', t', h⟩ := cloneNode_inner st k p lf kids w t; rw [h]; rfl

@[simp] theorem cloneNode_entries (st : St) (n : Node) : entries (cloneNode st n).2 = entries n := by
  cases n with
  | leaf p d => obtain ⟨st', w, h⟩ := cloneNode_leaf st p d; rw [h]; simp [entries]
  | inner k p lf kids w t => obtain ⟨st', w', t', h⟩ := cloneNode_inner st k p lf kids w t; rw [h]; simp [entries]

theorem cloneNode_WF (st : St) (acc : List Nat) (n : Node) (h : WFNode acc n) : WFNode acc (cloneNode st n).2 := by
  cases n with
  | leaf p d => obtain ⟨st', w, e⟩ := cloneNode_leaf st p d; rw [e]; simpa [WFNode] using h
  | inner k p lf kids w t => obtain ⟨st', w', t', e⟩ := cloneNode_inner st k p lf kids w t; rw [e]; simpa [WFNode] using h

mutual
theorem entries_pfx (acc : List Nat) : (n : Node) → WFNode acc n → ∀ e ∈ entries n, ∃ t, e.1 = acc ++ n.pfx ++ t
  | .leaf p d, h => by
    intro e he
    simp only [entries, List.mem_singleton] at he
    simp only [WFNode] at h
    exact ⟨[], by simp [he, h, Node.pfx]⟩
  | .inner k p lf kids w t, h => by
    intro e he
    simp only [WFNode] at h
    simp only [entries, List.mem_append] at he
    rcases he with he | he
    · cases lf with
      | none => simp at he
      | some d =>
        simp only [List.mem_singleton] at he
        exact ⟨[], by simp [he, h.1 d rfl, Node.pfx]⟩
    · obtain ⟨c, _, t', ht'⟩ := entriesK_pfx (acc ++ p) kids h.2 e he
      exact ⟨c :: t', by simp [ht', Node.pfx]⟩
theorem entriesK_pfx (acc : List Nat) : (kids : Kids) → WFKids acc kids →
    ∀ e ∈ entriesK kids, ∃ c ∈ kids.keys, ∃ t, e.1 = acc ++ c :: t
  | .nil, _ => by intro e he; simp [entriesK] at he
  | .cons b n r, h => by
    intro e he
    simp only [WFKids] at h
    obtain ⟨⟨t, hp⟩, hn, _, hr⟩ := h
    simp only [entriesK, List.mem_append] at he
    rcases he with he | he
    · obtain ⟨t', ht'⟩ := entries_pfx acc n hn e he
      exact ⟨b, by simp [Kids.keys], t ++ t', by simp [ht', hp]⟩
    · obtain ⟨c, hc, t', ht'⟩ := entriesK_pfx acc r hr e he
      exact ⟨c, by simp [Kids.keys, hc], t', ht'⟩
end

theorem commonPrefix_self (a : List Nat) : commonPrefix a a = a := by
  induction a with
  | nil => rfl
  | cons x xs ih => simp [commonPrefix, ih]

theorem commonPrefix_split (a b : List Nat) :
    a = commonPrefix a b ++ a.drop (commonPrefix a b).length ∧
    b = commonPrefix a b ++ b.drop (commonPrefix a b).length ∧
    ∀ x t y s, a.drop (commonPrefix a b).length = x :: t → b.drop (commonPrefix a b).length = y :: s → x ≠ y := by
  induction a generalizing b with
  | nil => exact ⟨rfl, by cases b <;> rfl, fun _ _ _ _ h => nomatch h⟩
  | cons x xs ih =>
    cases b with
    | nil => exact ⟨rfl, rfl, fun _ _ _ _ _ h => nomatch h⟩
    | cons y ys =>
      simp only [commonPrefix]
      split
      · rename_i h
        subst h
        obtain ⟨h1, h2, h3⟩ := ih ys
        exact ⟨congrArg (x :: ·) h1, congrArg (x :: ·) h2, h3⟩
      · rename_i h
        exact ⟨rfl, rfl, fun _ _ _ _ ha hb => by cases ha; cases hb; exact h⟩

theorem insAt_cond (key p : List Nat) :
    (key.length = (commonPrefix key p).length ∧ key.length = p.length) ↔ key = p := by
  constructor
  · -- the common prefix is a prefix of both, as long as both: it is both
    rintro ⟨h1, h2⟩
    have e1 : commonPrefix key p = key :=
      List.IsPrefix.eq_of_length ⟨_, (commonPrefix_split key p).1.symm⟩ h1.symm
    have e2 : commonPrefix key p = p :=
      List.IsPrefix.eq_of_length ⟨_, (commonPrefix_split key p).2.1.symm⟩ (h1.symm.trans h2)
    exact e1.symm.trans e2
  · rintro rfl
    rw [commonPrefix_self]; exact ⟨rfl, rfl⟩

theorem hasPrefix_true_eq (k p : List Nat) (h : hasPrefix k p = true) : k = p ++ k.drop p.length := by
  have := (hasPrefix_iff k p).mp h
  exact (List.prefix_iff_eq_append.mp this).symm

theorem hasPrefix_append_self (p t : List Nat) : hasPrefix (p ++ t) p = true :=
  (hasPrefix_iff _ _).mpr (List.prefix_append p t)

theorem hasPrefix_false_ne (k p : List Nat) (h : hasPrefix k p = false) (t : List Nat) : k ≠ p ++ t := by
  intro e
  rw [e, hasPrefix_append_self] at h
  exact Bool.noConfusion h

theorem hasPrefix_self (p : List Nat) : hasPrefix p p = true :=
  (hasPrefix_iff p p).mpr (List.prefix_refl p)

/-- the three ways a descent meets a node (`_miss`, `_at`, `_below` in the names of lemmas): the key
    leaves the node's prefix, ends with it, or goes on below it -/
theorem pfx_cases (key pfx : List Nat) :
    hasPrefix key pfx = false ∨ key = pfx ∨ ∃ b r, key = pfx ++ b :: r := by
  cases h : hasPrefix key pfx with
  | false => exact .inl rfl
  | true =>
    have hk := hasPrefix_true_eq key pfx h
    cases hd : key.drop pfx.length with
    | nil => rw [hd, List.append_nil] at hk; exact .inr (.inl hk)
    | cons b r => rw [hd] at hk; exact .inr (.inr ⟨b, r, hk⟩)

theorem lookK_none (acc : List Nat) (kids : Kids) (h : WFKids acc kids) (b : Nat) (rest : List Nat)
    (hb : b ∉ kids.keys) : look (entriesK kids) (acc ++ b :: rest) = none := by
  rw [look_eq_none_iff]
  intro e he heq
  obtain ⟨c, hc, t, ht⟩ := entriesK_pfx acc kids h e he
  rw [ht] at heq
  have := List.append_cancel_left heq
  simp only [List.cons.injEq] at this
  exact hb (this.1 ▸ hc)

theorem lookK_none_short (acc : List Nat) (kids : Kids) (h : WFKids acc kids) :
    look (entriesK kids) acc = none := by
  rw [look_eq_none_iff]
  intro e he heq
  obtain ⟨c, hc, t, ht⟩ := entriesK_pfx acc kids h e he
  rw [ht] at heq
  have := congrArg List.length heq
  simp at this

theorem entriesK_ne_self (acc p : List Nat) (kids : Kids) (hk : WFKids (acc ++ p) kids) :
    ∀ e ∈ entriesK kids, e.1 ≠ acc ++ p :=
  (look_eq_none_iff _ _).mp (lookK_none_short (acc ++ p) kids hk)

theorem lookN_none (acc : List Nat) (n : Node) (h : WFNode acc n) (k : List Nat)
    (hk : ∀ t, k ≠ n.pfx ++ t) : look (entries n) (acc ++ k) = none := by
  rw [look_eq_none_iff]
  intro e he heq
  obtain ⟨t, ht⟩ := entries_pfx acc n h e he
  rw [ht, List.append_assoc] at heq
  exact hk t (List.append_cancel_left heq).symm

theorem ne_append_cons (x : List Nat) (b : Nat) (r : List Nat) : x ≠ x ++ b :: r := fun e => by
  have := congrArg List.length e
  simp at this

theorem lf_ne (acc p : List Nat) (lf : Option LeafD) (hlf : ∀ d, lf = some d → d.key = acc ++ p)
    (b : Nat) (rest : List Nat) :
    ∀ e ∈ lfList lf, e.1 ≠ acc ++ p ++ b :: rest := by
  intro e he heq
  rw [lfList_key hlf e he] at heq
  exact ne_append_cons _ b rest heq

theorem look_sibling_none (acc : List Nat) (n : Node) (hn : WFNode acc n) {c b : Nat} {tl : List Nat}
    (hpf : n.pfx = c :: tl) (hcb : c ≠ b) (rest : List Nat) : look (entries n) (acc ++ b :: rest) = none :=
  lookN_none acc n hn _ fun t' e => by rw [hpf] at e; exact hcb (List.cons.inj e).1.symm

theorem not_mem_keys_of_le {keys : List Nat} {b c : Nat} (hlt : ∀ x ∈ keys, c < x) (h : b ≤ c) : b ∉ keys :=
  fun hb => Nat.lt_irrefl _ (Nat.lt_of_lt_of_le (hlt b hb) h)

theorem searchNode_leaf (p : List Nat) (d : LeafD) (w : Nat) (key : List Nat) :
    searchNode (.leaf p d) w key =
      if hasPrefix key p = true then
        match key.drop p.length with
        | [] => (some d.val, if d.watch ≠ 0 then d.watch else w)
        | _ :: _ => (none, w)
      else (none, w) := by
  unfold searchNode; rfl

theorem searchNode_inner (k : Nat) (p : List Nat) (lf : Option LeafD) (kids : Kids) (nw t w : Nat) (key : List Nat) :
    searchNode (.inner k p lf kids nw t) w key =
      if hasPrefix key p = true then
        match key.drop p.length with
        | [] => (match lf with
                 | some d => (some d.val, if d.watch ≠ 0 then d.watch else w)
                 | none => (none, w))
        | b :: _ => searchK kids b (if nw ≠ 0 then nw else w) (key.drop p.length)
      else (none, w) := by
  unfold searchNode; rfl

theorem searchNode_miss (n : Node) (w : Nat) (key : List Nat) (h : hasPrefix key n.pfx = false) :
    searchNode n w key = (none, w) := by
  cases n with
  | leaf p d => rw [searchNode_leaf, if_neg (by rw [show hasPrefix key p = false from h]; decide)]
  | inner k p lf kids nw t => rw [searchNode_inner, if_neg (by rw [show hasPrefix key p = false from h]; decide)]

theorem searchNode_at (n : Node) (w : Nat) :
    searchNode n w n.pfx = match n.getLeaf with
      | some d => (some d.val, if d.watch ≠ 0 then d.watch else w)
      | none => (none, w) := by
  cases n with
  | leaf p d => rw [searchNode_leaf, Node.pfx, if_pos (hasPrefix_self p), List.drop_length]; rfl
  | inner k p lf kids nw t => rw [searchNode_inner, Node.pfx, if_pos (hasPrefix_self p), List.drop_length]; rfl

theorem searchNode_leaf_below (p : List Nat) (d : LeafD) (w b : Nat) (r : List Nat) :
    searchNode (.leaf p d) w (p ++ b :: r) = (none, w) := by
  rw [searchNode_leaf, if_pos (hasPrefix_append_self p _), List.drop_left]

theorem searchNode_inner_below (k : Nat) (p : List Nat) (lf : Option LeafD) (kids : Kids) (nw t w b : Nat)
    (r : List Nat) :
    searchNode (.inner k p lf kids nw t) w (p ++ b :: r) = searchK kids b (if nw ≠ 0 then nw else w) (b :: r) := by
  rw [searchNode_inner, if_pos (hasPrefix_append_self p _), List.drop_left]

mutual
theorem searchNode_look (acc : List Nat) (n : Node) (hwf : WFNode acc n) (w : Nat) (key : List Nat) :
    (searchNode n w key).1 = look (entries n) (acc ++ key) := by
  rcases pfx_cases key n.pfx with hp | rfl | ⟨b, r, rfl⟩
  · rw [searchNode_miss n w key hp]
    exact (lookN_none acc n hwf key (hasPrefix_false_ne key _ hp)).symm
  · rw [searchNode_at]
    cases n with
    | leaf p d => exact ((look_cons ..).trans (if_pos hwf)).symm
    | inner k p lf kids nw t =>
      rw [entries_inner]
      cases lf with
      | none => exact (lookK_none_short (acc ++ p) kids hwf.kids).symm
      | some d => exact ((look_cons ..).trans (if_pos (hwf.lf_key rfl))).symm
  · cases n with
    | leaf p d =>
      rw [Node.pfx, searchNode_leaf_below]
      show none = look [(d.key, d.val)] (acc ++ (p ++ b :: r))
      rw [look_cons, if_neg (by rw [show d.key = acc ++ p from hwf, ← List.append_assoc]; exact ne_append_cons _ b r),
        look_nil]
    | inner k p lf kids nw t =>
      obtain ⟨hlf, hkids⟩ := hwf
      rw [Node.pfx, searchNode_inner_below, searchK_look (acc ++ p) kids hkids b _ (b :: r) r rfl, entries_inner,
        ← List.append_assoc, look_append_of_none _ _ _ ((look_eq_none_iff _ _).mpr (lf_ne acc p lf hlf b r))]
theorem searchK_look (acc : List Nat) : (kids : Kids) → WFKids acc kids →
    ∀ (b w : Nat) (key rest : List Nat), key = b :: rest →
    (searchK kids b w key).1 = look (entriesK kids) (acc ++ key)
  | .nil, _ => by intro b w key rest _; rfl
  | .cons c n r, h => by
    intro b w key rest hkey
    obtain ⟨⟨t, hpf⟩, hn, hlt, hr⟩ := h
    subst hkey
    rw [searchK, entriesK]
    by_cases hcb : c = b
    · subst hcb
      rw [if_pos rfl, searchNode_look acc n hn w, look_append_of_none_right _ _ _
        (lookK_none acc r hr c rest (not_mem_keys_of_le hlt (Nat.le_refl c)))]
    · rw [if_neg hcb, look_append_of_none _ _ _ (look_sibling_none acc n hn hpf hcb rest)]
      by_cases hlt' : c < b
      · rw [if_pos hlt', searchK_look acc r hr b w _ rest rfl]
      · rw [if_neg hlt', lookK_none acc r hr b rest (not_mem_keys_of_le hlt (by omega))]
end

/-- the node4 that the partial-match branch of `insAt` builds (its `match`, verbatim; `insAt_partial_eq` in ArtInsert):
    `this` is the node met, its prefix cut down to what follows `common`; `key` is what is left of the key -/
def forkNode (k4 : Nat) (common : List Nat) (this : Node) (key : List Nat) (d : LeafD) (w tx : Nat) : Node :=
  match this.pfx, key with
  | [], _ => Node.inner k4 common this.getLeaf (.cons (key.headD 0) (.leaf key d) .nil) w tx
  | tb :: _, [] => Node.inner k4 common (some d) (.cons tb this .nil) w tx
  | tb :: _, kb :: _ =>
    if tb < kb then Node.inner k4 common none (.cons tb this (.cons kb (.leaf key d) .nil)) w tx
    else Node.inner k4 common none (.cons kb (.leaf key d) (.cons tb this .nil)) w tx

end Sdb.Art
