import SdbModel.Lemmas.ReconcilerProgressInv

/-!
  One reconciliation round preserves the run invariant `XL` of C16 and advances the progress
  tracker soundly (to the revision of the last change it consumed, never back); the steps between
  rounds preserve it too.
-/
namespace Sdb.Rec

structure KX (v : V) (rs : List Res) (cs : List Change) (last : Nat) : Prop where
  x : XL v rs
  c : CL v cs last

structure QX (L : Nat) (v : V) (rs : List Res) : Prop where
  x : XL v rs
  t : TL L v

theorem kx_steps : ConsumeSteps KX where
  skip r c cs last hI hch hc _ hk := by
    obtain ⟨_, _, hgt⟩ := hch.upd c (List.mem_cons_self ..) hc
    exact ⟨hk.x.setIt c.rev (Nat.le_of_lt hgt), hk.c.updStep hch hI.tinv hc rfl rfl rfl rfl rfl rfl⟩
  upd r c cs last hI hch hc _ hk := by
    obtain ⟨ho, hrev, hgt⟩ := hch.upd c (List.mem_cons_self ..) hc
    exact ⟨hk.x.updStep c.obj c.rev _ ho hrev (Nat.le_of_lt hgt), hk.c.updStep hch hI.tinv hc rfl rfl rfl rfl rfl rfl⟩
  del r c cs last hI hch hc hk := by
    obtain ⟨hd, hgt⟩ := hch.del c (List.mem_cons_self ..) hc
    exact ⟨hk.x.delStep c.obj c.rev _ hd (hI.tinv.dels_le _ hd) (Nat.le_of_lt hgt) (hch.lt_del hc) (fun d hdm hid => hI.tinv.del_eq hdm hd hid),
      hk.c.delStep hch hI.tinv hc rfl rfl rfl rfl rfl rfl⟩

theorem qx_commit (L : Nat) : CommitSteps (QX L) where
  drop _ _ _ hq := ⟨hq.x.drop, hq.t⟩
  write r res rs cur hc hq := by
    have hres := hc.inv.resOK res (List.mem_cons_self ..)
    refine ⟨hq.x.commitStep r.nextSid hc.inv.tinv.dels_le hres.rev_le (fun hf => ?_), hq.t.commit res r.nextSid⟩
    rcases hres.current hc.mem hc.id with a | a
    · have := a.2.1; rw [hf] at this; exact this
    · exact absurd hc.rev a.1

theorem qx_retry (L : Nat) : RetryStep (QX L) where
  step _ h hd hq := ⟨hq.x.retryStep hd.inv.items_pw h _ hd.mem hd.objId, hq.t.congr rfl rfl rfl rfl rfl rfl⟩

def ItLe (r : R) : Prop := r.itRev ≤ r.progressRev ∧ r.itDelRev ≤ r.progressRev

theorem ItLe.congr {r r' : R} (h : ItLe r) (hit : r'.itRev = r.itRev) (hitd : r'.itDelRev = r.itDelRev)
    (hprog : r'.progressRev = r.progressRev) : ItLe r' := by
  unfold ItLe; rw [hit, hitd, hprog]; exact h

theorem kx_init {r : R} (hr : RInv r) (hx : XL r.v []) (hit : ItLe r) : KX r.v [] r.nextChanges.2 0 := by
  have hpos : ∀ c ∈ r.nextChanges.2, 0 < c.rev := fun c hc =>
    (nextChanges_current r c hc).elim (fun a => a.2.2 ▸ hx.tab.opos _ a.2.1) (fun a => hx.tab.dpos _ a.2)
  exact ⟨hx, { sorted := nextChanges_sorted hr.inv.tinv hx.tab.disj
               gt := hpos
               obj := fun o ho hle => absurd hle (Nat.not_le.2 (hx.tab.opos o ho))
               del := fun d hd hle => absurd hle (Nat.not_le.2 (hx.tab.dpos d hd))
               le := Nat.zero_le _
               itR := Nat.le_trans hit.1 (Nat.le_max_right ..)
               itD := Nat.le_trans hit.2 (Nat.le_max_right ..) }⟩

theorem xl_tail {r : R} (hr : RInv r) (hx : XL r.v []) (hit : ItLe r) : InTail (QX (roundLast r)) (round3 r) := by
  have hK := round_ind kx_steps hr (kx_init hr hx hit)
  exact tail_ind (qx_commit _) (qx_retry _) hr.single_mid ⟨hK.x, hK.c.toTL⟩

theorem XL.setProgress {v : V} {L : Nat} (hx : XL v []) (ht : TL L v) :
    XL { v with progressRev := if L > v.progressRev then L else v.progressRev } [] := by
  refine ⟨fun it hit => (hx.items it hit).frame _ _ _, hx.tab.congr rfl rfl rfl, ⟨?_, fun o ho hle => ?_, fun d hd hle => ?_⟩, hx.res⟩
  · show (if L > v.progressRev then L else v.progressRev) ≤ v.tableRev
    split
    · exact ht.le
    · exact hx.prog.le
  · change o.rev ≤ if L > v.progressRev then L else v.progressRev at hle
    split at hle
    · exact ht.obj o ho hle
    · exact hx.prog.obj o ho hle
  · change d.2 ≤ if L > v.progressRev then L else v.progressRev at hle
    split at hle
    · exact ht.del d hd hle
    · exact hx.prog.del d hd hle

theorem itLe_round (r : R) : ItLe r.round ↔
    (tail6 (round3 r)).v.itRev ≤ max (roundLast r) (tail6 (round3 r)).v.progressRev ∧
    (tail6 (round3 r)).v.itDelRev ≤ max (roundLast r) (tail6 (round3 r)).v.progressRev := by
  rw [round_phases]
  generalize tail6 (round3 r) = x
  show _ ≤ (if _ then _ else _) ∧ _ ≤ (if _ then _ else _) ↔ _
  rw [ite_gt_eq_max]; rfl

theorem XL.round {r : R} (hr : RInv r) (hx : XL r.v []) (hit : ItLe r) : XL r.round.v [] ∧ ItLe r.round := by
  have h6 := (xl_tail hr hx hit).at6
  rw [round_v, itLe_round]
  exact ⟨h6.x.setProgress h6.t, h6.t.itR, h6.t.itD⟩

theorem XL.userPut {r : R} (h : XL r.v []) (ht : TInv r) (id data : Nat) : XL (r.userPut id data).v [] := by
  obtain ⟨other, he⟩ := userPut_eq r id data
  rw [he]
  exact h.setObjStep _ ht.dels_le

theorem XL.touch {r : R} (h : XL r.v []) (ht : TInv r) (id : Nat) : XL (r.touch id).v [] := by
  cases hg : r.get id with
  | none => rw [touch_of_none hg]; exact h
  | some o => rw [touch_of_get hg]; exact h.setObjStep _ ht.dels_le

theorem XL.delObj {r : R} (h : XL r.v []) (ht : TInv r) (id : Nat) : XL (r.delObj id).v [] := by
  cases hg : r.get id with
  | none => rw [delObj_of_none hg]; exact h
  | some o =>
    -- the deletion is retained at the new revision `tableRev + 1`, which nothing has reached
    rw [delObj_of_get hg]
    have hple := h.prog.le
    refine { items := fun it hit => ?items, res := h.res
             tab := { opos := fun x hx => h.tab.opos x (List.mem_filter.1 hx).1, dpos := ?dpos, disj := ?disj
                      top := fun _ => Or.inr ⟨_, List.mem_append_right _ (List.mem_singleton.2 rfl), rfl⟩ }
             prog := { le := Nat.le_succ_of_le hple, obj := fun x hx hle => h.prog.obj x (List.mem_filter.1 hx).1 hle, del := ?del } }
    case items =>
      refine (h.items it hit).mono (Nat.le_succ r.tableRev) rfl (Nat.le_refl _) rfl
        (fun _ x hx _ _ => (List.mem_filter.1 hx).1) (fun _ d hd _ hle => ?_)
      rcases List.mem_append.1 hd with hd | hd
      · exact ⟨hd, hle⟩
      · simp only [List.mem_singleton] at hd
        rw [hd] at hle
        exact absurd (Nat.le_trans hle ht.itd_le) (Nat.not_succ_le_self _)
    case dpos =>
      intro d hd
      rcases List.mem_append.1 hd with hd | hd
      · exact h.tab.dpos d hd
      · simp only [List.mem_singleton] at hd; rw [hd]; simp
    case disj =>
      intro x hx d hd
      have hx' := (List.mem_filter.1 hx).1
      rcases List.mem_append.1 hd with hd | hd
      · exact h.tab.disj x hx' d hd
      · simp only [List.mem_singleton] at hd; rw [hd]
        exact Nat.ne_of_lt (Nat.lt_succ_of_le (ht.objs_le x hx'))
    case del =>
      intro d hd hle
      rcases List.mem_append.1 hd with hd | hd
      · exact h.prog.del d hd hle
      · simp only [List.mem_singleton] at hd
        rw [hd] at hle
        exact absurd (Nat.le_trans hle hple) (Nat.not_succ_le_self _)

theorem XL.setNow {r : R} (h : XL r.v []) (t : Nat) (ht : r.now ≤ t) : XL ({ r with now := t } : R).v [] :=
  ⟨fun it hit => (h.items it hit).mono (Nat.le_refl _) rfl ht rfl (fun _ _ ho _ _ => ho) (fun _ _ hd _ hle => ⟨hd, hle⟩), h.tab.congr rfl rfl rfl,
    h.prog.mono rfl rfl rfl (Nat.le_refl _) (Nat.le_refl _) rfl, h.res⟩

theorem round_progressRev_ge (r : R) : r.progressRev ≤ r.round.progressRev := by
  rw [round_progressRev_max]; exact Nat.le_max_right ..

theorem quiesce_progressRev_ge (r : R) (fuel : Nat) : r.progressRev ≤ (r.quiesce fuel).progressRev :=
  quiesce_ind (P := fun x => r.progressRev ≤ x.progressRev)
    (fun x h => Nat.le_trans h (Nat.le_of_eq (congrArg V.progressRev (fireTimer_v x)).symm))
    (fun x h => Nat.le_trans h (round_progressRev_ge x)) (Nat.le_refl _) fuel

theorem advance_progressRev_ge (r : R) (ms fuel : Nat) : r.progressRev ≤ (r.advance ms fuel).progressRev :=
  advance_ind (P := fun x => r.progressRev ≤ x.progressRev) (fun _ _ _ h => h)
    (fun x fuel h => Nat.le_trans h (quiesce_progressRev_ge x fuel)) (Nat.le_refl _) ms fuel

end Sdb.Rec
