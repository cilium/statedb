import SdbModel.Lemmas.ArtInsert
import SdbModel.Lemmas.ArtDelete

/-! The shape invariant of the adaptive radix tree: every inner node carries a leaf or at least two
    children (path compression is maximal), and its kind is the size class of its number of children
    (4: ≤ 4, 16: 5..16, 48: 17..48, 256: ≥ 49).  Kept by `insNode` and `delNode` for the node-size
    constants of the implementation. -/
namespace Sdb.Art

/-- kind ↔ size class, as maintained by promote / demote -/
def KindOK (kind size : Nat) : Prop :=
  (kind = 4 ∧ size ≤ 4) ∨ (kind = 16 ∧ 5 ≤ size ∧ size ≤ 16) ∨ (kind = 48 ∧ 17 ≤ size ∧ size ≤ 48) ∨
  (kind = 256 ∧ 49 ≤ size)

mutual
def ShapeN : Node → Prop
  | .leaf _ _ => True
  | .inner kind _ lf kids _ _ => KindOK kind kids.size ∧ (lf.isSome = true ∨ 2 ≤ kids.size) ∧ ShapeK kids
def ShapeK : Kids → Prop
  | .nil => True
  | .cons _ n r => ShapeN n ∧ ShapeK r
end

theorem ShapeN.kindOK {kind w t : Nat} {p : List Nat} {lf : Option LeafD} {kids : Kids}
    (h : ShapeN (.inner kind p lf kids w t)) : KindOK kind kids.size := h.1

theorem ShapeN.leaf_or_two {kind w t : Nat} {p : List Nat} {lf : Option LeafD} {kids : Kids}
    (h : ShapeN (.inner kind p lf kids w t)) : lf.isSome = true ∨ 2 ≤ kids.size := h.2.1

theorem ShapeN_setPfx (p : List Nat) (n : Node) : ShapeN (n.setPfx p) ↔ ShapeN n := by
  cases n <;> simp [Node.setPfx, ShapeN]

theorem cloneNode_shape (st : St) (n : Node) : ShapeN (cloneNode st n).2 ↔ ShapeN n := by
  cases n with
  | leaf p d => obtain ⟨st', w, e⟩ := cloneNode_leaf st p d; rw [e]; simp [ShapeN]
  | inner k p lf kids w t => obtain ⟨st', w', t', e⟩ := cloneNode_inner st k p lf kids w t; rw [e]; simp [ShapeN]

theorem size_insert (b : Nat) (child : Node) : (kids : Kids) → (kids.insert b child).size = kids.size + 1
  | .nil => rfl
  | .cons c m r => by
    simp only [Kids.insert]
    split
    · rfl
    · simp [Kids.size, size_insert b child r]

theorem ShapeK_insert (b : Nat) (child : Node) (hc : ShapeN child) : (kids : Kids) → ShapeK kids →
    ShapeK (kids.insert b child)
  | .nil, _ => by simp [Kids.insert, ShapeK, hc]
  | .cons c m r, h => by
    simp only [ShapeK] at h
    simp only [Kids.insert]
    split
    · simp only [ShapeK]; exact ⟨hc, h.1, h.2⟩
    · simp only [ShapeK]; exact ⟨h.1, ShapeK_insert b child hc r h.2⟩

theorem ShapeK_erase (b : Nat) : (kids : Kids) → ShapeK kids → ShapeK (kids.erase b)
  | .nil, _ => by simp [Kids.erase, ShapeK]
  | .cons c m r, h => by
    simp only [ShapeK] at h
    simp only [Kids.erase]
    split
    · exact h.2
    · simp only [ShapeK]; exact ⟨h.1, ShapeK_erase b r h.2⟩

theorem forkNode_shape (c : List Nat) (this : Node) (a' : List Nat) (d : LeafD) (w tx : Nat)
    (hs : ShapeN this) (hnil : this.pfx = [] → this.isLeaf = true) :
    ShapeN (forkNode 4 c this a' d w tx) := by
  have k1 : KindOK 4 1 := .inl ⟨rfl, by decide⟩
  have k2 : KindOK 4 2 := .inl ⟨rfl, by decide⟩
  unfold forkNode
  cases hb : this.pfx with
  | nil =>
    obtain ⟨p0, d0, rfl⟩ := leaf_of_isLeaf this (hnil hb)
    exact ⟨k1, .inl rfl, trivial, trivial⟩
  | cons y s =>
    cases a' with
    | nil => exact ⟨k1, .inl rfl, hs, trivial⟩
    | cons x t =>
      simp only
      split
      · exact ⟨k2, .inr (Nat.le_refl 2), hs, trivial, trivial⟩
      · exact ⟨k2, .inr (Nat.le_refl 2), trivial, hs, trivial⟩

theorem insAt_shape (P : ArtParams) (hP : P = defaultParams) (st : St) (n : Node) (key full : List Nat) (val : Nat)
    (mod : Option (Nat → Nat → Nat)) (hs : ShapeN n)
    (hin : n.isLeaf = false → key ≠ n.pfx → hasPrefix key n.pfx = false) :
    ShapeN (insAt P st n key full val mod).node := by
  by_cases hk : key = n.pfx
  · cases n with
    | leaf p d =>
      obtain rfl : p = key := hk.symm
      obtain ⟨st', w, e⟩ := insAt_at_leaf P st p d full val mod
      rw [e]; trivial
    | inner k p lf kids w t =>
      obtain rfl : p = key := hk.symm
      obtain ⟨st', d', w', t', e, _⟩ := insAt_at_inner P st k p lf kids w t full val mod
      rw [e]
      exact ⟨hs.1, .inl rfl, hs.2.2⟩
  · obtain ⟨st', n0, dw, w, tx, wt, heq, _, _, _, hleaf, hsame⟩ :=
      insAt_partial_eq P st n key full val mod hk fun hl => hin hl hk
    have hs0 : ShapeN n0 := by
      rcases hsame with rfl | ⟨k, p, lf, kids, w1, t1, w2, t2, rfl, rfl⟩
      · exact hs
      · simpa [ShapeN] using hs
    rw [heq]
    subst hP
    show ShapeN (forkNode 4 _ _ _ _ _ _)
    apply forkNode_shape _ _ _ _ _ _ ((ShapeN_setPfx _ _).mpr hs0)
    intro hnil
    rw [Node.pfx_setPfx] at hnil
    exact hleaf hnil _

theorem kindOK_grow (P : ArtParams) (hP : P = defaultParams) (kind size : Nat) (h : KindOK kind size) :
    KindOK (if size + 1 > kind then nextKind P kind else kind) (size + 1) := by
  subst hP
  rcases h with ⟨rfl, h⟩ | ⟨rfl, h1, h2⟩ | ⟨rfl, h1, h2⟩ | ⟨rfl, h⟩ <;> split
  · rename_i hgt; exact .inr (.inl ⟨rfl, hgt, by omega⟩)
  · rename_i hle; exact .inl ⟨rfl, Nat.not_lt.mp hle⟩
  · rename_i hgt; exact .inr (.inr (.inl ⟨rfl, hgt, by omega⟩))
  · rename_i hle; exact .inr (.inl ⟨rfl, Nat.le_succ_of_le h1, Nat.not_lt.mp hle⟩)
  · rename_i hgt; exact .inr (.inr (.inr ⟨rfl, hgt⟩))
  · rename_i hle; exact .inr (.inr (.inl ⟨rfl, Nat.le_succ_of_le h1, Nat.not_lt.mp hle⟩))
  · exact .inr (.inr (.inr ⟨rfl, Nat.le_succ_of_le h⟩))
  · exact .inr (.inr (.inr ⟨rfl, Nat.le_succ_of_le h⟩))

mutual
theorem insNode_shape (P : ArtParams) (hP : P = defaultParams) (n : Node) (st : St) (key full : List Nat)
    (val : Nat) (mod : Option (Nat → Nat → Nat)) (hs : ShapeN n) : ShapeN (insNode P st n key full val mod).node := by
  cases n with
  | leaf p d =>
    unfold insNode
    exact insAt_shape P hP st _ key full val mod hs (by simp [Node.isLeaf])
  | inner kind pfx lf kids w t =>
    rcases pfx_cases key pfx with hp | rfl | ⟨b, rest, rfl⟩
    · rw [insNode_inner_stop P st kind pfx lf kids w t key full val mod (.inl hp)]
      exact insAt_shape P hP st _ key full val mod hs fun _ _ => hp
    · rw [insNode_inner_stop P st kind key lf kids w t key full val mod (.inr rfl)]
      exact insAt_shape P hP st _ key full val mod hs fun _ hk => absurd rfl hk
    · obtain ⟨hk, hc, hkids⟩ := hs
      rcases insNode_inner_below P st kind pfx lf kids w t b rest full val mod with
        ⟨r, kids', st', w', t', hins, e⟩ | ⟨_, st', dw, w', t', e⟩
      · rw [e]
        obtain ⟨h1, h2⟩ := insKids_shape P hP kids st _ _ full val mod r kids' hkids hins
        exact ⟨h2 ▸ hk, h2 ▸ hc, h1⟩
      · rw [e]
        refine ⟨?_, ?_, ShapeK_insert _ (.leaf _ _) trivial kids hkids⟩
        · rw [size_insert]; exact kindOK_grow P hP kind kids.size hk
        · rw [size_insert]; exact hc.imp_right Nat.le_succ_of_le
theorem insKids_shape (P : ArtParams) (hP : P = defaultParams) : (kids : Kids) → ∀ (st : St) (b : Nat)
    (key full : List Nat) (val : Nat) (mod : Option (Nat → Nat → Nat)) (r : InsRes) (kids' : Kids),
    ShapeK kids → insKids P st kids b key full val mod = some (r, kids') →
    ShapeK kids' ∧ kids'.size = kids.size
  | .nil => by
    intro st b key full val mod r kids' _ h
    simp [insKids] at h
  | .cons c n rs => by
    intro st b key full val mod r kids' hs h
    unfold insKids at h
    split at h
    · obtain ⟨rfl, rfl⟩ := Prod.mk.inj (Option.some.inj h)
      exact ⟨⟨insNode_shape P hP n st key full val mod hs.1, hs.2⟩, rfl⟩
    · split at h
      · split at h
        · rename_i r' rest' hins
          obtain ⟨rfl, rfl⟩ := Prod.mk.inj (Option.some.inj h)
          obtain ⟨h1, h2⟩ := insKids_shape P hP rs st b key full val mod r' rest' hs.2 hins
          exact ⟨⟨hs.1, h1⟩, congrArg (· + 1) h2⟩
        · exact nomatch h
      · exact nomatch h
end

def DelShape : DelRes → Prop
  | .replaced _ n' _ => ShapeN n'
  | _ => True

def DelKShape (kids : Kids) (b : Nat) : Option (DelRes × Kids) → Prop
  | some (.replaced _ _ _, kids') => ShapeK kids' ∧ kids'.size = kids.size
  | some (.removed _ _, _) => (kids.erase b).size + 1 = kids.size
  | _ => True

theorem mergeUp_shape (pfx : List Nat) (child : Node) (h : ShapeN child) : ShapeN (mergeUp pfx child) := by
  unfold mergeUp; exact (ShapeN_setPfx _ _).mpr h

theorem delAt_shape (st : St) (n : Node) (hs : ShapeN n) : DelShape (delAt st n) := by
  cases n with
  | leaf p d => trivial
  | inner kind pfx lf kids w t =>
    obtain ⟨hk, hc, hkids⟩ := hs
    cases lf with
    | none => trivial
    | some d =>
      simp only [delAt, Node.getLeaf]
      split
      · rename_i hs1
        obtain ⟨c, child, rfl⟩ := kids_size_one kids hs1
        exact mergeUp_shape pfx child hkids.1
      · split
        · rename_i h1 h2
          exact (cloneNode_shape _ _).mpr ⟨hk, .inr (by omega), hkids⟩
        · trivial

/-- the demotion test of `removeChild` for the thresholds of the implementation -/
theorem demote_default (kind size : Nat) :
    (defaultParams.demoteAt.any fun (k, thr) => k = kind ∧ size ≤ thr) = true ↔
      (kind = 256 ∧ size ≤ 49) ∨ (kind = 48 ∧ size ≤ 17) ∨ (kind = 16 ∧ size ≤ 5) := by
  simp only [defaultParams, List.any_cons, List.any_nil, Bool.or_false, Bool.or_eq_true, decide_eq_true_eq,
    Bool.decide_and, Bool.and_eq_true, eq_comm (a := kind)]

theorem kindOK_shrink (P : ArtParams) (hP : P = defaultParams) (kind size : Nat) (h : KindOK kind size) :
    KindOK (if (P.demoteAt.any fun (k, thr) => k = kind ∧ size ≤ thr) = true then prevKind P kind else kind)
      (size - 1) := by
  subst hP
  rcases h with ⟨rfl, h⟩ | ⟨rfl, h1, h2⟩ | ⟨rfl, h1, h2⟩ | ⟨rfl, h⟩ <;>
    simp only [demote_default, Nat.reduceEqDiff, false_and, true_and, false_or, or_false, if_false]
  · exact .inl ⟨rfl, Nat.le_trans (Nat.sub_le _ _) h⟩
  · split
    · rename_i hd
      exact .inl ⟨rfl, Nat.sub_le_of_le_add hd⟩
    · rename_i hd
      exact .inr (.inl ⟨rfl, Nat.le_sub_one_of_lt (Nat.not_le.mp hd), Nat.le_trans (Nat.sub_le _ _) h2⟩)
  · split
    · rename_i hd
      exact .inr (.inl ⟨rfl, by omega, Nat.sub_le_of_le_add hd⟩)
    · rename_i hd
      exact .inr (.inr (.inl ⟨rfl, Nat.le_sub_one_of_lt (Nat.not_le.mp hd), Nat.le_trans (Nat.sub_le _ _) h2⟩))
  · split
    · rename_i hd
      exact .inr (.inr (.inl ⟨rfl, by omega, Nat.sub_le_of_le_add hd⟩))
    · rename_i hd
      exact .inr (.inr (.inr ⟨rfl, Nat.le_sub_one_of_lt (Nat.not_le.mp hd)⟩))

theorem removeChild_shape (P : ArtParams) (hP : P = defaultParams) (st : St) (kind : Nat) (pfx : List Nat)
    (lf : Option LeafD) (kids : Kids) (w t b : Nat) (hk : KindOK kind kids.size)
    (hc : lf.isSome = true ∨ 2 ≤ kids.size) (hkids : ShapeK kids) (hsz : (kids.erase b).size + 1 = kids.size) :
    ShapeN (removeChild P st kind pfx lf kids w t b).2 := by
  have he := ShapeK_erase b kids hkids
  rcases removeChild_eq P st kind pfx lf kids w t b hsz with ⟨_, _, c, child, hke, e⟩ | ⟨hcnd, w', t', e⟩
  · rw [e]
    rw [hke] at he
    exact mergeUp_shape pfx child he.1
  · rw [e]
    have hsh := kindOK_shrink P hP kind kids.size hk
    rw [show kids.size - 1 = (kids.erase b).size by omega] at hsh
    refine ⟨hsh, ?_, he⟩
    cases lf with
    | some d => exact .inl rfl
    | none =>
      have h2 : 2 ≤ kids.size := hc.resolve_left (by simp)
      have h3 : kids.size ≠ 2 := fun e => hcnd ⟨e, rfl⟩
      exact .inr (by omega)

mutual
theorem delNode_shape (P : ArtParams) (hP : P = defaultParams) (n : Node) (st : St) (key : List Nat)
    (hs : ShapeN n) : DelShape (delNode P st n key) := by
  rcases pfx_cases key n.pfx with h | rfl | ⟨b, r, rfl⟩
  · rw [delNode_miss P st n key h]; trivial
  · rw [delNode_at]; exact delAt_shape st n hs
  · cases n with
    | leaf p d => rw [Node.pfx, delNode_leaf_below]; trivial
    | inner kind pfx lf kids w t =>
      rw [Node.pfx, delNode_inner_below]
      obtain ⟨hk, hc, hkids⟩ := hs
      have ih := delKids_shape P hP kids st b (b :: r) hkids
      revert ih
      generalize delKids P st kids b (b :: r) = res
      intro ih
      rcases res with _ | ⟨_ | ⟨st', n', old⟩ | ⟨st', old⟩, kids'⟩
      · trivial
      · trivial
      · exact (cloneNode_shape _ _).mpr ⟨ih.2 ▸ hk, ih.2 ▸ hc, ih.1⟩
      · exact removeChild_shape P hP st' kind pfx lf kids w t b hk hc hkids ih
theorem delKids_shape (P : ArtParams) (hP : P = defaultParams) : (kids : Kids) → ∀ (st : St) (b : Nat)
    (key : List Nat), ShapeK kids → DelKShape kids b (delKids P st kids b key)
  | .nil => by
    intro st b key _
    trivial
  | .cons c n rs => by
    intro st b key hs
    unfold delKids
    by_cases hcb : c = b
    · subst hcb
      rw [if_pos rfl]
      have ih := delNode_shape P hP n st key hs.1
      revert ih
      generalize delNode P st n key = res
      intro ih
      rcases res with _ | ⟨st', n', old⟩ | ⟨st', old⟩
      · trivial
      · exact ⟨⟨ih, hs.2⟩, rfl⟩
      · show (Kids.erase c (.cons c n rs)).size + 1 = rs.size + 1
        rw [Kids.erase, if_pos rfl]
    · rw [if_neg hcb]
      by_cases hlt : c < b
      · rw [if_pos hlt]
        have ih := delKids_shape P hP rs st b key hs.2
        revert ih
        generalize delKids P st rs b key = res
        intro ih
        rcases res with _ | ⟨_ | ⟨st', n', old⟩ | ⟨st', old⟩, rest'⟩
        · trivial
        · trivial
        · exact ⟨⟨hs.1, ih.1⟩, congrArg (· + 1) ih.2⟩
        · show (Kids.erase b (.cons c n rs)).size + 1 = rs.size + 1
          rw [Kids.erase, if_neg hcb]
          exact congrArg (· + 1) ih
      · rw [if_neg hlt]
        trivial
end

theorem shape_nonempty : (n : Node) → ShapeN n → entries n ≠ []
  | .leaf p d, _ => by simp [entries]
  | .inner k p lf kids w t, h => by
    simp only [ShapeN] at h
    rw [entries_inner]
    cases lf with
    | some d => simp [lfList]
    | none =>
      obtain ⟨_, hc, hk⟩ := h
      simp only [Option.isSome_none, Bool.false_eq_true, false_or] at hc
      cases kids with
      | nil => simp [Kids.size] at hc
      | cons c m r =>
        simp only [ShapeK] at hk
        have := shape_nonempty m hk.1
        simp [lfList, entriesK, this]

def RootShape : Option Node → Prop
  | none => True
  | some r => ShapeN r

theorem Txn_insert_shape (P : ArtParams) (hP : P = defaultParams) (x : Txn) (k : List Nat) (v : Nat)
    (mod : Option (Nat → Nat → Nat)) (h : RootShape x.root) : RootShape (x.insert P k v mod).1.root := by
  unfold Txn.insert
  cases hroot : x.root with
  | none => simp [RootShape, ShapeN]
  | some r =>
    rw [hroot] at h
    exact insNode_shape P hP r x.st k k v mod h

theorem Txn_delete_shape (P : ArtParams) (hP : P = defaultParams) (x : Txn) (k : List Nat)
    (h : RootShape x.root) : RootShape (x.delete P k).1.root := by
  unfold Txn.delete
  cases hroot : x.root with
  | none => simpa [hroot] using h
  | some r =>
    rw [hroot] at h
    have := delNode_shape P hP r x.st k h
    simp only
    cases hdel : delNode P x.st r k with
    | notFound => simp only [hroot]; exact h
    | replaced st' n' old => rw [hdel] at this; exact this
    | removed st' old => simp only; trivial

end Sdb.Art
