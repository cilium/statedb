import SdbModel.Lemmas.IndexBase
import SdbModel.Props.C13
/-!
  C04, LPM part: the two longest-prefix-match indexes of the table model (`lpm`, non-unique, and `ulpm`,
  unique) agree with the primary index (`LInv`), and the `reindexLpm` calls of `modify` / `delete` keep it so.
  An index is read through `LHolds`: which (index key, primary key, object) triples it stores.  One
  `insertKey` / `removeKey` replaces the bucket of one canonical key (`putBucket`) or leaves the index alone;
  the two loops of `lpmIndexTxn.reindex` compose such steps.  The trie itself is used only as the finite map
  from canonical keys that Props/C13 proves it to be (its theorems on `lookupExact`, `insert`, `deleteRoot`).
-/
namespace Sdb.Tbl
open OMap Lpm

/-- the precondition of `EncodeLPMKey(data, plen)`: bytes, and enough of them for `plen` bits -/
def LKeyOk (k : Key × Nat) : Prop := (∀ b ∈ k.1, b < 256) ∧ (k.2 + 7) / 8 ≤ k.1.length

theorem LKeyOk.canon {k : Key × Nat} (h : LKeyOk k) : Canon (normKey k).1 (normKey k).2 :=
  canon_maskData k.1 k.2 h.1 h.2

theorem normKey_idem {k : Key × Nat} (h : LKeyOk k) : normKey (normKey k) = normKey k := by
  have := maskData_eq_self _ _ h.canon
  unfold normKey at this ⊢
  simp only at this ⊢
  rw [this]

theorem LKeyOk.of_canon {d : Key} {p : Nat} (h : Canon d p) : LKeyOk (d, p) := ⟨h.bytes, Nat.le_of_eq h.len.symm⟩

theorem LKeyOk.norm {k : Key × Nat} (h : LKeyOk k) : LKeyOk (normKey k) := of_canon h.canon

theorem canon_two_bytes (a b : Nat) : Canon [a % 256, b % 256] 16 := by
  refine ⟨rfl, fun x hx => ?_, fun i hi => getBitAt_oob _ _ (by simp; omega)⟩
  simp only [List.mem_cons, List.not_mem_nil, or_false] at hx
  rcases hx with rfl | rfl <;> exact Nat.mod_lt _ (by decide)

theorem upKey_ok (o : Obj) : ∀ k ∈ o.upKey, LKeyOk k := by
  intro k hk
  unfold Obj.upKey at hk
  split at hk
  · rw [List.mem_singleton.mp hk]
    exact .of_canon (canon_two_bytes _ _)
  · cases hk

theorem upKey_normKey (o : Obj) : o.upKey.map normKey = o.upKey := by
  unfold Obj.upKey
  split
  · simp only [List.map_cons, List.map_nil, normKey, maskData_eq_self _ _ (canon_two_bytes _ _)]
  · rfl

theorem two_bytes_eq (a b : Nat) :
    (a / 256 % 256 = b / 256 % 256 ∧ a % 256 = b % 256) ↔ a % (256 * 256) = b % (256 * 256) := by
  constructor
  · rintro ⟨h1, h2⟩; rw [Nat.mod_mul, Nat.mod_mul, h1, h2]
  · intro e
    exact ⟨by rw [← Nat.mod_mul_right_div_self, e, Nat.mod_mul_right_div_self],
      by rw [← Nat.mod_mul_right_mod a 256 256, e, Nat.mod_mul_right_mod]⟩

theorem upKey_shared_iff (a b : Obj) :
    (∃ k, k ∈ a.upKey.map normKey ∧ k ∈ b.upKey.map normKey) ↔
      a.up = true ∧ b.up = true ∧ a.ord % 65536 = b.ord % 65536 := by
  rw [upKey_normKey, upKey_normKey]
  unfold Obj.upKey
  cases ha : a.up <;> cases hb : b.up <;> simp
  exact two_bytes_eq _ _

theorem entryUpsert_eq_insert (e : LpmEntry) (pk : Key) (o : Obj) : entryUpsert e pk o = OMap.insert e pk o := by
  induction e with
  | nil => rfl
  | cons a r ih =>
    obtain ⟨k, v⟩ := a
    unfold entryUpsert OMap.insert
    rw [cmpL_swap k pk]
    cases h : cmpL k pk <;> simp [Ordering.swap, ih]

theorem entryUpsert_sorted (e : LpmEntry) (hs : Sorted e) (pk : Key) (o : Obj) : Sorted (entryUpsert e pk o) := by
  rw [entryUpsert_eq_insert]; exact sorted_insert e hs pk o

theorem entryUpsert_ne_nil (e : LpmEntry) (pk : Key) (o : Obj) : entryUpsert e pk o ≠ [] := by
  cases e with
  | nil => simp [entryUpsert]
  | cons a r =>
    obtain ⟨k, v⟩ := a
    unfold entryUpsert
    split <;> simp

theorem mem_entryUpsert (e : LpmEntry) (hs : Sorted e) (pk : Key) (o : Obj) (pk' : Key) (x : Obj) :
    (pk', x) ∈ entryUpsert e pk o ↔ (pk' = pk ∧ x = o) ∨ (pk' ≠ pk ∧ (pk', x) ∈ e) := by
  rw [entryUpsert_eq_insert]; exact mem_insert_iff e hs pk o pk' x

theorem mem_entryDelete (e : LpmEntry) (pk pk' : Key) (x : Obj) :
    (pk', x) ∈ entryDelete e pk ↔ pk' ≠ pk ∧ (pk', x) ∈ e := by
  unfold entryDelete
  rw [List.mem_filter]
  simp only [bne_iff_ne, ne_eq]
  exact And.comm

theorem entryDelete_sorted (e : LpmEntry) (hs : Sorted e) (pk : Key) : Sorted (entryDelete e pk) :=
  sorted_filter e hs _

/-- `lpmRemoveKey` models the `removed` result of `lpmEntry.delete` by comparing lengths -/
theorem entryDelete_length_eq (e : LpmEntry) (pk : Key) (h : (entryDelete e pk).length = e.length) :
    ∀ x, (pk, x) ∉ e := by
  intro x hx
  unfold entryDelete at h
  have := List.length_filter_eq_length_iff.mp h (pk, x) hx
  simp at this

/-- the index stores object `x` with primary key `pk` under the index key `(d, p)` -/
def LHolds (ix : LpmIdx) (d : Key) (p : Nat) (pk : Key) (x : Obj) : Prop :=
  ∃ e, (d, p, e) ∈ preorder ix.t ∧ (pk, x) ∈ e

/-- shape of the trie and of its buckets -/
structure LGood (ix : LpmIdx) : Prop where
  wf : WF ix.t
  sortedE : ∀ d p e, (d, p, e) ∈ preorder ix.t → Sorted e
  nonempty : ∀ d p e, (d, p, e) ∈ preorder ix.t → e ≠ []

theorem LGood.empty : LGood {} := ⟨trivial, by simp [preorder], by simp [preorder]⟩

theorem LHolds.canon {ix : LpmIdx} (g : LGood ix) {d : Key} {p : Nat} {pk : Key} {x : Obj}
    (h : LHolds ix d p pk x) : Canon d p := by
  obtain ⟨e, he, _⟩ := h
  exact mem_canon g.wf he

theorem LHolds_iff_lookup {ix : LpmIdx} (g : LGood ix) {d : Key} {p : Nat} (hc : Canon d p) (pk : Key) (x : Obj) :
    LHolds ix d p pk x ↔ (pk, x) ∈ (lookupExact d p ix.t 0).getD [] := by
  constructor
  · rintro ⟨e, he, hm⟩
    rw [(C13_lookupExact_iff_stored ix.t g.wf d p hc e).mpr he]
    exact hm
  · intro h
    cases hl : lookupExact d p ix.t 0 with
    | none => rw [hl] at h; simp at h
    | some e =>
      rw [hl] at h
      exact ⟨e, (C13_lookupExact_iff_stored ix.t g.wf d p hc e).mp hl, h⟩

theorem lookup_getD_sorted {ix : LpmIdx} (g : LGood ix) {d : Key} {p : Nat} (hc : Canon d p) :
    Sorted ((lookupExact d p ix.t 0).getD []) := by
  cases hl : lookupExact d p ix.t 0 with
  | none => exact sorted_nil
  | some e => exact g.sortedE d p e ((C13_lookupExact_iff_stored ix.t g.wf d p hc e).mp hl)

/-- `ix` with the bucket `e'` under the key `(d, l)`; an empty bucket is not stored, its key is deleted -/
def putBucket (ix : LpmIdx) (d : Key) (l : Nat) (e' : LpmEntry) : LpmIdx :=
  if e'.isEmpty then { t := ((deleteRoot d l ix.t).map (·.1)).getD ix.t } else { t := (Lpm.insert d l e' ix.t 0).1 }

theorem putBucket_spec {ix : LpmIdx} (g : LGood ix) {d : Key} {l : Nat} (hc : Canon d l) (e' : LpmEntry)
    (hs : Sorted e') :
    LGood (putBucket ix d l e') ∧
    ∀ d' p' pk' x, LHolds (putBucket ix d l e') d' p' pk' x ↔
      ((d' = d ∧ p' = l) ∧ (pk', x) ∈ e') ∨ (¬ (d' = d ∧ p' = l) ∧ LHolds ix d' p' pk' x) := by
  -- the buckets of the new trie (C13), then the pairs in them
  suffices h : WF (putBucket ix d l e').t ∧ ∀ d' p' e, (d', p', e) ∈ preorder (putBucket ix d l e').t ↔
      ((d' = d ∧ p' = l) ∧ e = e' ∧ e' ≠ []) ∨ (¬ (d' = d ∧ p' = l) ∧ (d', p', e) ∈ preorder ix.t) by
    obtain ⟨wf, hmem⟩ := h
    refine ⟨⟨wf, ?_, ?_⟩, ?_⟩
    · intro d' p' e he
      rcases (hmem d' p' e).mp he with ⟨_, rfl, _⟩ | ⟨_, h⟩
      · exact hs
      · exact g.sortedE d' p' e h
    · intro d' p' e he
      rcases (hmem d' p' e).mp he with ⟨_, rfl, hne⟩ | ⟨_, h⟩
      · exact hne
      · exact g.nonempty d' p' e h
    · intro d' p' pk' x
      constructor
      · rintro ⟨e, he, hm⟩
        rcases (hmem d' p' e).mp he with ⟨hk, rfl, _⟩ | ⟨hk, h⟩
        · exact Or.inl ⟨hk, hm⟩
        · exact Or.inr ⟨hk, e, h, hm⟩
      · rintro (⟨hk, hm⟩ | ⟨hk, e, he, hm⟩)
        · exact ⟨e', (hmem d' p' e').mpr (Or.inl ⟨hk, rfl, List.ne_nil_of_mem hm⟩), hm⟩
        · exact ⟨e, (hmem d' p' e).mpr (Or.inr ⟨hk, he⟩), hm⟩
  cases e' with
  | cons a r =>
    simp only [putBucket, List.isEmpty_cons, Bool.false_eq_true, if_false]
    refine ⟨C13_insert_preserves_wf ix.t g.wf d l hc _, fun d' p' e => ?_⟩
    -- `C13_insert_entries` is the stated iff but for the conjunct `a :: r ≠ []`, which holds
    rw [C13_insert_entries ix.t g.wf d l hc, and_assoc]
    simp
  | nil =>
    simp only [putBucket, List.isEmpty_nil, if_true]
    cases hd : deleteRoot d l ix.t with
    | none =>
      -- nothing was stored under the key
      refine ⟨g.wf, fun d' p' e =>
        ⟨fun h => Or.inr ⟨?_, h⟩, fun h => h.elim (fun ⟨_, _, hne⟩ => absurd rfl hne) And.right⟩⟩
      rintro ⟨rfl, rfl⟩
      have := (C13_lookupExact_iff_stored ix.t g.wf d' p' hc e).mpr h
      rw [(C13_delete_absent ix.t g.wf d' p' hc).mp hd] at this
      cases this
    | some r =>
      refine ⟨C13_delete_preserves_wf ix.t g.wf d l hc r.1 r.2 hd, fun d' p' e => ?_⟩
      obtain ⟨_, hpre, _⟩ := C13_delete_present ix.t g.wf d l hc r.1 r.2 hd
      show (d', p', e) ∈ preorder r.1 ↔ _
      rw [hpre, List.mem_filter]
      simp only [Bool.not_eq_eq_eq_not, Bool.not_true, decide_eq_false_iff_not]
      exact ⟨fun h => Or.inr ⟨h.2, h.1⟩,
        fun h => h.elim (fun ⟨_, _, hne⟩ => absurd rfl hne) fun h => ⟨h.2, h.1⟩⟩

theorem lpmInsertKey_canon (unique : Bool) (ix : LpmIdx) (pk : Key) {d : Key} {l : Nat} (hc : Canon d l) (o : Obj) :
    lpmInsertKey unique ix pk (d, l) o =
      putBucket ix d l (if unique then [(pk, o)] else entryUpsert ((lookupExact d l ix.t 0).getD []) pk o) := by
  have hne : (if unique then [(pk, o)] else entryUpsert ((lookupExact d l ix.t 0).getD []) pk o).isEmpty = false := by
    rw [List.isEmpty_eq_false_iff]
    split
    · exact List.cons_ne_nil _ _
    · exact entryUpsert_ne_nil _ pk o
  unfold lpmInsertKey putBucket
  simp only [maskData_eq_self d l hc, hne, Bool.false_eq_true, if_false]

/-- pairs instead of buckets, at one index key and one pair; `atKey`: the key is the rewritten one -/
theorem bucket_iff {atKey written displaced inNew held inOld : Prop}
    (hNew : inNew ↔ written ∨ (¬ displaced ∧ inOld)) (hOld : atKey → (inOld ↔ held)) :
    ((atKey ∧ inNew) ∨ (¬ atKey ∧ held)) ↔ ((atKey ∧ written) ∨ (¬ (atKey ∧ displaced) ∧ held)) := by
  by_cases h : atKey
  · simp only [h, true_and, not_true, false_and, or_false, hNew, hOld h]
  · simp only [h, false_and, false_or, not_false_iff, true_and]

/-- an index `ix'` that stores the bucket `e'` under the canonical key `(d, l)` and is `ix` elsewhere, read pair by pair -/
theorem LHolds_bucket {ix ix' : LpmIdx} (g : LGood ix) {d : Key} {l : Nat} (hc : Canon d l) {e' : LpmEntry}
    {written : Key → Obj → Prop} {displaced : Key → Prop}
    (h : ∀ d' p' pk' x, LHolds ix' d' p' pk' x ↔
      ((d' = d ∧ p' = l) ∧ (pk', x) ∈ e') ∨ (¬ (d' = d ∧ p' = l) ∧ LHolds ix d' p' pk' x))
    (he : ∀ pk' x, (pk', x) ∈ e' ↔
      written pk' x ∨ (¬ displaced pk' ∧ (pk', x) ∈ (lookupExact d l ix.t 0).getD []))
    (d' : Key) (p' : Nat) (pk' : Key) (x : Obj) :
    LHolds ix' d' p' pk' x ↔
      ((d' = d ∧ p' = l) ∧ written pk' x) ∨
        (¬ ((d' = d ∧ p' = l) ∧ displaced pk') ∧ LHolds ix d' p' pk' x) :=
  (h d' p' pk' x).trans
    (bucket_iff (he pk' x) fun hk => by rw [hk.1, hk.2]; exact (LHolds_iff_lookup g hc pk' x).symm)

/-- `insertKey`: the pair `(pk, o)` is stored under the key; a unique index drops what was stored
    under the key, a non-unique one only the previous object of `pk`; everything else is kept. -/
theorem lpmInsertKey_spec (unique : Bool) {ix : LpmIdx} (g : LGood ix) (pk : Key) {d : Key} {l : Nat}
    (hc : Canon d l) (o : Obj) :
    LGood (lpmInsertKey unique ix pk (d, l) o) ∧
    ∀ d' p' pk' x, LHolds (lpmInsertKey unique ix pk (d, l) o) d' p' pk' x ↔
      ((d' = d ∧ p' = l) ∧ pk' = pk ∧ x = o) ∨
      (¬ ((d' = d ∧ p' = l) ∧ (unique = true ∨ pk' = pk)) ∧ LHolds ix d' p' pk' x) := by
  rw [lpmInsertKey_canon unique ix pk hc o]
  cases unique with
  | true =>
    obtain ⟨h1, h2⟩ := putBucket_spec g hc [(pk, o)] (sorted_cons.mpr ⟨nofun, sorted_nil⟩)
    -- the bucket is the written pair alone: every old pair is displaced
    exact ⟨h1, LHolds_bucket g hc h2 fun pk' x => by simp⟩
  | false =>
    have hsc := lookup_getD_sorted g hc
    obtain ⟨h1, h2⟩ := putBucket_spec g hc (entryUpsert ((lookupExact d l ix.t 0).getD []) pk o)
      (entryUpsert_sorted _ hsc pk o)
    -- `entryUpsert`: the written pair, and the old pairs of the other primary keys
    exact ⟨h1, LHolds_bucket g hc h2 fun pk' x => by simp [mem_entryUpsert _ hsc]⟩

theorem lpmRemoveKey_cases (ix : LpmIdx) (pk : Key) {d : Key} {l : Nat} (hc : Canon d l) :
    (lpmRemoveKey ix pk (d, l) = ix ∧ ∀ x, (pk, x) ∉ (lookupExact d l ix.t 0).getD []) ∨
    ∃ e, lookupExact d l ix.t 0 = some e ∧ lpmRemoveKey ix pk (d, l) = putBucket ix d l (entryDelete e pk) := by
  unfold lpmRemoveKey
  simp only [maskData_eq_self d l hc]
  cases hl : lookupExact d l ix.t 0 with
  | none => exact Or.inl ⟨rfl, fun x hx => nomatch hx⟩
  | some e =>
    simp only [Option.getD_some]
    by_cases hlen : e.length = 1
    · obtain ⟨⟨k, v⟩, rfl⟩ := List.length_eq_one_iff.mp hlen
      by_cases hk : (k == pk) = true
      · obtain rfl : k = pk := eq_of_beq hk
        exact Or.inr ⟨_, rfl, by simp [putBucket, entryDelete]⟩
      · refine Or.inl ⟨by simp [hk], fun x hx => hk ?_⟩
        simp only [List.mem_singleton, Prod.mk.injEq] at hx
        simp [hx.1]
    · rw [if_neg hlen]
      by_cases hlen' : (entryDelete e pk).length = e.length
      · exact Or.inl ⟨if_pos hlen', entryDelete_length_eq e pk hlen'⟩
      · exact Or.inr ⟨e, rfl, if_neg hlen'⟩

theorem lpmRemoveKey_spec {ix : LpmIdx} (g : LGood ix) (pk : Key) {d : Key} {l : Nat} (hc : Canon d l) :
    LGood (lpmRemoveKey ix pk (d, l)) ∧
    ∀ d' p' pk' x, LHolds (lpmRemoveKey ix pk (d, l)) d' p' pk' x ↔
      ¬ ((d' = d ∧ p' = l) ∧ pk' = pk) ∧ LHolds ix d' p' pk' x := by
  rcases lpmRemoveKey_cases ix pk hc with ⟨hr, hno⟩ | ⟨e, hl, hr⟩
  · rw [hr]
    refine ⟨g, fun d' p' pk' x => ⟨fun h => ⟨?_, h⟩, fun h => h.2⟩⟩
    rintro ⟨⟨rfl, rfl⟩, rfl⟩
    exact hno x ((LHolds_iff_lookup g hc _ _).mp h)
  · have hse : Sorted e := by have := lookup_getD_sorted g hc; rwa [hl] at this
    obtain ⟨h1, h2⟩ := putBucket_spec g hc _ (entryDelete_sorted e hse pk)
    rw [hr]
    refine ⟨h1, fun d' p' pk' x => ?_⟩
    rw [LHolds_bucket g hc h2 (written := fun _ _ => False) (displaced := (· = pk))
      (fun pk' x => by rw [mem_entryDelete, false_or, hl]; rfl)]
    simp only [and_false, false_or]

/-- two `insertKey` steps of the same pair in a row: writing under `key1` and then under `key2` is writing
    under `key1 ∨ key2` (`hwd`: a write displaces the written pair's own predecessor too) -/
theorem ins_compose {key1 key2 written displaced held : Prop} (hwd : written → displaced) :
    ((key2 ∧ written) ∨ (¬ (key2 ∧ displaced) ∧ ((key1 ∧ written) ∨ (¬ (key1 ∧ displaced) ∧ held)))) ↔
      (((key1 ∨ key2) ∧ written) ∨ (¬ ((key1 ∨ key2) ∧ displaced) ∧ held)) := by
  by_cases hw : written
  · simp only [hw, hwd hw, and_true]
    by_cases h1 : key1 <;> by_cases h2 : key2 <;> simp [h1, h2]
  · by_cases h1 : key1 <;> by_cases h2 : key2 <;> simp [h1, h2, hw]

theorem insFold_spec (unique : Bool) (pk : Key) (o : Obj) (ks : List (Key × Nat))
    (hks : ∀ k ∈ ks, Canon k.1 k.2) {ix : LpmIdx} (g : LGood ix) :
    LGood (ks.foldl (fun ix k => lpmInsertKey unique ix pk k o) ix) ∧
    ∀ d p pk' x, LHolds (ks.foldl (fun ix k => lpmInsertKey unique ix pk k o) ix) d p pk' x ↔
      ((d, p) ∈ ks ∧ pk' = pk ∧ x = o) ∨
      (¬ ((d, p) ∈ ks ∧ (unique = true ∨ pk' = pk)) ∧ LHolds ix d p pk' x) := by
  induction ks generalizing ix with
  | nil => exact ⟨g, by simp⟩
  | cons k ks ih =>
    obtain ⟨kd, kl⟩ := k
    rw [List.forall_mem_cons] at hks
    obtain ⟨g1, h1⟩ := lpmInsertKey_spec unique g pk hks.1 o
    obtain ⟨g2, h2⟩ := ih hks.2 g1
    refine ⟨g2, fun d p pk' x => ?_⟩
    rw [List.foldl_cons, h2, h1, List.mem_cons, Prod.mk.injEq]
    exact ins_compose fun h => Or.inr h.1

theorem remFold_spec (pk : Key) (ks : List (Key × Nat)) (hks : ∀ k ∈ ks, Canon k.1 k.2) {ix : LpmIdx}
    (g : LGood ix) :
    LGood (ks.foldl (fun ix k => lpmRemoveKey ix pk k) ix) ∧
    ∀ d p pk' x, LHolds (ks.foldl (fun ix k => lpmRemoveKey ix pk k) ix) d p pk' x ↔
      ¬ ((d, p) ∈ ks ∧ pk' = pk) ∧ LHolds ix d p pk' x := by
  induction ks generalizing ix with
  | nil => exact ⟨g, fun d p pk' x => ⟨fun h => ⟨fun hh => (nomatch hh.1), h⟩, And.right⟩⟩
  | cons k ks ih =>
    obtain ⟨kd, kl⟩ := k
    rw [List.forall_mem_cons] at hks
    obtain ⟨g1, h1⟩ := lpmRemoveKey_spec g pk hks.1
    obtain ⟨g2, h2⟩ := ih hks.2 g1
    refine ⟨g2, fun d p pk' x => ?_⟩
    rw [List.foldl_cons, h2, h1, List.mem_cons, Prod.mk.injEq]
    exact ⟨fun ⟨a, b, c⟩ => ⟨fun hh => hh.1.elim (fun e => b ⟨e, hh.2⟩) fun m => a ⟨m, hh.2⟩, c⟩,
      fun ⟨a, c⟩ => ⟨fun hh => a ⟨Or.inr hh.1, hh.2⟩, fun hh => a ⟨Or.inl hh.1, hh.2⟩, c⟩⟩

/-- The LPM index agrees with the primary index.  `char`: the stored (index key, primary key, object)
    triples are exactly those of the live objects with their normalised keys.  `uniq`: in a unique index no
    two live objects share a key (the contract of a unique indexer). -/
structure LInv (unique : Bool) (keys : Obj → List (Key × Nat)) (primary : OMap Obj) (ix : LpmIdx) : Prop where
  wf : WF ix.t
  keysOk : ∀ pk x, primary.get pk = some x → ∀ k ∈ keys x, LKeyOk k
  sortedE : ∀ d p e, (d, p, e) ∈ preorder ix.t → Sorted e
  nonempty : ∀ d p e, (d, p, e) ∈ preorder ix.t → e ≠ []
  char : ∀ d p pk x, (∃ e, (d, p, e) ∈ preorder ix.t ∧ (pk, x) ∈ e) ↔
    primary.get pk = some x ∧ (d, p) ∈ (keys x).map normKey
  uniq : unique = true → ∀ pk1 x1 pk2 x2, primary.get pk1 = some x1 → primary.get pk2 = some x2 →
    (∃ k, k ∈ (keys x1).map normKey ∧ k ∈ (keys x2).map normKey) → pk1 = pk2

theorem LInv.good {unique : Bool} {keys : Obj → List (Key × Nat)} {primary : OMap Obj} {ix : LpmIdx}
    (inv : LInv unique keys primary ix) : LGood ix := ⟨inv.wf, inv.sortedE, inv.nonempty⟩

theorem LInv.empty (unique : Bool) (keys : Obj → List (Key × Nat)) : LInv unique keys [] {} where
  wf := trivial
  keysOk pk x h := by simp at h
  sortedE d p e h := by simp [preorder] at h
  nonempty d p e h := by simp [preorder] at h
  char d p pk x := by simp [preorder]
  uniq _ pk1 x1 pk2 x2 h := by simp at h

/-- the normalised index keys of an object that may be absent -/
def normKeys (keys : Obj → List (Key × Nat)) (o : Option Obj) : List (Key × Nat) :=
  o.elim [] fun x => (keys x).map normKey

theorem normKeys_canon {keys : Obj → List (Key × Nat)} {o : Option Obj}
    (h : ∀ x, o = some x → ∀ k ∈ keys x, LKeyOk k) : ∀ k ∈ normKeys keys o, Canon k.1 k.2 := by
  cases o with
  | none => intro k hk; cases hk
  | some x =>
    intro k hk
    obtain ⟨k0, hk0, rfl⟩ := List.mem_map.mp hk
    exact (h x rfl k0 hk0).canon

/-- `lpmIndexTxn.reindex` with the replaced object `old` and the new object `new` (either may be
    absent) under the primary key `pk`: the insert loop over the keys of `new`, then the remove loop over
    the keys of `old` that are not keys of `new` -/
theorem reindexLpm_spec (unique : Bool) (pk : Key) (old new : Option Obj) (keys : Obj → List (Key × Nat))
    (hold : ∀ k ∈ normKeys keys old, Canon k.1 k.2) (hnew : ∀ k ∈ normKeys keys new, Canon k.1 k.2)
    {ix : LpmIdx} (g : LGood ix) :
    LGood (reindexLpm unique ix pk old new keys) ∧
    ∀ d p pk' x, LHolds (reindexLpm unique ix pk old new keys) d p pk' x ↔
      ¬ ((d, p) ∈ normKeys keys old ∧ (d, p) ∉ normKeys keys new ∧ pk' = pk) ∧
      (((d, p) ∈ normKeys keys new ∧ pk' = pk ∧ some x = new) ∨
        (¬ ((d, p) ∈ normKeys keys new ∧ (unique = true ∨ pk' = pk)) ∧ LHolds ix d p pk' x)) := by
  have hmem : ∀ (nk : List (Key × Nat)) (k : Key × Nat),
      k ∈ (normKeys keys old).filter (fun k => !nk.contains k) ↔ k ∈ normKeys keys old ∧ k ∉ nk := by
    intro nk k
    rw [List.mem_filter, Bool.not_eq_true', List.contains_eq_mem, decide_eq_false_iff_not]
  have hold' : ∀ nk : List (Key × Nat), ∀ k ∈ (normKeys keys old).filter (fun k => !nk.contains k),
      Canon k.1 k.2 := fun nk k hk => hold k ((hmem nk k).mp hk).1
  cases new with
  | none =>
    have e : reindexLpm unique ix pk old none keys = (normKeys keys old).foldl
        (fun ix k => if ([] : List (Key × Nat)).contains k then ix else lpmRemoveKey ix pk k) ix := by
      cases old <;> rfl
    obtain ⟨g2, h2⟩ := remFold_spec pk _ (hold' []) g
    rw [e, foldl_skip]
    refine ⟨g2, fun d p pk' x => ?_⟩
    rw [h2, hmem, and_assoc]
    simp only [normKeys, Option.elim_none, List.not_mem_nil, false_and, not_false_eq_true, true_and, false_or]
  | some n =>
    have e : reindexLpm unique ix pk old (some n) keys = (normKeys keys old).foldl
        (fun ix k => if (normKeys keys (some n)).contains k then ix else lpmRemoveKey ix pk k)
        ((normKeys keys (some n)).foldl (fun ix k => lpmInsertKey unique ix pk k n) ix) := by
      cases old <;> rfl
    obtain ⟨g1, h1⟩ := insFold_spec unique pk n _ hnew g
    obtain ⟨g2, h2⟩ := remFold_spec pk _ (hold' (normKeys keys (some n))) g1
    rw [e, foldl_skip]
    refine ⟨g2, fun d p pk' x => ?_⟩
    rw [h2, h1, hmem, and_assoc, Option.some.injEq]

/-- `hu` is the uniqueness obligation of the caller for a unique index: no other live object has one of the
    new object's keys. -/
theorem LInv.write {unique : Bool} {keys : Obj → List (Key × Nat)} {primary primary' : OMap Obj} {ix : LpmIdx}
    (inv : LInv unique keys primary ix) (id : Key) (new : Option Obj)
    (hk : ∀ n, new = some n → ∀ k ∈ keys n, LKeyOk k)
    (hu : unique = true → ∀ pk x, primary.get pk = some x → pk ≠ id →
      ∀ k ∈ (keys x).map normKey, k ∉ normKeys keys new)
    (hP : Updated primary id new primary') :
    LInv unique keys primary' (reindexLpm unique ix id (primary.get id) new keys) := by
  obtain ⟨g, h⟩ := reindexLpm_spec unique id (primary.get id) new keys
    (normKeys_canon fun o ho => inv.keysOk id o ho) (normKeys_canon hk) inv.good
  refine { wf := g.wf, sortedE := g.sortedE, nonempty := g.nonempty, keysOk := ?_, char := ?_, uniq := ?_ }
  · intro pk x hx
    rw [hP] at hx
    split at hx
    · exact hk x hx
    · exact inv.keysOk pk x hx
  · intro d p pk x
    change LHolds _ d p pk x ↔ _
    rw [h, show LHolds ix d p pk x ↔ _ from inv.char d p pk x, hP]
    by_cases hpk : pk = id
    · subst hpk
      simp only [if_true, true_and, or_true, and_true]
      constructor
      · rintro ⟨hO, ⟨hN, hx⟩ | ⟨hN, hx, hK⟩⟩
        · rw [← hx] at hN; exact ⟨hx.symm, hN⟩
        · -- `x` would be the replaced object, all of whose pairs are gone
          rw [hx] at hO; exact absurd ⟨hK, hN⟩ hO
      · rintro ⟨hx, hN⟩
        rw [hx]; exact ⟨fun hh => hh.2 hN, Or.inl ⟨hN, rfl⟩⟩
    · simp only [hpk, if_false, and_false, false_and, false_or, or_false, not_false_eq_true, true_and]
      -- the pair of another live object goes only if a unique insert displaces it: by `hu` none of its keys is new
      exact and_iff_right_of_imp fun ⟨hlive, hkey⟩ ⟨hnew, hU⟩ => hu hU pk x hlive hpk (d, p) hkey hnew
  · intro hU pk1 x1 pk2 x2 hx1 hx2 ⟨k, hk1, hk2⟩
    rw [hP] at hx1 hx2
    by_cases e1 : pk1 = id <;> by_cases e2 : pk2 = id
    · rw [e1, e2]
    · rw [if_pos e1] at hx1; rw [if_neg e2] at hx2
      rw [hx1] at hu
      exact absurd hk1 (hu hU pk2 x2 hx2 e2 k hk2)
    · rw [if_neg e1] at hx1; rw [if_pos e2] at hx2
      rw [hx2] at hu
      exact absurd hk2 (hu hU pk1 x1 hx1 e1 k hk1)
    · rw [if_neg e1] at hx1; rw [if_neg e2] at hx2
      exact inv.uniq hU pk1 x1 pk2 x2 hx1 hx2 ⟨k, hk1, hk2⟩

end Sdb.Tbl
