import SdbModel.Lemmas.ConcInitMicro

/-!
  From micro steps to scheduler steps and to all reachable states of `Model.Conc` (protocols of the shape `initShape`,
  any threads, any schedule).  A scheduler step is a chain of micro steps of one thread, each with the simulation
  invariant, `CI` and its effect `Eff` at hand (`MicroCtx`); `CI` holds initially, survives spawning and scheduler
  steps, hence holds in every reachable state (`reach_CI`).  `reachFrom_inv`: a further invariant of the reachable
  states follows from its preservation by ONE micro step, given as a `MicroCtx`, and by spawning; `step_with` does
  the same for a fact about a single scheduler step, relative to the record the thread had when the step began.
-/
namespace Sdb.Conc

theorem CI_run_start (st : State) (cs : List Bool) (tid : Nat) (h : CI st cs none) : CI st cs (some tid) :=
  { h with RS := fun j thj hj _ => h.RS j thj hj (by simp) }

theorem CI_run_end (st : State) (cs : List Bool) (tid : Nat) (h : CI st cs (some tid))
    (hrest : ∀ th, st.threads[tid]? = some th → th.prog.head? ≠ some (.act .storeRoot)) : CI st cs none := by
  have hRS : ∀ (j : Nat) (thj : Thread), st.threads[j]? = some thj → some j ≠ (none : Option Nat) →
      thj.prog.head? ≠ some (.act .storeRoot) := by
    intro j thj hj _
    by_cases hjt : j = tid
    · subst hjt; exact hrest thj hj
    · exact h.RS j thj hj (by simpa using hjt)
  exact { h with RS := hRS }

/-- what is available at every micro step of a run of thread `tid` -/
structure MicroCtx (cs : List Bool) (tid : Nat) (a b : State × Thread) (c : Bool) : Prop where
  sim : Sim (install a.1 tid a.2) cs
  ci : CI (install a.1 tid a.2) cs (some tid)
  ci' : CI (install b.1 tid b.2) cs (some tid)
  lt : tid < a.1.threads.length
  threads : b.1.threads = a.1.threads
  flag : cs[tid]? = some c
  step : mstep a.1 tid a.2 = some b
  eff : Eff a.1 b.1 a.2 b.2 c
  frame : EffFrame a.2 b.2 c

theorem run_inv (st : State) (cs : List Bool) (tid : Nat) (hsim : Sim st cs) (hCI : CI st cs none)
    (J : State × Thread → Prop) (hJ : ∀ a b c, MicroCtx cs tid a b c → J a → J b)
    {th : Thread} {b : State × Thread} (hth : st.threads[tid]? = some th) (hd : th.done = false)
    (hstar : MStar tid (st, th) b) (h0 : J (st, th)) : CI (install b.1 tid b.2) cs (some tid) ∧ J b := by
  have ha := RunInv_start (tid := tid) hsim hth hd
  have hci0 : CI (install st tid th) cs (some tid) := by
    rw [install_self st tid th hth]; exact CI_run_start st cs tid hCI
  have key := MStar.invariant (tid := tid)
    (fun x => RunInv tid cs x ∧ CI (install x.1 tid x.2) cs (some tid) ∧ J x)
    (fun a b hab hs => by
      obtain ⟨hr, hc, hj⟩ := hab
      obtain ⟨c, hcf, ok⟩ := mstep_ok a.1 cs tid a.2 b.1 b.2 hr.sim hr.lt hc hs
      have ctx : MicroCtx cs tid a b c :=
        { sim := hr.sim, ci := hc, ci' := ok.ci, lt := hr.lt, threads := mstep_threads a.1 tid a.2 b.1 b.2 hs,
          flag := hcf, step := hs, eff := ok.eff, frame := ok.frame }
      exact ⟨(RunInv_mstep tid cs a b hr hs).1, ok.ci, hJ a b c ctx hj⟩)
    hstar ⟨ha, hci0, h0⟩
  exact key.2

/-- what no run changes in the record of its thread (`th0` at the start of the run) -/
structure RunFrame (th0 th : Thread) : Prop where
  tables : th.tables = th0.tables
  regInit : th.regInit = th0.regInit
  markInit : th.markInit = th0.markInit
  sub : ∀ m, m ∈ th.prog → m ∈ th0.prog

theorem RunFrame.step {th0 th th' : Thread} {c : Bool} (h : RunFrame th0 th) (f : EffFrame th th' c) :
    RunFrame th0 th' :=
  ⟨f.tables.trans h.tables, f.regInit.trans h.regInit, f.markInit.trans h.markInit, fun m hm => h.sub m (f.sub m hm)⟩

theorem step_with (st : State) (cs : List Bool) (tid : Nat) (hsim : Sim st cs) (hCI : CI st cs none)
    (J : Thread → State × Thread → Prop)
    (hJ : ∀ th0 a b c, MicroCtx cs tid a b c → RunFrame th0 a.2 → J th0 a → J th0 b)
    (h0 : ∀ th, st.threads[tid]? = some th → J th (st, th)) :
    (step st tid).1 = st ∨ ∃ th st' th', st.threads[tid]? = some th ∧ th.done = false ∧ RunFrame th th' ∧
      J th (st', th') ∧ (step st tid).1 = install st' tid th' ∧ st'.threads = st.threads := by
  rcases step_cases st tid with he | ⟨th, st', th', hth, hd, hstar, he, _⟩
  · exact Or.inl he
  · obtain ⟨_, fr, hj⟩ := run_inv st cs tid hsim hCI (fun x => RunFrame th x.2 ∧ J th x)
      (fun a b c ctx h => ⟨h.1.step ctx.frame, hJ th a b c ctx h.1 h.2⟩) hth hd hstar
      ⟨⟨rfl, rfl, rfl, fun _ hm => hm⟩, h0 th hth⟩
    exact Or.inr ⟨th, st', th', hth, hd, fr, hj, he, mstar_threads hstar⟩

theorem step_preserves (st : State) (cs : List Bool) (tid : Nat) (hsim : Sim st cs) (hCI : CI st cs none)
    (K : State → Prop)
    (hK : ∀ a b c, MicroCtx cs tid a b c → K (install a.1 tid a.2) → K (install b.1 tid b.2))
    (h0 : K st) : K (step st tid).1 := by
  rcases step_with st cs tid hsim hCI (fun _ x => K (install x.1 tid x.2)) (fun _ a b c ctx _ => hK a b c ctx)
      (fun th hth => by show K (install st tid th); rw [install_self st tid th hth]; exact h0) with
    he | ⟨th, st', th', _, _, _, hj, he, _⟩
  · rw [he]; exact h0
  · rw [he]; exact hj

theorem CI_step (st : State) (cs : List Bool) (tid : Nat) (hsim : Sim st cs) (h : CI st cs none) :
    CI (step st tid).1 cs none := by
  rcases step_cases st tid with he | ⟨th, st', th', hth, hd, hstar, he, hhead⟩
  · rw [he]; exact h
  · rw [he]
    apply CI_run_end _ cs tid (run_inv st cs tid hsim h (fun _ => True) (fun _ _ _ _ _ => trivial) hth hd hstar trivial).1
    intro th'' hth''
    have hlt : tid < st'.threads.length := by
      have := mstar_threads hstar
      simp only at this; rw [this]; exact LB.lt_of_getElem? hth
    rw [install_get _ _ _ _ hlt] at hth''
    simp only [if_true, Option.some.injEq] at hth''
    subst hth''
    exact hhead _

theorem getT_init (n x : Nat) (hx : x < n) :
    getT ((List.range n).map fun i => ({ watch := i + 1 } : TableV)) x = { watch := x + 1 } :=
  getT_map_range _ _ x hx

theorem CI_init (n : Nat) : CI (initState n) [] none := by
  have hlen : (initState n).root.length = n := by simp [initState]
  have hget : ∀ x, x < n → getT (initState n).root x = { watch := x + 1 } := fun x hx => getT_init n x hx
  have hch : ∀ x w, x < n → chansOf (getT (initState n).root x) w → w = x + 1 := by
    intro x w hx hw
    rw [hget x hx] at hw
    exact hw.elim id (fun h => absurd h.1 h.2)
  have nothr : ∀ {tid : Nat} {th : Thread}, (initState n).threads[tid]? = some th → False := fun h => by
    simp [initState] at h
  have noclosed : ∀ {w : Nat}, w ∈ (initState n).closed → False := fun h => by simp [initState] at h
  exact {
    len := rfl
    nc := Nat.succ_le_succ (Nat.zero_le n)
    bR := fun w ⟨x, hx, hw⟩ => by
      rw [hlen] at hx
      have := hch x w hx hw
      show w < n + 1; omega
    bC := fun w hw => (noclosed hw).elim
    bP := fun _ _ _ _ hth => (nothr hth).elim
    RC := fun _ _ hw => noclosed hw
    PC := fun _ _ _ _ hth => (nothr hth).elim
    PR := fun _ _ _ _ hth => (nothr hth).elim
    PP := fun _ _ _ _ _ _ _ _ hth => (nothr hth).elim
    RI := fun x y hx hy hxy w cx cy => by
      rw [hlen] at hx hy
      have := hch x w hx cx
      have := hch y w hy cy
      omega
    RW := fun x hx hne => by
      rw [hlen] at hx
      rw [hget x hx] at hne
      exact absurd rfl hne
    FIc := fun _ _ _ hth => (nothr hth).elim
    IP := fun x hx => by rw [hlen] at hx; rw [hget x hx]; simp
    RV := fun x hx => by rw [hlen] at hx; rw [hget x hx]
    CO := fun _ hw => (noclosed hw).elim
    TH := fun _ _ hth => (nothr hth).elim
    RS := fun _ _ hth => (nothr hth).elim }

theorem spawn_old (st : State) (cs : List Bool) (thn : Thread) (c : Bool) (hlen : cs.length = st.threads.length)
    (j : Nat) (T : Thread) (hj : st.threads[j]? = some T) :
    (st.threads ++ [thn])[j]? = some T ∧ (cs ++ [c])[j]? = cs[j]? := by
  have hlt := LB.lt_of_getElem? hj
  exact ⟨by rw [List.getElem?_append_left hlt]; exact hj, List.getElem?_append_left (by rw [hlen]; exact hlt)⟩

theorem spawn_lookup (st : State) (cs : List Bool) (thn : Thread) (c : Bool) (hlen : cs.length = st.threads.length)
    (j : Nat) (T : Thread) (hj : (st.threads ++ [thn])[j]? = some T) :
    (st.threads[j]? = some T ∧ (cs ++ [c])[j]? = cs[j]?) ∨
    (j = st.threads.length ∧ T = thn ∧ (cs ++ [c])[j]? = some c) := by
  by_cases hlt : j < st.threads.length
  · rw [List.getElem?_append_left hlt] at hj
    exact Or.inl ⟨hj, List.getElem?_append_left (by rw [hlen]; exact hlt)⟩
  · have hl := LB.lt_of_getElem? hj
    simp only [List.length_append, List.length_singleton] at hl
    obtain rfl : j = st.threads.length := by omega
    simp only [List.getElem?_concat_length, Option.some.injEq] at hj
    exact Or.inr ⟨rfl, hj.symm, by rw [← hlen]; simp⟩

theorem CI_spawn (st : State) (cs : List Bool) (thn : Thread) (c : Bool) (h : CI st cs none)
    (hpriv : ∀ w, ¬ priv thn c w)
    (hok : ThreadOK st.root st.nextChan thn c)
    (hhead : thn.prog.head? ≠ some (.act .storeRoot)) :
    CI { st with threads := st.threads ++ [thn] } (cs ++ [c]) none := by
  have lookT := spawn_lookup st cs thn c h.len
  have look : ∀ (j : Nat) (thj : Thread) (cj : Bool), (st.threads ++ [thn])[j]? = some thj → (cs ++ [c])[j]? = some cj →
      (st.threads[j]? = some thj ∧ cs[j]? = some cj) ∨ (thj = thn ∧ cj = c) := by
    intro j thj cj hj hcj
    rcases lookT j thj hj with ⟨a, b⟩ | ⟨_, a, b⟩
    · exact Or.inl ⟨a, b ▸ hcj⟩
    · exact Or.inr ⟨a, Option.some.inj (hcj.symm.trans b)⟩
  -- a thread with a private channel is an old one
  have old : ∀ {j : Nat} {thj : Thread} {cj : Bool} {w : Nat}, (st.threads ++ [thn])[j]? = some thj →
      (cs ++ [c])[j]? = some cj → priv thj cj w → st.threads[j]? = some thj ∧ cs[j]? = some cj := by
    intro j thj cj w hj hcj hp
    rcases look j thj cj hj hcj with g | ⟨rfl, rfl⟩
    · exact g
    · exact absurd hp (hpriv w)
  exact {
    len := by simp [h.len]
    nc := h.nc
    bR := h.bR
    bC := h.bC
    bP := fun j thj cj w hj hcj hp => h.bP j thj cj w (old hj hcj hp).1 (old hj hcj hp).2 hp
    RC := h.RC
    PC := fun j thj cj w hj hcj hp => h.PC j thj cj w (old hj hcj hp).1 (old hj hcj hp).2 hp
    PR := fun j thj cj w hj hcj hp => h.PR j thj cj w (old hj hcj hp).1 (old hj hcj hp).2 hp
    PP := fun j j' thj thj' cj cj' w hne hj hj' hcj hcj' hp hp' =>
      h.PP j j' thj thj' cj cj' w hne (old hj hcj hp).1 (old hj' hcj' hp').1 (old hj hcj hp).2 (old hj' hcj' hp').2 hp hp'
    RI := h.RI
    RW := h.RW
    FIc := fun j thj cj hj hcj => by
      rcases look j thj cj hj hcj with ⟨a, b⟩ | ⟨rfl, rfl⟩
      · exact h.FIc j thj cj a b
      · intro hfp x hx y hy hxy w fx _
        exact hpriv w (Or.inl ⟨hfp, x, hx, fx⟩)
    IP := h.IP
    RV := h.RV
    CO := fun w hw => by
      obtain ⟨j, thj, hj, hcj, rest⟩ := h.CO w hw
      obtain ⟨g1, g2⟩ := spawn_old st cs thn c h.len j thj hj
      exact ⟨j, thj, g1, g2.trans hcj, rest⟩
    TH := fun j thj hj => by
      rcases lookT j thj hj with ⟨a, b⟩ | ⟨_, rfl, b⟩
      · obtain ⟨cj, hcj, hrest⟩ := h.TH j thj a
        exact ⟨cj, b.trans hcj, hrest⟩
      · exact ⟨c, b, hok⟩
    RS := fun j thj hj _ => by
      rcases lookT j thj hj with ⟨a, _⟩ | ⟨_, rfl, _⟩
      · exact h.RS j thj a (by simp)
      · exact hhead }

theorem CI_writer (P : Protocol) (hP : P.initShape = true) (st : State) (cs : List Bool) (tabs : List Nat)
    (commit : Bool) (markInit regInit : List Nat) (h : CI st cs none)
    (hb : ∀ x ∈ tabs, x < st.root.length ∧ x < st.lockOwner.length) :
    CI (spawnWriter P st tabs commit markInit regInit) (cs ++ [commit]) none := by
  let thn : Thread := { prog := writerProg P tabs commit, tables := tabs, markInit := markInit, regInit := regInit }
  have hstrip : strip2 thn.prog = code2 (lockList thn) commit (.acq 0) := strip2_writerProg P hP tabs commit
  have tr := tracked_of_pos thn _ commit _ hstrip
  have huw : Micro.userWrites ∈ thn.prog := tr.userWrites.2 rfl
  have hsr : commit = true → Micro.act .storeRoot ∈ thn.prog := fun hc => tr.storeRoot.2 (by simp [srIn, hc])
  refine CI_spawn st cs thn commit h ?_ ⟨?_, adjOK_writerProg P hP tabs commit, .acq 0, hstrip, trivial⟩ ?_
  · intro w hw
    rcases hw with ⟨⟨h1, _⟩, _⟩ | ⟨h1, h2, _⟩ | ⟨h1, h2, _⟩
    · exact h1 huw
    · exact h2 (hsr h1)
    · exact h2 (hsr h1)
  · intro x hx
    exact (hb x ((mem_lockList thn x).1 hx)).1
  · show (writerProg P tabs commit).head? ≠ _
    simp [writerProg]

/-- a new thread without tables (registration, accepted or rejected) -/
theorem CI_spawn_reg (st : State) (cs : List Bool) (prog : List Micro) (p0 : Pos2) (h : CI st cs none)
    (hadj : adjOK prog = true) (hstrip : strip2 prog = code2 [] false p0)
    (hloc : ∀ th : Thread, th.tables = [] → Loc st.root st.nextChan th false p0)
    (hhead : prog.head? ≠ some (.act .storeRoot)) :
    CI { st with threads := st.threads ++ [{ prog := prog }] } (cs ++ [false]) none := by
  let thn : Thread := { prog := prog }
  have hL : lockList thn = [] := lockList_nil thn rfl
  refine CI_spawn st cs thn false h ?_ ⟨?_, hadj, p0, by rw [hL]; exact hstrip, hloc thn rfl⟩ hhead
  · intro w hw
    rcases hw with ⟨_, x, hx, _⟩ | ⟨h1, _⟩ | ⟨h1, _⟩
    · rw [hL] at hx; simp at hx
    · simp at h1
    · simp at h1
  · intro x hx; rw [hL] at hx; simp at hx

theorem CI_register (P : Protocol) (hP : P.initShape = true) (st : State) (cs : List Bool) (h : CI st cs none) :
    CI (spawnRegister P st) (cs ++ [false]) none :=
  CI_spawn_reg st cs _ .gA h (adjOK_registerProg P hP) (strip2_registerProg P hP false) (fun _ ht => ⟨rfl, ht⟩)
    (by simp [registerProg])

theorem CI_registerDup (P : Protocol) (hP : P.initShape = true) (st : State) (cs : List Bool) (h : CI st cs none) :
    CI (spawnRegisterDup P st) (cs ++ [false]) none :=
  CI_spawn_reg st cs _ .dA h (adjOK_registerDupProg P hP) (strip2_registerDupProg P hP false) (fun _ ht => ⟨rfl, ht⟩)
    (by simp [registerDupProg])

theorem reach_CI (P : Protocol) (hP : P.initShape = true) (n : Nat) (st : State) (cs : List Bool)
    (h : Reach P n st cs) : CI st cs none := by
  induction h with
  | init => exact CI_init n
  | writer st cs tabs commit mi ri _ hb ih => exact CI_writer P hP st cs tabs commit mi ri ih hb
  | register st cs _ ih => exact CI_register P hP st cs ih
  | registerDup st cs _ ih => exact CI_registerDup P hP st cs ih
  | step st cs tid hr ih => exact CI_step st cs tid (reach_sim P (initShape_simShape P hP) n st cs hr) ih

/-- `st` (flags `cs`) is reached from `st0` (flags `cs0`) by spawning threads and scheduler steps -/
inductive ReachFrom (P : Protocol) (st0 : State) (cs0 : List Bool) : State → List Bool → Prop where
  | refl : ReachFrom P st0 cs0 st0 cs0
  | writer (st : State) (cs : List Bool) (tabs : List Nat) (commit : Bool) (markInit regInit : List Nat) :
      ReachFrom P st0 cs0 st cs → (∀ x ∈ tabs, x < st.root.length ∧ x < st.lockOwner.length) →
      ReachFrom P st0 cs0 (spawnWriter P st tabs commit markInit regInit) (cs ++ [commit])
  | register (st : State) (cs : List Bool) : ReachFrom P st0 cs0 st cs →
      ReachFrom P st0 cs0 (spawnRegister P st) (cs ++ [false])
  | registerDup (st : State) (cs : List Bool) : ReachFrom P st0 cs0 st cs →
      ReachFrom P st0 cs0 (spawnRegisterDup P st) (cs ++ [false])
  | step (st : State) (cs : List Bool) (tid : Nat) : ReachFrom P st0 cs0 st cs →
      ReachFrom P st0 cs0 (step st tid).1 cs

theorem reach_of_reachFrom (P : Protocol) (n : Nat) (st0 : State) (cs0 : List Bool) (h0 : Reach P n st0 cs0)
    (st : State) (cs : List Bool) (h : ReachFrom P st0 cs0 st cs) : Reach P n st cs := by
  induction h with
  | refl => exact h0
  | writer st cs tabs commit mi ri _ hb ih => exact .writer st cs tabs commit mi ri ih hb
  | register st cs _ ih => exact .register st cs ih
  | registerDup st cs _ ih => exact .registerDup st cs ih
  | step st cs tid _ ih => exact .step st cs tid ih

theorem reachFrom_of_reach (P : Protocol) (n : Nat) (st : State) (cs : List Bool) (h : Reach P n st cs) :
    ReachFrom P (initState n) [] st cs := by
  induction h with
  | init => exact .refl
  | writer st cs tabs commit mi ri _ hb ih => exact .writer st cs tabs commit mi ri ih hb
  | register st cs _ ih => exact .register st cs ih
  | registerDup st cs _ ih => exact .registerDup st cs ih
  | step st cs tid _ ih => exact .step st cs tid ih

theorem storeRoot_mem_writerProg (P : Protocol) (hP : P.initShape = true) (tabs : List Nat) :
    Micro.act .storeRoot ∈ writerProg P tabs true := by
  rw [← mem_strip2 _ _ (by rfl), strip2_writerProg P hP tabs true]
  simp [code2, cEnd2, csTail]

theorem reachFrom_inv (P : Protocol) (hP : P.initShape = true) (n : Nat) (st0 : State) (cs0 : List Bool)
    (h0 : Reach P n st0 cs0) (K : State → List Bool → Prop)
    (hspawn : ∀ st cs thn c, cs.length = st.threads.length → (c = true → Micro.act .storeRoot ∈ thn.prog) → K st cs →
      K { st with threads := st.threads ++ [thn] } (cs ++ [c]))
    (hmicro : ∀ cs tid a b c, MicroCtx cs tid a b c → K (install a.1 tid a.2) cs → K (install b.1 tid b.2) cs)
    (hK0 : K st0 cs0) (st : State) (cs : List Bool) (h : ReachFrom P st0 cs0 st cs) : K st cs := by
  induction h with
  | refl => exact hK0
  | writer st cs tabs commit mi ri hr hb ih =>
    refine hspawn st cs _ commit (reach_CI P hP n st cs (reach_of_reachFrom P n st0 cs0 h0 st cs hr)).len ?_ ih
    intro hc; subst hc
    exact storeRoot_mem_writerProg P hP tabs
  | register st cs hr ih =>
    exact hspawn st cs _ false (reach_CI P hP n st cs (reach_of_reachFrom P n st0 cs0 h0 st cs hr)).len
      (fun hc => Bool.noConfusion hc) ih
  | registerDup st cs hr ih =>
    exact hspawn st cs _ false (reach_CI P hP n st cs (reach_of_reachFrom P n st0 cs0 h0 st cs hr)).len
      (fun hc => Bool.noConfusion hc) ih
  | step st cs tid hr ih =>
    have hreach := reach_of_reachFrom P n st0 cs0 h0 st cs hr
    exact step_preserves st cs tid (reach_sim P (initShape_simShape P hP) n st cs hreach) (reach_CI P hP n st cs hreach)
      (fun s => K s cs) (hmicro cs tid) ih

end Sdb.Conc
