import SdbModel.Lemmas.ReconcilerInjectLand

/-!
  The loops of a round preserve `JInv` when user writes land while Updates run.  An Update is
  the bookkeeping step of `Lemmas.ReconcilerStep` followed by the landing writes; what is
  left of the round's change stream is then right only up to staleness (`JChOK`).  The
  hypothesis `R.roundSafe` keeps foreign status writes off Error objects (K4).  Under its guard
  `R.consumeSafe` the change loop is walked once (`LoopInv.consume`), for any invariant given by
  what one iteration does to it (`LoopInv`).
-/
namespace Sdb.Rec

theorem CommitRel.grow {r r' : R} (h : CommitRel r r') (hn : r.nextSid ≤ r'.nextSid) : Grow r r' :=
  ⟨h.tableRev, hn, fun o ho => (h.objs o ho).imp id (fun a => a.1), fun d hd => Or.inl (h.dels d hd)⟩

theorem commitStatus_grow (r : R) : Grow r r.commitStatus := by
  have g := (commitRel_foldl r.results r).grow (foldl_commitOne_nextSid r.results r)
  exact ⟨g.tableRev, g.nextSid, g.objs, g.dels⟩

/-- `ChOK` up to staleness; `S` is the table revision of the round's snapshot.  A change may be
    stale: its object was rewritten (revision beyond `S`, still to be processed, same data if it
    still carries the same pending id), deleted or re-created by a write that landed during an
    Update of this round. -/
structure JChOK (S : Nat) (r : R) (rs : List Res) (cs : List Change) : Prop where
  bnd : r.itRev ≤ S ∧ r.itDelRev ≤ S ∧ S ≤ r.tableRev
  upd : ∀ c ∈ cs, c.deleted = false → c.rev = c.obj.rev ∧ c.rev > r.itRev ∧ c.rev ≤ S ∧ c.obj.sid < r.nextSid ∧
      (∀ cur ∈ r.objs, cur.id = c.obj.id → cur = c.obj ∨
        (S < cur.rev ∧ (needs c.obj.kind → needs cur.kind) ∧ (cur.kind = .pending → cur.sid = c.obj.sid → cur.data = c.obj.data))) ∧
      (∀ d ∈ r.dels, d.1.id = c.obj.id → S < d.2)
  del : ∀ c ∈ cs, c.deleted = true → c.rev > r.itDelRev ∧ c.rev ≤ S ∧
      (∀ d ∈ r.dels, d.1.id = c.obj.id → d = (c.obj, c.rev) ∨ S < d.2) ∧
      (∀ cur ∈ r.objs, cur.id = c.obj.id → S < cur.rev ∧ needs cur.kind) ∧
      ((∃ d ∈ r.dels, d.1.id = c.obj.id) ∨ (∃ cur ∈ r.objs, cur.id = c.obj.id))
  sorted : cs.Pairwise (fun a b => a.deleted = b.deleted → a.rev < b.rev)
  ids : cs.Pairwise (fun a b => a.obj.id ≠ b.obj.id)
  covO : ∀ o ∈ r.objs, o.rev ≤ r.itRev ∨ S < o.rev ∨ ∃ c ∈ cs, c.deleted = false ∧ c.obj = o
  covD : ∀ d ∈ r.dels, d.2 ≤ r.itDelRev ∨ S < d.2 ∨ ∃ c ∈ cs, c.deleted = true ∧ (c.obj, c.rev) = d
  rsid : ∀ res ∈ rs, ∀ c ∈ cs, c.obj.id ≠ res.1.id

theorem JChOK.le_table {S r rs cs} (h : JChOK S r rs cs) : S ≤ r.tableRev := h.bnd.2.2

theorem JChOK.upd_le {S r rs cs} (h : JChOK S r rs cs) {c : Change} (hc : c ∈ cs) (hd : c.deleted = false) : c.rev ≤ S :=
  (h.upd c hc hd).2.2.1

theorem JChOK.upd_sid {S r rs cs} (h : JChOK S r rs cs) {c : Change} (hc : c ∈ cs) (hd : c.deleted = false) :
    c.obj.sid < r.nextSid := (h.upd c hc hd).2.2.2.1

theorem JChOK.del_le {S r rs cs} (h : JChOK S r rs cs) {c : Change} (hc : c ∈ cs) (hd : c.deleted = true) : c.rev ≤ S :=
  (h.del c hc hd).2.1

theorem JChOK.del_live {S r rs cs} (h : JChOK S r rs cs) {c : Change} (hc : c ∈ cs) (hd : c.deleted = true) {cur : RObj}
    (hcur : cur ∈ r.objs) (hid : cur.id = c.obj.id) : S < cur.rev ∧ needs cur.kind := (h.del c hc hd).2.2.2.1 cur hcur hid

theorem JChOK.ofChOK {r : R} {cs : List Change} (h : ChOK r [] cs) (ht : TInv r) (hs : ∀ o ∈ r.objs, o.sid < r.nextSid) :
    JChOK r.tableRev r [] cs := by
  refine ⟨⟨ht.it_le, ht.itd_le, Nat.le_refl _⟩, ?_, ?_, h.sorted, ?_, ?_, ?_, by simp⟩
  · intro c hc hd
    obtain ⟨a, b, c'⟩ := h.upd c hc hd
    refine ⟨b, c', by rw [b]; exact ht.objs_le _ a, hs _ a, fun cur hcur hid => Or.inl (ht.obj_eq hcur a hid), fun d hdd hid => ?_⟩
    exact absurd hid.symm (ht.disj _ a d hdd)
  · intro c hc hd
    obtain ⟨a, b⟩ := h.del c hc hd
    refine ⟨b, ht.dels_le _ a, fun d hdd hid => Or.inl (ht.del_eq hdd a hid), fun cur hcur hid => ?_, Or.inl ⟨_, a, rfl⟩⟩
    exact absurd hid (ht.disj cur hcur _ a)
  · refine List.Pairwise.imp_of_mem ?_ h.sorted
    intro a b ha hb hab
    cases hda : a.deleted <;> cases hdb : b.deleted
    · have hlt := hab (by rw [hda, hdb])
      obtain ⟨a1, a2, _⟩ := h.upd a ha hda
      obtain ⟨b1, b2, _⟩ := h.upd b hb hdb
      intro e
      have := ht.obj_eq a1 b1 e
      rw [a2, b2, this] at hlt; omega
    · exact ht.disj _ (h.upd a ha hda).1 _ (h.del b hb hdb).1
    · exact fun e => ht.disj _ (h.upd b hb hdb).1 _ (h.del a ha hda).1 e.symm
    · have hlt := hab (by rw [hda, hdb])
      intro e
      have := ht.del_eq (h.del a ha hda).1 (h.del b hb hdb).1 e
      have e2 : a.rev = b.rev := congrArg Prod.snd this
      omega
  · intro o ho
    rcases h.covO o ho with a | a
    · exact Or.inl a
    · exact Or.inr (Or.inr a)
  · intro d hd
    rcases h.covD d hd with a | a
    · exact Or.inl a
    · exact Or.inr (Or.inr a)

theorem JChOK.lt_upd {S : Nat} {r : R} {rs : List Res} {c : Change} {cs : List Change} (h : JChOK S r rs (c :: cs)) (hc : c.deleted = false) :
    ∀ x ∈ r.objs, x.rev > r.itRev → x = c.obj ∨ x.rev > c.rev := by
  intro x hx hgt
  have hcS := h.upd_le (List.mem_cons_self ..) hc
  rcases h.covO x hx with a | a | ⟨c', hc', hd', rfl⟩
  · exact absurd hgt (Nat.not_lt.2 a)
  · exact Or.inr (Nat.lt_of_le_of_lt hcS a)
  · rcases List.mem_cons.1 hc' with rfl | hc'
    · exact Or.inl rfl
    · right
      have := (List.pairwise_cons.1 h.sorted).1 c' hc' (by rw [hc, hd'])
      rw [← (h.upd c' (List.mem_cons_of_mem _ hc') hd').1]; exact this

theorem JChOK.lt_del {S : Nat} {r : R} {rs : List Res} {c : Change} {cs : List Change} (h : JChOK S r rs (c :: cs)) (hc : c.deleted = true) :
    ∀ x ∈ r.dels, x.2 > r.itDelRev → x = (c.obj, c.rev) ∨ x.2 > c.rev := by
  intro x hx hgt
  have hcS := h.del_le (List.mem_cons_self ..) hc
  rcases h.covD x hx with a | a | ⟨c', hc', hd', rfl⟩
  · exact absurd hgt (Nat.not_lt.2 a)
  · exact Or.inr (Nat.lt_of_le_of_lt hcS a)
  · rcases List.mem_cons.1 hc' with rfl | hc'
    · exact Or.inl rfl
    · right
      exact (List.pairwise_cons.1 h.sorted).1 c' hc' (by rw [hc, hd'])

theorem JChOK.tail_upd {S : Nat} {r r' : R} {rs rs' : List Res} {c : Change} {cs : List Change} (h : JChOK S r rs (c :: cs))
    (hc : c.deleted = false) (hobjs : r'.objs = r.objs) (hdels : r'.dels = r.dels) (htableRev : r'.tableRev = r.tableRev)
    (hitRev : r'.itRev = c.rev) (hitDelRev : r'.itDelRev = r.itDelRev) (hnextSid : r'.nextSid = r.nextSid)
    (hrs : ∀ res ∈ rs', res ∈ rs ∨ res.1.id = c.obj.id) : JChOK S r' rs' cs := by
  obtain ⟨hc1, hc2, hc3, _⟩ := h.upd c (List.mem_cons_self ..) hc
  have hs := List.pairwise_cons.1 h.sorted
  have hi := List.pairwise_cons.1 h.ids
  refine ⟨by rw [hitRev, hitDelRev, htableRev]; exact ⟨hc3, h.bnd.2⟩, ?_, ?_, hs.2, hi.2, ?_, ?_, ?_⟩
  · intro c' hc' hd'
    obtain ⟨a, _, b⟩ := h.upd c' (List.mem_cons_of_mem _ hc') hd'
    rw [hobjs, hdels, hitRev, hnextSid]
    exact ⟨a, hs.1 c' hc' (by rw [hc, hd']), b⟩
  · intro c' hc' hd'
    rw [hobjs, hdels, hitDelRev]
    exact h.del c' (List.mem_cons_of_mem _ hc') hd'
  · rw [hobjs, hitRev]
    intro o ho
    rcases h.covO o ho with a | a | ⟨c', hc', hd', rfl⟩
    · exact Or.inl (Nat.le_trans a (Nat.le_of_lt hc2))
    · exact Or.inr (Or.inl a)
    · rcases List.mem_cons.1 hc' with rfl | hc'
      · left; rw [hc1]; exact Nat.le_refl _
      · exact Or.inr (Or.inr ⟨c', hc', hd', rfl⟩)
  · rw [hdels, hitDelRev]
    intro d hd
    rcases h.covD d hd with a | a | ⟨c', hc', hd', rfl⟩
    · exact Or.inl a
    · exact Or.inr (Or.inl a)
    · rcases List.mem_cons.1 hc' with rfl | hc'
      · rw [hc] at hd'; cases hd'
      · exact Or.inr (Or.inr ⟨c', hc', hd', rfl⟩)
  · intro res hres c' hc'
    rcases hrs res hres with a | a
    · exact h.rsid res a c' (List.mem_cons_of_mem _ hc')
    · rw [a]; exact fun e => hi.1 c' hc' e.symm

theorem JChOK.tail_del {S : Nat} {r r' : R} {rs : List Res} {c : Change} {cs : List Change} (h : JChOK S r rs (c :: cs))
    (hc : c.deleted = true) (hobjs : r'.objs = r.objs) (hdels : r'.dels = r.dels) (htableRev : r'.tableRev = r.tableRev)
    (hitRev : r'.itRev = r.itRev) (hitDelRev : r'.itDelRev = c.rev) (hnextSid : r'.nextSid = r.nextSid) : JChOK S r' rs cs := by
  obtain ⟨hc2, hc3, _⟩ := h.del c (List.mem_cons_self ..) hc
  have hs := List.pairwise_cons.1 h.sorted
  have hi := List.pairwise_cons.1 h.ids
  refine ⟨by rw [hitRev, hitDelRev, htableRev]; exact ⟨h.bnd.1, hc3, h.bnd.2.2⟩, ?_, ?_, hs.2, hi.2, ?_, ?_, ?_⟩
  · intro c' hc' hd'
    rw [hobjs, hdels, hitRev, hnextSid]
    exact h.upd c' (List.mem_cons_of_mem _ hc') hd'
  · intro c' hc' hd'
    obtain ⟨_, b⟩ := h.del c' (List.mem_cons_of_mem _ hc') hd'
    rw [hobjs, hdels, hitDelRev]
    exact ⟨hs.1 c' hc' (by rw [hc, hd']), b⟩
  · rw [hobjs, hitRev]
    intro o ho
    rcases h.covO o ho with a | a | ⟨c', hc', hd', rfl⟩
    · exact Or.inl a
    · exact Or.inr (Or.inl a)
    · rcases List.mem_cons.1 hc' with rfl | hc'
      · rw [hc] at hd'; cases hd'
      · exact Or.inr (Or.inr ⟨c', hc', hd', rfl⟩)
  · rw [hdels, hitDelRev]
    intro d hd
    rcases h.covD d hd with a | a | ⟨c', hc', hd', rfl⟩
    · exact Or.inl (Nat.le_trans a (Nat.le_of_lt hc2))
    · exact Or.inr (Or.inl a)
    · rcases List.mem_cons.1 hc' with rfl | hc'
      · left; exact Nat.le_refl _
      · exact Or.inr (Or.inr ⟨c', hc', hd', rfl⟩)
  · intro res hres c' hc'
    exact h.rsid res hres c' (List.mem_cons_of_mem _ hc')

theorem JChOK.congr {S : Nat} {r r' : R} {rs : List Res} {cs : List Change} (h : JChOK S r rs cs)
    (hobjs : r'.objs = r.objs) (hdels : r'.dels = r.dels) (htableRev : r'.tableRev = r.tableRev) (hitRev : r'.itRev = r.itRev)
    (hitDelRev : r'.itDelRev = r.itDelRev) (hnextSid : r'.nextSid = r.nextSid) : JChOK S r' rs cs := by
  obtain ⟨bnd, upd, del, sorted, ids, covO, covD, rsid⟩ := h
  refine ⟨?_, ?_, ?_, sorted, ids, ?_, ?_, rsid⟩ <;> simp only [hobjs, hdels, htableRev, hitRev, hitDelRev, hnextSid] <;> assumption

theorem JChOK.setObj {S : Nat} {r : R} {rs : List Res} {cs : List Change} (h : JChOK S r rs cs) (o : RObj) (n : Nat)
    (hn : r.nextSid ≤ n)
    (hu : ∀ c ∈ cs, c.deleted = false → c.obj.id = o.id →
      (needs c.obj.kind → needs o.kind) ∧ (o.kind = .pending → o.sid = c.obj.sid → o.data = c.obj.data))
    (hd : ∀ c ∈ cs, c.deleted = true → c.obj.id = o.id → needs o.kind) :
    JChOK S { (r.setObj o) with nextSid := n } rs cs := by
  have hS := h.le_table
  refine ⟨⟨h.bnd.1, h.bnd.2.1, Nat.le_succ_of_le hS⟩, ?_, ?_, h.sorted, h.ids, ?_, ?_, h.rsid⟩
  · intro c hc hdl
    obtain ⟨a1, a2, a3, a4, a5, a6⟩ := h.upd c hc hdl
    refine ⟨a1, a2, a3, Nat.lt_of_lt_of_le a4 hn, fun cur hcur hid => ?_, fun d hdd hid => a6 d (List.mem_filter.1 hdd).1 hid⟩
    rcases (mem_setObj_objs ..).1 hcur with ⟨hcur', _⟩ | rfl
    · exact a5 cur hcur' hid
    · right
      obtain ⟨b1, b2⟩ := hu c hc hdl hid.symm
      exact ⟨Nat.lt_succ_of_le hS, b1, b2⟩
  · intro c hc hdl
    obtain ⟨a1, a2, a3, a4, a5⟩ := h.del c hc hdl
    refine ⟨a1, a2, fun d hdd hid => a3 d (List.mem_filter.1 hdd).1 hid, fun cur hcur hid => ?_, ?_⟩
    · rcases (mem_setObj_objs ..).1 hcur with ⟨hcur', _⟩ | rfl
      · exact a4 cur hcur' hid
      · exact ⟨Nat.lt_succ_of_le hS, hd c hc hdl hid.symm⟩
    · by_cases hX : c.obj.id = o.id
      · exact Or.inr ⟨_, (mem_setObj_objs ..).2 (Or.inr rfl), hX.symm⟩
      · rcases a5 with ⟨d, hdd, e⟩ | ⟨cur, hcur, e⟩
        · exact Or.inl ⟨d, mem_setObj_dels_other hdd (e ▸ hX), e⟩
        · exact Or.inr ⟨cur, mem_setObj_other hcur (e ▸ hX), e⟩
  · intro x hx
    rcases (mem_setObj_objs ..).1 hx with ⟨hx', _⟩ | rfl
    · exact h.covO x hx'
    · exact Or.inr (Or.inl (Nat.lt_succ_of_le hS))
  · intro d hdd
    exact h.covD d (List.mem_filter.1 hdd).1

theorem JChOK.applyInject {S : Nat} {r : R} {rs : List Res} {cs : List Change} (h : JChOK S r rs cs) (a : Inject) :
    JChOK S (r.applyInject a) rs cs := by
  have hS := h.le_table
  cases a with
  | put id data =>
    obtain ⟨other, he⟩ := userPut_eq r id data
    show JChOK S (r.userPut id data) rs cs
    rw [he]
    refine h.setObj _ _ (Nat.le_succ _) (fun c hc hdl _ => ⟨fun _ => Or.inl rfl, fun _ e => ?_⟩) (fun c hc hdl _ => Or.inl rfl)
    exact absurd e (Nat.ne_of_gt (h.upd_sid hc hdl))
  | del id =>
    show JChOK S (r.delObj id) rs cs
    cases hg : r.get id with
    | none => rw [delObj_of_none hg]; exact h
    | some o =>
      rw [delObj_of_get hg]
      have hoid : o.id = id := by simpa using List.find?_some hg
      refine ⟨⟨h.bnd.1, h.bnd.2.1, Nat.le_succ_of_le hS⟩, ?_, ?_, h.sorted, h.ids, ?_, ?_, h.rsid⟩
      · intro c hc hdl
        obtain ⟨a1, a2, a3, a4, a5, a6⟩ := h.upd c hc hdl
        refine ⟨a1, a2, a3, a4, fun cur hcur hid => a5 cur (List.mem_filter.1 hcur).1 hid, fun d hdd hid => ?_⟩
        rcases List.mem_append.1 hdd with hdd | hdd
        · exact a6 d hdd hid
        · exact List.mem_singleton.1 hdd ▸ Nat.lt_succ_of_le hS
      · intro c hc hdl
        obtain ⟨a1, a2, a3, a4, a5⟩ := h.del c hc hdl
        refine ⟨a1, a2, fun d hdd hid => ?_, fun cur hcur hid => a4 cur (List.mem_filter.1 hcur).1 hid, ?_⟩
        · rcases List.mem_append.1 hdd with hdd | hdd
          · exact a3 d hdd hid
          · exact Or.inr (List.mem_singleton.1 hdd ▸ Nat.lt_succ_of_le hS)
        · by_cases hX : c.obj.id = id
          · exact Or.inl ⟨_, List.mem_append_right _ (List.mem_singleton.2 rfl), hoid.trans hX.symm⟩
          · rcases a5 with ⟨d, hdd, e⟩ | ⟨cur, hcur, e⟩
            · exact Or.inl ⟨d, List.mem_append_left _ hdd, e⟩
            · exact Or.inr ⟨cur, List.mem_filter.2 ⟨hcur, decide_eq_true (e ▸ hX)⟩, e⟩
      · intro x hx
        exact h.covO x (List.mem_filter.1 hx).1
      · intro d hdd
        rcases List.mem_append.1 hdd with hdd | hdd
        · exact h.covD d hdd
        · exact Or.inr (Or.inl (List.mem_singleton.1 hdd ▸ Nat.lt_succ_of_le hS))
  | touch id =>
    show JChOK S (r.touch id) rs cs
    cases hg : r.get id with
    | none => rw [touch_of_none hg]; exact h
    | some o =>
      rw [touch_of_get hg]
      have hoid : o.id = id := by simpa using List.find?_some hg
      have hom : o ∈ r.objs := List.mem_of_find?_eq_some hg
      have := h.setObj { o with other := o.other + 1 } r.nextSid (Nat.le_refl _) (fun c hc hdl hid => ?_) (fun c hc hdl hid => ?_)
      · exact this
      · obtain ⟨_, _, _, _, a5, _⟩ := h.upd c hc hdl
        rcases a5 o hom hid.symm with e | ⟨_, b2, b3⟩
        · subst e; exact ⟨fun x => x, fun _ _ => rfl⟩
        · exact ⟨b2, b3⟩
      · exact (h.del_live hc hdl hom hid.symm).2

theorem JChOK.landAll {S : Nat} (acts : List (Nat × Inject)) {r : R} {rs : List Res} {cs : List Change} (h : JChOK S r rs cs) :
    JChOK S (r.landAll acts) rs cs := by
  induction acts generalizing r with
  | nil => exact h
  | cons a as ih => exact ih (h.applyInject a.2)

/-- no foreign status write that lands during `Update(obj)` hits an Error object -/
def R.updSafe (r : R) (obj : RObj) : Prop := InjSafe r (r.injects.filter (fun (a : Nat × Inject) => a.1 = obj.id))

/-- … during the whole loop over the change stream (mirrors `R.consume`) -/
def R.consumeSafe (r : R) : List Change → Prop
  | [] => True
  | c :: cs =>
    let r1 : R := if c.deleted then { r with itDelRev := c.rev } else { r with itRev := c.rev }
    if !c.deleted ∧ !(c.obj.kind = .pending ∨ c.obj.kind = .refreshing) then r1.consumeSafe cs
    else
      let r2 := r1.retryClear c.obj.id
      (c.deleted = false → r2.updSafe c.obj) ∧
      (let r3 := r2.processSingle c.obj c.rev c.deleted
       let r4 : R := { r3 with numReconciled := r3.numReconciled + 1 }
       if r4.numReconciled ≥ r4.cfg.roundSize then True else r4.consumeSafe cs)

theorem consumeSafe_skip (r : R) (c : Change) (cs : List Change) (hc : c.deleted = false) (hn : ¬ needs c.obj.kind) :
    r.consumeSafe (c :: cs) = R.consumeSafe { r with itRev := c.rev } cs := by
  rw [R.consumeSafe]
  dsimp only
  rw [if_pos ((skipCond_iff c).2 ⟨hc, hn⟩), hc]
  rfl

theorem consumeSafe_del (r : R) (c : Change) (cs : List Change) (hc : c.deleted = true) :
    r.consumeSafe (c :: cs) → ((procD r c).numReconciled < (procD r c).cfg.roundSize → (procD r c).consumeSafe cs) := by
  rw [R.consumeSafe]
  dsimp only
  rw [if_neg (fun h => absurd (hc.symm.trans ((skipCond_iff c).1 h).1) (by decide)), hc]
  exact fun h hlt => (if_neg (Nat.not_le.2 hlt) ▸ h.2 :)

theorem consumeSafe_upd (r : R) (c : Change) (cs : List Change) (hc : c.deleted = false) (hn : needs c.obj.kind) :
    r.consumeSafe (c :: cs) → (R.retryClear { r with itRev := c.rev } c.obj.id).updSafe c.obj ∧
      ((procU r c).numReconciled < (procU r c).cfg.roundSize → (procU r c).consumeSafe cs) := by
  rw [R.consumeSafe]
  dsimp only
  rw [if_neg (fun h => ((skipCond_iff c).1 h).2 hn), hc]
  exact fun h => ⟨h.1 rfl, fun hlt => (if_neg (Nat.not_le.2 hlt) ▸ h.2 :)⟩

/-- an invariant of the change loop of `single()`, given by what one iteration does to it.
    `P r rs cs`: a property of the state together with its account of the results `rs` waiting to
    be committed and of the changes `cs` still to come -/
structure LoopInv (P : R → List Res → List Change → Prop) : Prop where
  skip : ∀ {r : R} {c : Change} {cs : List Change}, P r r.results (c :: cs) → c.deleted = false → ¬ needs c.obj.kind →
    P { r with itRev := c.rev } r.results cs
  del : ∀ {r : R} {c : Change} {cs : List Change}, P r r.results (c :: cs) → c.deleted = true →
    P ((R.retryClear { r with itDelRev := c.rev } c.obj.id).processSingle c.obj c.rev true)
      ((R.retryClear { r with itDelRev := c.rev } c.obj.id).processSingle c.obj c.rev true).results cs
  upd : ∀ {r : R} {c : Change} {cs : List Change}, P r r.results (c :: cs) → c.deleted = false → needs c.obj.kind →
    (R.retryClear { r with itRev := c.rev } c.obj.id).updSafe c.obj →
    P ((R.retryClear { r with itRev := c.rev } c.obj.id).processSingle c.obj c.rev false)
      ((R.retryClear { r with itRev := c.rev } c.obj.id).processSingle c.obj c.rev false).results cs
  setNum : ∀ {r : R} {rs : List Res} {cs : List Change} (k : Nat), P r rs cs → P { r with numReconciled := k } rs cs

/-- `consume_steps` cannot carry the guard `consumeSafe`: it is known of the states the loop goes
    on from, not of the full state it stops in -/
theorem LoopInv.consume {P : R → List Res → List Change → Prop} (hP : LoopInv P) (cs : List Change) {r : R} (last : Nat)
    (h : P r r.results cs) (hs : r.consumeSafe cs) :
    P (r.consume cs last).1 (r.consume cs last).1.results (r.consume cs last).2.1 ∧
    ((r.consume cs last).1.numReconciled < (r.consume cs last).1.cfg.roundSize → (r.consume cs last).2.1 = []) := by
  induction cs generalizing r last with
  | nil => rw [consume_nil]; exact ⟨h, fun _ => rfl⟩
  | cons c cs ih =>
    -- a processed change is counted (`X`); the loop goes on from there unless the round is full
    have hgo : ∀ Y X : R, P Y Y.results cs → X = { Y with numReconciled := Y.numReconciled + 1 } →
        (X.numReconciled < X.cfg.roundSize → X.consumeSafe cs) →
        ∀ co, (co = if X.numReconciled ≥ X.cfg.roundSize then (X, cs, c.rev) else X.consume cs c.rev) →
        P co.1 co.1.results co.2.1 ∧ (co.1.numReconciled < co.1.cfg.roundSize → co.2.1 = []) := by
      intro Y X hY eX hsX co e
      have hX : P X X.results cs := by rw [eX]; exact hP.setNum _ hY
      rw [e]
      by_cases hf : X.numReconciled ≥ X.cfg.roundSize
      · rw [if_pos hf]; exact ⟨hX, fun hlt => absurd hlt (Nat.not_lt.2 hf)⟩
      · rw [if_neg hf]; exact ih c.rev hX (hsX (Nat.lt_of_not_le hf))
    cases hc : c.deleted with
    | true => exact hgo _ (procD r c) (hP.del h hc) rfl (consumeSafe_del r c cs hc hs) _ (consume_del r c cs last hc)
    | false =>
      by_cases hn : needs c.obj.kind
      · have hs' := consumeSafe_upd r c cs hc hn hs
        exact hgo _ (procU r c) (hP.upd h hc hn hs'.1) rfl hs'.2 _ (consume_upd r c cs last hc hn)
      · rw [consume_skip r c cs last hc hn]
        exact ih c.rev (hP.skip h hc hn) (consumeSafe_skip r c cs hc hn ▸ hs)

/-- what `consume` leaves alone when writes land during Updates -/
structure FrameCJ (r r' : R) : Prop where
  refreshedAt : r'.refreshedAt = r.refreshedAt
  pending : r'.pending = r.pending
  cfg : r'.cfg = r.cfg
  now : r'.now = r.now
  failing : r'.failing = r.failing
  grow : Grow r r'

theorem FrameCJ.refl (r : R) : FrameCJ r r := ⟨rfl, rfl, rfl, rfl, rfl, Grow.refl r⟩

theorem FrameCJ.trans {a b c : R} (h1 : FrameCJ a b) (h2 : FrameCJ b c) : FrameCJ a c :=
  ⟨h2.refreshedAt.trans h1.refreshedAt, h2.pending.trans h1.pending, h2.cfg.trans h1.cfg,
   h2.now.trans h1.now, h2.failing.trans h1.failing, h1.grow.trans h2.grow⟩

/-- what the retry phase and the status commits leave alone -/
structure FrameRJ (r r' : R) : Prop where
  itRev : r'.itRev = r.itRev
  itDelRev : r'.itDelRev = r.itDelRev
  refreshedAt : r'.refreshedAt = r.refreshedAt
  pending : r'.pending = r.pending
  cfg : r'.cfg = r.cfg
  now : r'.now = r.now
  failing : r'.failing = r.failing
  grow : Grow r r'

theorem FrameRJ.refl (r : R) : FrameRJ r r := ⟨rfl, rfl, rfl, rfl, rfl, rfl, rfl, Grow.refl r⟩

theorem FrameRJ.trans {a b c : R} (h1 : FrameRJ a b) (h2 : FrameRJ b c) : FrameRJ a c :=
  ⟨h2.itRev.trans h1.itRev, h2.itDelRev.trans h1.itDelRev, h2.refreshedAt.trans h1.refreshedAt, h2.pending.trans h1.pending,
   h2.cfg.trans h1.cfg, h2.now.trans h1.now, h2.failing.trans h1.failing, h1.grow.trans h2.grow⟩

theorem FrameT.frameRJ {r r' : R} (h : FrameT r r') (hs : r'.nextSid = r.nextSid) : FrameRJ r r' :=
  ⟨h.itRev, h.itDelRev, h.refreshedAt, h.pending, h.cfg, h.now, h.failing, Grow.of_eq h.objs h.dels h.tableRev hs⟩

theorem processSingle_update_spec (r : R) (obj : RObj) (rev : Nat) :
    FrameRJ r (r.processSingle obj rev false) ∧ (r.processSingle obj rev false).numReconciled = r.numReconciled ∧
    (r.processSingle obj rev false).results = r.results ++ [(obj, obj, rev, obj.sid, r.isFailing obj.id)] := by
  have p := preUpdate_facts r obj rev
  rw [processSingle_update_land]
  have hW := frameW_landAll (r.injects.filter (fun (a : Nat × Inject) => a.1 = obj.id)) (r.preUpdate obj rev)
  exact ⟨⟨hW.itRev.trans p.itRev, hW.itDelRev.trans p.itDelRev, hW.refreshedAt.trans p.refreshedAt, hW.pending.trans p.pending,
    hW.cfg.trans p.cfg, hW.now.trans p.now, hW.failing.trans p.failing,
    (Grow.of_eq p.objs p.dels p.tableRev p.nextSid).trans (grow_landAll _ _)⟩,
    hW.numReconciled.trans p.numReconciled, hW.results.trans p.results⟩

theorem processSingle_delete_frame (r : R) (obj : RObj) (rev : Nat) :
    FrameRJ r (r.processSingle obj rev true) ∧ (r.processSingle obj rev true).numReconciled = r.numReconciled ∧
    (r.processSingle obj rev true).results = r.results :=
  have ⟨_, d⟩ := processSingle_delete_spec r obj rev
  ⟨d.frame.frameRJ d.nextSid, d.numReconciled, d.results⟩

theorem consume_frameCJ (cs : List Change) (r : R) (last : Nat) : FrameCJ r (r.consume cs last).1 := by
  have hproc : ∀ (x x1 : R) (c : Change) (d : Bool), FrameCJ r x → FrameCJ x x1 →
      FrameCJ r { ((x1.retryClear c.obj.id).processSingle c.obj c.rev d) with
        numReconciled := ((x1.retryClear c.obj.id).processSingle c.obj c.rev d).numReconciled + 1 } := by
    intro x x1 c d hF h1
    have h3 : FrameRJ (x1.retryClear c.obj.id) ((x1.retryClear c.obj.id).processSingle c.obj c.rev d) := by
      cases d
      · exact (processSingle_update_spec ..).1
      · exact (processSingle_delete_frame ..).1
    have h4 := ((frameT_retryClear x1 c.obj.id).frameRJ (retryClear_nextSid ..)).trans h3
    generalize (x1.retryClear c.obj.id).processSingle c.obj c.rev d = y at h4 ⊢
    exact ((hF.trans h1).trans ⟨h4.refreshedAt, h4.pending, h4.cfg, h4.now, h4.failing, h4.grow⟩).trans
      ⟨rfl, rfl, rfl, rfl, rfl, Grow.of_eq rfl rfl rfl rfl⟩
  exact consume_inv (P := fun x _ _ => FrameCJ r x)
    (fun x c _ _ hF _ _ => hF.trans ⟨rfl, rfl, rfl, rfl, rfl, Grow.of_eq rfl rfl rfl rfl⟩)
    (fun x c _ _ hF _ => hproc x { x with itDelRev := c.rev } c true hF ⟨rfl, rfl, rfl, rfl, rfl, Grow.of_eq rfl rfl rfl rfl⟩)
    (fun x c _ _ hF _ _ => hproc x { x with itRev := c.rev } c false hF ⟨rfl, rfl, rfl, rfl, rfl, Grow.of_eq rfl rfl rfl rfl⟩)
    cs r last (FrameCJ.refl r)

theorem JInv.update_land {r : R} {obj : RObj} {rev : Nat} {A : List Res} (hs : r.updSafe obj)
    (hIp : JInv (r.preUpdate obj rev) A) : JInv (r.processSingle obj rev false) A := by
  have p := preUpdate_facts r obj rev
  rw [processSingle_update_land]
  exact hIp.landAll _ ((injSafe_of_tbl r _ p.objs p.tableRev p.dels p.nextSid _).2 hs)

theorem JInv.consume_upd {S : Nat} {r : R} {c : Change} {cs : List Change} (h : JInv r r.results)
    (hch : JChOK S r r.results (c :: cs)) (hc : c.deleted = false) (hn : needs c.obj.kind)
    (hs : (R.retryClear { r with itRev := c.rev } c.obj.id).updSafe c.obj) :
    let r' := (R.retryClear { r with itRev := c.rev } c.obj.id).processSingle c.obj c.rev false
    JInv r' r'.results ∧ JChOK S r' r'.results cs := by
  intro r'
  obtain ⟨hrev, hgt, hcS, hsid, hcurs, hdels⟩ := hch.upd c (List.mem_cons_self ..) hc
  have hS := hch.bnd
  have hgt' : c.obj.rev > r.itRev := hrev ▸ hgt
  have hcurs' : ∀ cur ∈ r.objs, cur.id = c.obj.id → cur = c.obj ∨
      (c.obj.rev < cur.rev ∧ needs cur.kind ∧ (cur.kind = .pending → cur.sid = c.obj.sid → cur.data = c.obj.data)) :=
    fun cur hcur hid => (hcurs cur hcur hid).imp_right fun ⟨e1, e2, e3⟩ => ⟨hrev ▸ Nat.lt_of_le_of_lt hcS e1, e2 hn, e3⟩
  -- the result applies to the current object only if that is `c.obj`, or a foreign write of it
  have hfr : FreshRes r.objs r.nextSid (c.obj, c.obj, c.obj.rev, c.obj.sid, r.isFailing c.obj.id) :=
    ⟨rfl, rfl, hsid, fun cur hcur hid hl => (hcurs' cur hcur hid).elim (fun e => e ▸ ⟨rfl, fun _ => rfl⟩) fun ⟨e1, _, e3⟩ =>
      hl.elim (fun e => absurd e (Nat.ne_of_gt e1)) fun p => ⟨e3 p.1 p.2, fun e => absurd e (Nat.ne_of_gt e1)⟩⟩
  have p := consume_upd_pre r c
  have hr' : r' = (R.retryClear { r with itRev := c.rev } c.obj.id).processSingle c.obj c.rev false := rfl
  have hfail := isFailing_retryClear { r with itRev := c.rev } c.obj.id c.obj.id
  have q9 := retryClear_results { r with itRev := c.rev } c.obj.id
  generalize R.retryClear { r with itRev := c.rev } c.obj.id = r2 at hr' hs q9 hfail p
  have s := h.core.step_update c.obj (r.isFailing c.obj.id) hn hgt' (hrev ▸ Nat.le_trans hcS hS.2.2)
    (fun cur hcur e => (hcurs' cur hcur e).imp_right fun x => ⟨x.1, x.2.1⟩)
    (fun d hd hid => Nat.lt_of_le_of_lt hS.2.1 (hdels d hd hid))
    (fun res hres e => hch.rsid res hres c (List.mem_cons_self ..) e.symm)
    (fun x hx _ hxgt => hrev ▸ hch.lt_upd hc x hx hxgt) p.objs p.dels p.tableRev (p.itRev.trans hrev) p.itDelRev p.refreshedAt
    p.items p.log
  have hIp := s.core.jinv (s.fresh h.fresh hfr p.nextSid)
  rw [← hrev] at hIp
  have hCp : JChOK S (r2.preUpdate c.obj c.rev) (r.results ++ [(c.obj, c.obj, c.rev, c.obj.sid, r.isFailing c.obj.id)]) cs :=
    hch.tail_upd hc p.objs p.dels p.tableRev p.itRev p.itDelRev p.nextSid fun res hres => (List.mem_append.1 hres).imp_right fun a => by rw [List.mem_singleton.1 a]
  obtain ⟨_, _, hres⟩ := processSingle_update_spec r2 c.obj c.rev
  have hC : JChOK S (r2.processSingle c.obj c.rev false)
      (r.results ++ [(c.obj, c.obj, c.rev, c.obj.sid, r.isFailing c.obj.id)]) cs := by
    rw [processSingle_update_land]; exact hCp.landAll _
  have hI := hIp.update_land hs
  rw [← hr'] at hI hC hres
  rw [hres, hfail, q9]
  exact ⟨hI, hC⟩

theorem JInv.consume_del {S : Nat} {r : R} {c : Change} {cs : List Change} (h : JInv r r.results)
    (hch : JChOK S r r.results (c :: cs)) (hc : c.deleted = true) :
    let r' := (R.retryClear { r with itDelRev := c.rev } c.obj.id).processSingle c.obj c.rev true
    JInv r' r'.results ∧ JChOK S r' r'.results cs := by
  intro r'
  obtain ⟨hgt, hcS, _, hlive, hex⟩ := hch.del c (List.mem_cons_self ..) hc
  have hS := hch.bnd
  have hjust : Stale r.objs r.dels r.itRev c.rev c.obj.id ∨ ∃ d ∈ r.dels, d.1.id = c.obj.id :=
    hex.symm.imp (fun ⟨cur, hcur, e⟩ =>
      Or.inl ⟨cur, hcur, e, Nat.lt_of_le_of_lt hS.1 (hlive cur hcur e).1, (hlive cur hcur e).2⟩) id
  obtain ⟨tail, d⟩ := consume_del_spec r c
  have hF := d.frame
  have s := h.core.step_delete c.obj.id (r.isFailing c.obj.id) c.rev _ tail (Nat.le_trans hcS hS.2.2)
    (fun x hx hxgt => (hch.lt_del hc x hx hxgt).imp_left fun e => by rw [e])
    (fun cur hcur hid => (hlive cur hcur hid).2)
    (fun res hres hid => absurd hid.symm (hch.rsid res hres c (List.mem_cons_self ..)))
    ⟨rfl, rfl, rfl⟩ d.tail_item d.tail_pw d.tail_ne d.tail_nil (fun _ => hjust)
    hF.objs hF.dels hF.tableRev hF.itRev hF.itDelRev hF.refreshedAt d.items d.log
  rw [d.results]
  exact ⟨s.core.jinv (s.fresh h.fresh d.nextSid), hch.tail_del hc hF.objs hF.dels hF.tableRev hF.itRev hF.itDelRev d.nextSid⟩

theorem JInv.skip {S : Nat} {r : R} {c : Change} {cs : List Change} (h : JInv r r.results) (hch : JChOK S r r.results (c :: cs))
    (hc : c.deleted = false) (hn : ¬ needs c.obj.kind) :
    JInv { r with itRev := c.rev } r.results ∧ JChOK S { r with itRev := c.rev } r.results cs := by
  obtain ⟨_, _, hcS, _⟩ := hch.upd c (List.mem_cons_self ..) hc
  have s := h.core.step_skip (r' := { r with itRev := c.rev }) c.rev (Nat.le_trans hcS hch.le_table)
    (fun y hy hyn hygt => (hch.lt_upd hc y hy hygt).resolve_left fun e => hn (e ▸ hyn)) rfl rfl rfl rfl rfl rfl rfl rfl
  exact ⟨s.core.jinv (s.fresh h.fresh rfl), hch.tail_upd hc rfl rfl rfl rfl rfl rfl (fun res hres => Or.inl hres)⟩

theorem JInv.loopInv (S : Nat) : LoopInv (fun r rs cs => JInv r rs ∧ JChOK S r rs cs) where
  skip h hc hn := h.1.skip h.2 hc hn
  del h hc := h.1.consume_del h.2 hc
  upd h hc hn hs := h.1.consume_upd h.2 hc hn hs
  setNum _ h := ⟨h.1.congr rfl rfl rfl rfl rfl rfl rfl rfl rfl, h.2.congr rfl rfl rfl rfl rfl rfl⟩

theorem JInv.consume {S : Nat} (cs : List Change) {r : R} (last : Nat) (h : JInv r r.results) (hch : JChOK S r r.results cs)
    (hs : r.consumeSafe cs) :
    JInv (r.consume cs last).1 (r.consume cs last).1.results ∧
    JChOK S (r.consume cs last).1 (r.consume cs last).1.results (r.consume cs last).2.1 ∧
    FrameCJ r (r.consume cs last).1 ∧
    ((r.consume cs last).1.numReconciled < (r.consume cs last).1.cfg.roundSize → (r.consume cs last).2.1 = []) :=
  have ⟨a, d⟩ := (JInv.loopInv S).consume cs last ⟨h, hch⟩ hs
  ⟨a.1, a.2, consume_frameCJ cs r last, d⟩

/-- `updSafe` for every retried Update (mirrors `R.processRetries`) -/
def R.retriesSafe (r : R) : (fuel : Nat) → Prop
  | 0 => True
  | fuel + 1 =>
    if r.numReconciled ≥ r.cfg.roundSize then True else
    match r.head with
    | none => True
    | some h =>
      if h.retryAt > r.now then True else
      let r1 := r.retryPop
      (h.delete = false → r1.updSafe h.obj) ∧
      (let r2 := r1.processSingle h.obj h.rev h.delete
       R.retriesSafe { r2 with numReconciled := r2.numReconciled + 1 } fuel)

theorem JInv.retry_update {r : R} (h : JInv r r.results) (it0 : Item) (hh : r.head = some it0)
    (hdel : it0.delete = false) (hs : r.retryPop.updSafe it0.obj) :
    let r' := r.retryPop.processSingle it0.obj it0.rev false
    JInv r' r'.results ∧ FrameRJ r r' := by
  intro r'
  have s := h.core.retry_update it0 hh hdel (h.fresh.item it0 (head_mem hh) hdel).1
  obtain ⟨hF, _, hres⟩ := processSingle_update_spec r.retryPop it0.obj it0.rev
  have p9 := (preUpdate_facts r.retryPop it0.obj it0.rev).results
  exact ⟨hres ▸ JInv.update_land hs (p9 ▸ s.core.jinv (s.fresh h.fresh)), ((frameT_retryPop r).frameRJ (retryPop_nextSid r)).trans hF⟩

theorem JInv.retry_delete {r : R} {rs : List Res} (h : JInv r rs) (it0 : Item) (hh : r.head = some it0)
    (hdel : it0.delete = true) : JInv (r.retryPop.processSingle it0.obj it0.rev true) rs :=
  have s := h.core.retry_delete it0 hh hdel
  s.core.jinv (s.fresh h.fresh)

theorem retriesSafe_succ (r : R) (fuel : Nat) : r.retriesSafe (fuel + 1) =
    if r.numReconciled ≥ r.cfg.roundSize then True else
    match r.head with
    | none => True
    | some h => if h.retryAt > r.now then True else
      (h.delete = false → r.retryPop.updSafe h.obj) ∧ (retryStep r h).retriesSafe fuel := by
  rw [R.retriesSafe]; rfl

theorem JInv.retryStep {r : R} (h : JInv r r.results) (it0 : Item) (hh : r.head = some it0)
    (hs : it0.delete = false → r.retryPop.updSafe it0.obj) :
    JInv (retryStep r it0) (retryStep r it0).results ∧ FrameRJ r (retryStep r it0) := by
  have hstep : JInv (r.retryPop.processSingle it0.obj it0.rev it0.delete) (r.retryPop.processSingle it0.obj it0.rev it0.delete).results ∧
      FrameRJ r (r.retryPop.processSingle it0.obj it0.rev it0.delete) := by
    cases hdel : it0.delete with
    | false => exact h.retry_update it0 hh hdel (hs hdel)
    | true =>
      obtain ⟨a, _, c⟩ := processSingle_delete_frame r.retryPop it0.obj it0.rev
      refine ⟨?_, ((frameT_retryPop r).frameRJ (retryPop_nextSid r)).trans a⟩
      rw [c, retryPop_results]
      exact h.retry_delete it0 hh hdel
  unfold Sdb.Rec.retryStep
  generalize r.retryPop.processSingle it0.obj it0.rev it0.delete = ps at hstep ⊢
  exact ⟨hstep.1.congr rfl rfl rfl rfl rfl rfl rfl rfl rfl,
    hstep.2.trans ⟨rfl, rfl, rfl, rfl, rfl, rfl, rfl, Grow.of_eq rfl rfl rfl rfl⟩⟩

theorem JInv.processRetries (fuel : Nat) {r : R} (h : JInv r r.results) (hs : r.retriesSafe fuel) :
    JInv (r.processRetries fuel) (r.processRetries fuel).results ∧ FrameRJ r (r.processRetries fuel) := by
  induction fuel generalizing r with
  | zero => exact ⟨h, FrameRJ.refl r⟩
  | succ n ih =>
    rw [retriesSafe_succ] at hs
    rw [processRetries_succ]
    by_cases hfull : r.numReconciled ≥ r.cfg.roundSize
    · rw [if_pos hfull]; exact ⟨h, FrameRJ.refl r⟩
    · rw [if_neg hfull] at hs ⊢
      cases hh : r.head with
      | none => exact ⟨h, FrameRJ.refl r⟩
      | some it0 =>
        rw [hh] at hs
        dsimp only at hs ⊢
        by_cases hdue : it0.retryAt > r.now
        · rw [if_pos hdue]; exact ⟨h, FrameRJ.refl r⟩
        · rw [if_neg hdue] at hs ⊢
          obtain ⟨hI, hF⟩ := h.retryStep it0 hh hs.1
          obtain ⟨hI', hF'⟩ := ih hI hs.2
          exact ⟨hI', hF.trans hF'⟩

def R.tailSafe (r3 : R) : Prop := r3.commitStatus.retriesSafe (r3.commitStatus.items.length + 1)

/-- the hypothesis on foreign status writes (K4), for one round: whenever a `touch` queued in
    `r.injects` lands during this round (inside an Update of the change loop or of the retry
    loop), the object it lands on is not in Error state at that moment -/
def R.roundSafe (r : R) : Prop :=
  r.nextChanges.1.consumeSafe r.nextChanges.2 ∧
  R.tailSafe { (r.nextChanges.1.consume r.nextChanges.2 0).1 with
      pending := if r.nextChanges.2.isEmpty ∧ (r.nextChanges.1.consume r.nextChanges.2 0).1.pending.isNone then none else
        if ((r.nextChanges.1.consume r.nextChanges.2 0).2.1.isEmpty ∧
            (r.nextChanges.1.consume r.nextChanges.2 0).1.numReconciled < (r.nextChanges.1.consume r.nextChanges.2 0).1.cfg.roundSize) then none
        else some (r.nextChanges.1.consume r.nextChanges.2 0).2.1 }

theorem roundSafe_iff (r : R) : r.roundSafe ↔ r.nextChanges.1.consumeSafe r.nextChanges.2 ∧ (round3 r).tailSafe := Iff.rfl

/-- `RInv` with `JInv` for `InvL` -/
structure JRInv (r : R) : Prop where
  inv : JInv r []
  res : r.results = []
  num : r.numReconciled = 0
  sync : Sync r

theorem JInv.cast_results {x : R} {A : List Res} (e : x.results = A) (hx : JInv x A) : JInv x x.results := by
  rw [e]; exact hx

theorem JInv.set_refreshedAt {r : R} {rs : List Res} (h : JInv r rs) (v : Nat) (hv : v ≤ r.tableRev) :
    JInv { r with refreshedAt := v } rs :=
  ⟨h.tinv.set_refreshedAt hv, h.items_pw, h.objOK, h.delOK, h.itemOK, h.resOK, h.sidO⟩

theorem commitStatus_frameRJ (r : R) : FrameRJ r r.commitStatus := by
  obtain ⟨r', hR, he⟩ := commitStatus_rel r
  have hg := commitStatus_grow r
  rw [he] at hg ⊢
  exact ⟨hR.itRev, hR.itDelRev, hR.refreshedAt, hR.pending, hR.cfg, hR.now, hR.failing, hg⟩

theorem roundTail_jinv {r3 : R} (last : Nat) (hI3 : JInv r3 r3.results) (hs : r3.tailSafe) :
    JInv (roundTail r3 last) [] ∧ (roundTail r3 last).results = [] ∧ (roundTail r3 last).numReconciled = 0 ∧
    FrameRJ r3 (roundTail r3 last) := by
  obtain ⟨hI, hF⟩ := roundTail_ind (Q := fun x => JInv x x.results ∧ FrameRJ r3 x) last ⟨hI3, FrameRJ.refl r3⟩
    (fun x ⟨hI, hF⟩ => ⟨hI.commitStatus, hF.trans (commitStatus_frameRJ x)⟩)
    (fun ⟨hI, hF⟩ => ⟨(hI.processRetries _ hs).1, hF.trans (hI.processRetries _ hs).2⟩)
    (fun x n p l ⟨hI, hF⟩ => ⟨hI.congr rfl rfl rfl rfl rfl rfl rfl rfl rfl,
      hF.trans ⟨rfl, rfl, rfl, rfl, rfl, rfl, rfl, Grow.of_eq rfl rfl rfl rfl⟩⟩)
  exact ⟨hI, rfl, rfl, hF⟩

theorem JRInv.single_mid {r : R} (h : JRInv r) (hs : r.roundSafe) :
    JInv (round3 r) (round3 r).results ∧ Sync (round3 r) := by
  have hrest := round3_pending_none (r := r)
  have hs1 := hs.1
  obtain ⟨p, e3⟩ := round3_eq r
  rw [e3] at hrest ⊢
  have hnc : JInv r.nextChanges.1 r.nextChanges.1.results ∧ r.nextChanges.1.results = [] := by
    rcases nextChanges_fst r with e | e <;> rw [e]
    · exact ⟨JInv.cast_results h.res h.inv, h.res⟩
    · exact ⟨JInv.cast_results h.res (h.inv.set_refreshedAt _ (Nat.le_refl _)), h.res⟩
  have hch0 := chOK_nextChanges h.inv.tinv h.sync
  have href := nextChanges_refreshed r
  generalize r.nextChanges = nc at hnc hch0 hs1 href hrest ⊢
  obtain ⟨hI1, hres1⟩ := hnc
  have hch : JChOK nc.1.tableRev nc.1 nc.1.results nc.2 := by
    rw [hres1]; exact JChOK.ofChOK hch0 hI1.tinv hI1.sidO
  obtain ⟨hI2, hC2, hF2, _⟩ := hI1.consume nc.2 0 hch hs1
  generalize nc.1.consume nc.2 0 = co at hI2 hC2 hF2 hrest ⊢
  refine ⟨hI2.congr rfl rfl rfl rfl rfl rfl rfl rfl rfl, fun hpn => ?_⟩
  have hr := hrest hpn
  have e1 : co.1.refreshedAt = nc.1.tableRev := hF2.refreshedAt.trans href
  refine ⟨fun o ho => (hC2.covO o ho).imp_right fun a => e1 ▸ a.elim id fun ⟨c, hc, _⟩ => ?_,
    fun d hd => (hC2.covD d hd).imp_right fun a => e1 ▸ a.elim id fun ⟨c, hc, _⟩ => ?_⟩
  all_goals rw [hr] at hc; cases hc

theorem JRInv.of_mid {x : R} (hI : JInv x x.results) (hsync : Sync x) (hs : x.tailSafe) (last : Nat) :
    JRInv (roundTail x last) := by
  obtain ⟨hI', hres, hnum, hT⟩ := roundTail_jinv last hI hs
  refine ⟨hI', hres, hnum, fun hpn => ?_⟩
  have hp := hT.pending ▸ hpn
  rw [hT.itRev, hT.itDelRev, hT.refreshedAt]
  exact ⟨fun o ho => (hT.grow.objs o ho).elim (hsync.objs hp) fun a => Or.inr (Nat.lt_of_le_of_lt hI.tinv.ref_le a),
    fun d hd => (hT.grow.dels d hd).elim (hsync.dels hp) fun a => Or.inr (Nat.lt_of_le_of_lt hI.tinv.ref_le a)⟩

theorem JRInv.round {r : R} (h : JRInv r) (hs : r.roundSafe) : JRInv r.round :=
  round_eq3 r ▸ JRInv.of_mid (h.single_mid hs).1 (h.single_mid hs).2 ((roundSafe_iff r).1 hs).2 _

end Sdb.Rec
