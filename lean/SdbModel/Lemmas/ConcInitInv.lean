import SdbModel.Lemmas.ConcInitProg
import SdbModel.Lemmas.ConcSimStep

/-!
  The invariant `CI st cs run` of `Model.Conc` behind the watch-channel (C06) and initializer (C19) properties, for
  all schedules.  Channels are numbers handed out by `nextChan`; one in use is a channel of the committed root
  (`rootChan`), or private to one thread (`priv`: allocated by its `userWrites` and not yet stored; replaced /
  collected by its `storeRoot` and not yet closed), or closed.  `CI` says that the roles exclude each other and lie
  below `nextChan`, and puts every thread at a position `p : Pos2` with the facts `Loc` there; phases and held
  mutexes are phrased by membership in the remaining program.  `run` is the thread whose scheduler step is in
  progress (`none` between steps): every other thread rests at a park or a blocked lock.
-/
namespace Sdb.Conc

/-! `uwIn` … `clIn`: the positions at which `userWrites` / `storeRoot` / `notify` / `closeInit` is still ahead in `code2 L c p` -/

def uwIn : Pos2 → Bool
  | .acq _ | .clR | .clE | .uw => true
  | _ => false

def srIn (c : Bool) : Pos2 → Bool
  | .acq _ | .clR | .clE | .uw => c
  | .aR | .lc | .mg | .ci | .sr | .gA | .gL | .gP | .gS => true
  | _ => false

def ntIn (c : Bool) : Pos2 → Bool
  | .acq _ | .clR | .clE | .uw => c
  | .aR | .lc | .mg | .ci | .sr | .rR | .nt => true
  | _ => false

def clIn (c : Bool) : Pos2 → Bool
  | .acq _ | .clR | .clE | .uw | .aR | .lc | .mg | .ci | .sr | .rR | .nt | .rel _ => c
  | _ => false

theorem mem_relTail (L : List Nat) (c : Bool) (k : Nat) (m : Micro) :
    m ∈ relTail L c k ↔ (∃ x ∈ L.drop k, m = .release x) ∨ (c = true ∧ m = .act .closeInit) := by
  cases c <;> simp [-List.map_drop, relTail, eq_comm]

theorem mem_cEnd2 (L : List Nat) (c : Bool) (m : Micro) :
    m ∈ cEnd2 L c ↔ (c = true ∧ m ∈ [.acquireRoot, .act .loadCurrentRoot, .act .mergeUnlocked, .act .collectInit,
      .act .storeRoot, .releaseRoot, .act .notify]) ∨ m ∈ relTail L c 0 := by
  cases c <;> simp [cEnd2, csTail, or_assoc]

theorem tracked_relTail (L : List Nat) (c : Bool) (k : Nat) :
    Micro.userWrites ∉ relTail L c k ∧ Micro.act .storeRoot ∉ relTail L c k ∧
    Micro.act .notify ∉ relTail L c k ∧ (Micro.act .closeInit ∈ relTail L c k ↔ c = true) := by
  simp [mem_relTail]

theorem tracked_cEnd2 (L : List Nat) (c : Bool) :
    Micro.userWrites ∉ cEnd2 L c ∧ (Micro.act .storeRoot ∈ cEnd2 L c ↔ c = true) ∧
    (Micro.act .notify ∈ cEnd2 L c ↔ c = true) ∧ (Micro.act .closeInit ∈ cEnd2 L c ↔ c = true) := by
  simp [mem_cEnd2, tracked_relTail]

structure TrackedAt (prog : List Micro) (c : Bool) (p : Pos2) : Prop where
  userWrites : Micro.userWrites ∈ prog ↔ uwIn p = true
  storeRoot : Micro.act .storeRoot ∈ prog ↔ srIn c p = true
  notify : Micro.act .notify ∈ prog ↔ ntIn c p = true
  closeInit : Micro.act .closeInit ∈ prog ↔ clIn c p = true

theorem mem_code2_tracked (L : List Nat) (c : Bool) (p : Pos2) : TrackedAt (code2 L c p) c p := by
  have h : (Micro.userWrites ∈ code2 L c p ↔ uwIn p = true) ∧ (Micro.act .storeRoot ∈ code2 L c p ↔ srIn c p = true) ∧
      (Micro.act .notify ∈ code2 L c p ↔ ntIn c p = true) ∧ (Micro.act .closeInit ∈ code2 L c p ↔ clIn c p = true) := by
    cases p <;> simp [-List.map_drop, code2, csTail, tracked_cEnd2, tracked_relTail, uwIn, srIn, ntIn, clIn]
  obtain ⟨uw, sr, nt, cl⟩ := h
  exact ⟨uw, sr, nt, cl⟩

theorem lock_relTail (L : List Nat) (c : Bool) (k x : Nat) :
    (Micro.release x ∈ relTail L c k ↔ x ∈ L.drop k) ∧ Micro.acquire x ∉ relTail L c k := by
  simp [-List.map_drop, mem_relTail]

theorem rootMu_relTail (L : List Nat) (c : Bool) (k : Nat) :
    Micro.releaseRoot ∉ relTail L c k ∧ Micro.acquireRoot ∉ relTail L c k := by
  simp [mem_relTail]

theorem lock_cEnd2 (L : List Nat) (c : Bool) (x : Nat) :
    (Micro.release x ∈ cEnd2 L c ↔ x ∈ L) ∧ Micro.acquire x ∉ cEnd2 L c := by
  simp [mem_cEnd2, lock_relTail]

theorem mem_of_pos {th : Thread} {L : List Nat} {c : Bool} {p : Pos2} (h : strip2 th.prog = code2 L c p)
    (m : Micro) (hm : relevant2 m = true := by rfl) : m ∈ th.prog ↔ m ∈ code2 L c p := by
  rw [← h, mem_strip2 _ _ hm]

theorem tracked_of_pos (th : Thread) (L : List Nat) (c : Bool) (p : Pos2) (h : strip2 th.prog = code2 L c p) :
    TrackedAt th.prog c p :=
  have t := mem_code2_tracked L c p
  ⟨(mem_of_pos h _).trans t.userWrites, (mem_of_pos h _).trans t.storeRoot, (mem_of_pos h _).trans t.notify,
    (mem_of_pos h _).trans t.closeInit⟩

/-- the tables whose committed version the thread relies on at a position -/
def stable (L : List Nat) : Pos2 → List Nat
  | .clR | .clE | .uw | .aR | .lc | .mg | .ci | .sr | .rR | .nt => L
  | .rel k => L.drop k
  | _ => []

theorem stable_sub (L : List Nat) (p : Pos2) (x : Nat) (h : x ∈ stable L p) : x ∈ L := by
  cases p <;> simp only [stable, List.not_mem_nil] at h <;> first | exact h | exact List.mem_of_mem_drop h

theorem held_of_pos (th : Thread) (L : List Nat) (c : Bool) (p : Pos2) (h : strip2 th.prog = code2 L c p) (x : Nat)
    (hx : x ∈ stable L p) : Micro.release x ∈ th.prog ∧ Micro.acquire x ∉ th.prog := by
  rw [mem_of_pos h (.release x), mem_of_pos h (.acquire x)]
  cases p <;> simp only [stable, List.not_mem_nil] at hx <;>
    simp [-List.map_drop, code2, csTail, lock_cEnd2, lock_relTail, hx]

/-- positions at which the thread relies on the committed root as a whole -/
def needsMu : Pos2 → Bool
  | .mg | .ci | .sr | .gP | .gS => true
  | _ => false

theorem rootHeld_of_pos (th : Thread) (L : List Nat) (c : Bool) (p : Pos2) (h : strip2 th.prog = code2 L c p)
    (hp : needsMu p = true) : Micro.releaseRoot ∈ th.prog ∧ Micro.acquireRoot ∉ th.prog := by
  rw [mem_of_pos h .releaseRoot, mem_of_pos h .acquireRoot]
  cases p <;> simp only [needsMu, Bool.false_eq_true] at hp <;> simp [code2, csTail, rootMu_relTail]

/-- what `collectInit` does to one entry; a commit stores `clr (uwEntry reg mark n e)` -/
def clr (e : TableV) : TableV :=
  if e.initWatch ≠ 0 ∧ !e.initPending then { e with initWatch := 0 } else e

/-- the init channels `collectInit` picks from the private entries of the tables `D` -/
def toClose (es : List TableV) (D : List Nat) : List Nat :=
  D.filterMap fun i => if (getT es i).initWatch ≠ 0 ∧ !(getT es i).initPending then some (getT es i).initWatch else none

def Initialized (e : TableV) : Prop := e.initPending = false ∧ e.initWatch = 0

def Collectable (e : TableV) : Prop := e.initWatch ≠ 0 ∧ e.initPending = false

instance (e : TableV) : Decidable (Initialized e) := by unfold Initialized; infer_instance
instance (e : TableV) : Decidable (Collectable e) := by unfold Collectable; infer_instance

theorem clr_collectable (e : TableV) (h : Collectable e) : Initialized (clr e) := by
  unfold clr Initialized
  rw [if_pos ⟨h.1, by simp [h.2]⟩]
  exact ⟨h.2, rfl⟩

theorem clr_uwEntry_noreg (mark : Bool) (n : Nat) (e : TableV) (h : Initialized e) :
    Initialized (clr (uwEntry false mark n e)) := by
  obtain ⟨h1, h2⟩ := h
  cases mark <;> simp [clr, uwEntry, Initialized, h1, h2]

theorem uwEntry_rev (reg mark : Bool) (n : Nat) (e : TableV) : (uwEntry reg mark n e).rev = e.rev + 1 := rfl

theorem clr_uwEntry_IP (reg mark : Bool) (n : Nat) (e : TableV) (h : e.initPending = true ↔ e.initWatch ≠ 0) :
    (clr (uwEntry reg mark n e)).initPending = true ↔ (clr (uwEntry reg mark n e)).initWatch ≠ 0 := by
  cases reg <;> cases mark <;> cases hp : e.initPending <;> by_cases h0 : e.initWatch = 0 <;>
    simp_all [clr, uwEntry]

theorem clr_watch (e : TableV) : (clr e).watch = e.watch := by
  unfold clr; split <;> rfl

theorem clr_initWatch (e : TableV) (h : (clr e).initWatch ≠ 0) : (clr e).initWatch = e.initWatch := by
  unfold clr at h ⊢
  split
  · rename_i hc; rw [if_pos hc] at h; exact absurd rfl h
  · rfl

theorem clr_uwEntry_rev (reg mark : Bool) (n : Nat) (e : TableV) : (clr (uwEntry reg mark n e)).rev = e.rev + 1 := by
  unfold clr
  split <;> rfl

theorem clr_uwEntry_cnt (reg mark : Bool) (n : Nat) (e : TableV) : (clr (uwEntry reg mark n e)).cnt = e.cnt + 1 := by
  unfold clr
  split <;> rfl

theorem clr_uwEntry_watch (reg mark : Bool) (n : Nat) (e : TableV) : (clr (uwEntry reg mark n e)).watch = n := by
  rw [clr_watch]; rfl

theorem clr_uwEntry_pending (reg mark : Bool) (n : Nat) (e : TableV) :
    (clr (uwEntry reg mark n e)).initPending = (if mark then false else if reg then true else e.initPending) := by
  unfold clr
  split <;> rfl

theorem clr_uwEntry_initialized (reg mark : Bool) (n : Nat) (e : TableV)
    (h : e.initPending = true ↔ e.initWatch ≠ 0) :
    Initialized (clr (uwEntry reg mark n e)) ↔ (mark = true ∨ (reg = false ∧ Initialized e)) := by
  cases reg <;> cases mark <;> cases hp : e.initPending <;> by_cases h0 : e.initWatch = 0 <;>
    simp_all [clr, uwEntry, Initialized]

theorem clr_uwEntry_ne (reg mark : Bool) (n : Nat) (e : TableV) : clr (uwEntry reg mark n e) ≠ e := by
  intro h
  have := clr_uwEntry_rev reg mark n e
  rw [h] at this
  omega

theorem mem_toClose (es : List TableV) (D : List Nat) (w : Nat) :
    w ∈ toClose es D ↔ ∃ x ∈ D, Collectable (getT es x) ∧ w = (getT es x).initWatch := by
  unfold toClose Collectable
  rw [List.mem_filterMap]
  constructor
  · rintro ⟨x, hx, he⟩
    split at he
    · rename_i hc
      simp only [Option.some.injEq] at he
      exact ⟨x, hx, ⟨hc.1, by simpa using hc.2⟩, he.symm⟩
    · simp at he
  · rintro ⟨x, hx, hc, he⟩
    refine ⟨x, hx, ?_⟩
    rw [if_pos ⟨hc.1, by simp [hc.2]⟩, he]

theorem collected_eq_toClose (th : Thread) : collected th = toClose th.newRoot th.locked := rfl

theorem getT_clearedRoot (th : Thread) (x : Nat) (hx : x < th.newRoot.length) :
    getT (clearedRoot th) x = if x ∈ th.locked then clr (getT th.newRoot x) else getT th.newRoot x := by
  unfold clearedRoot
  rw [getT_mapIdx _ _ x hx]
  by_cases h : x ∈ th.locked
  · rw [if_pos h]; simp only [List.contains_iff_mem, h, true_and]; rfl
  · rw [if_neg h]; simp [h]

theorem toClose_congr (es es' : List TableV) (D : List Nat) (h : ∀ i ∈ D, getT es i = getT es' i) :
    toClose es D = toClose es' D := by
  induction D with
  | nil => rfl
  | cons i D ih =>
    have hi := h i List.mem_cons_self
    have ih := ih fun j hj => h j (List.mem_cons_of_mem _ hj)
    unfold toClose at ih ⊢
    rw [List.filterMap_cons, List.filterMap_cons, hi, ih]

/-- the root the writer loaded is still the committed one on its tables -/
def Seen (root : List TableV) (th : Thread) : Prop :=
  ∀ x ∈ lockList th, x < th.oldRoot.length ∧ getT th.oldRoot x = getT root x

/-- after the user's writes -/
def Wr (th : Thread) : Prop :=
  th.locked = dedup th.tables ∧ th.entries.length = th.oldRoot.length ∧
  (∀ x ∈ lockList th, x < th.oldRoot.length ∧
    ∃ n, getT th.entries x = uwEntry (th.regInit.contains x) (th.markInit.contains x) n (getT th.oldRoot x)) ∧
  th.toNotify = (dedup th.tables).map (fun x => (getT th.oldRoot x).watch)

theorem Wr.locked_eq {th : Thread} (h : Wr th) : th.locked = dedup th.tables := h.1

theorem Wr.lt_entries {th : Thread} (h : Wr th) {x : Nat} (hx : x ∈ lockList th) : x < th.entries.length :=
  h.2.1 ▸ (h.2.2.1 x hx).1

theorem Wr.entry {th : Thread} (h : Wr th) {x : Nat} (hx : x ∈ lockList th) :
    ∃ n, getT th.entries x = uwEntry (th.regInit.contains x) (th.markInit.contains x) n (getT th.oldRoot x) :=
  (h.2.2.1 x hx).2

theorem Wr.toNotify_eq {th : Thread} (h : Wr th) :
    th.toNotify = (dedup th.tables).map (fun x => (getT th.oldRoot x).watch) :=
  h.2.2.2

/-- after `mergeUnlocked` -/
def Mg (th : Thread) : Prop :=
  th.newRoot.length = th.curRoot.length ∧ ∀ x, x < th.curRoot.length →
    (x ∈ lockList th → getT th.newRoot x = getT th.entries x) ∧
    (x ∉ lockList th → getT th.newRoot x = getT th.curRoot x)

/-- after `collectInit` -/
def Ci (th : Thread) : Prop :=
  th.newRoot.length = th.curRoot.length ∧ ∀ x, x < th.curRoot.length →
    (x ∈ lockList th → getT th.newRoot x = clr (getT th.entries x)) ∧
    (x ∉ lockList th → getT th.newRoot x = getT th.curRoot x)

/-- what `collectInit` collected -/
def CiI (th : Thread) : Prop :=
  th.initToClose = toClose th.entries (dedup th.tables) ∧ ∀ w ∈ th.toNotify, w ∉ th.initToClose

theorem CiI.collected {th : Thread} (h : CiI th) : th.initToClose = toClose th.entries (dedup th.tables) := h.1

theorem CiI.apart {th : Thread} (h : CiI th) : ∀ w ∈ th.toNotify, w ∉ th.initToClose := h.2

/-- the committed versions of the tables `S` are the ones this writer stored -/
def Stored (root : List TableV) (th : Thread) (S : List Nat) : Prop :=
  ∀ x ∈ S, getT root x = clr (getT th.entries x)

/-- facts about thread record `th` (commit flag `c`) at position `p` -/
def Loc (root : List TableV) (nc : Nat) (th : Thread) (c : Bool) : Pos2 → Prop
  | .acq _ => True
  | .clR => Seen root th
  | .clE => Seen root th ∧ th.entries = th.oldRoot
  | .uw => Seen root th ∧ th.entries = th.oldRoot ∧ th.locked = dedup th.tables
  | .aR => c = true ∧ Seen root th ∧ Wr th
  | .lc => c = true ∧ Seen root th ∧ Wr th
  | .mg => c = true ∧ Seen root th ∧ Wr th ∧ th.curRoot = root
  | .ci => c = true ∧ Seen root th ∧ Wr th ∧ th.curRoot = root ∧ Mg th
  | .sr => c = true ∧ Seen root th ∧ Wr th ∧ th.curRoot = root ∧ Ci th ∧
      th.initToClose = toClose th.entries (dedup th.tables)
  | .rR => c = true ∧ Wr th ∧ CiI th ∧ Stored root th (lockList th)
  | .nt => c = true ∧ Wr th ∧ CiI th ∧ Stored root th (lockList th)
  | .rel k => Wr th ∧ (c = true → CiI th ∧ Stored root th ((lockList th).drop k))
  | .fin => c = true ∧ Wr th ∧ CiI th
  | .gA => c = false ∧ th.tables = []
  | .gL => c = false ∧ th.tables = []
  | .gP => c = false ∧ th.tables = [] ∧ th.curRoot = root
  | .gS => c = false ∧ th.tables = [] ∧ th.newRoot = root ++ [{ watch := nc }] ∧
      th.prog.head? = some (.act .storeRoot)
  | .gR => c = false ∧ th.tables = []
  | .gE => c = false ∧ th.tables = []
  | .dA => c = false ∧ th.tables = []
  | .dL => c = false ∧ th.tables = []
  | .dR => c = false ∧ th.tables = []

theorem Loc.gS_head {root : List TableV} {nc : Nat} {th : Thread} {c : Bool} (h : Loc root nc th c .gS) :
    th.prog.head? = some (.act .storeRoot) := h.2.2.2

theorem Loc_frame (root root' : List TableV) (nc nc' : Nat) (th : Thread) (c : Bool) (p : Pos2)
    (h : Loc root nc th c p)
    (hst : ∀ x ∈ stable (lockList th) p, getT root' x = getT root x)
    (hmu : needsMu p = true → root' = root ∧ nc' = nc) : Loc root' nc' th c p := by
  have seen : (∀ x ∈ lockList th, getT root' x = getT root x) → Seen root th → Seen root' th := fun hst hs x hx =>
    ⟨(hs x hx).1, by rw [hst x hx]; exact (hs x hx).2⟩
  cases p with
  | acq k => trivial
  | clR => exact seen hst h
  | clE | uw => exact ⟨seen hst h.1, h.2⟩
  | aR | lc => exact ⟨h.1, seen hst h.2.1, h.2.2⟩
  | mg | ci | sr | gS => rw [(hmu rfl).1, (hmu rfl).2]; exact h
  | gP => rw [(hmu rfl).1]; exact h
  | rR | nt => exact ⟨h.1, h.2.1, h.2.2.1, fun x hx => by rw [hst x hx]; exact h.2.2.2 x hx⟩
  | rel k => exact ⟨h.1, fun hc => ⟨(h.2 hc).1, fun x hx => by rw [hst x hx]; exact (h.2 hc).2 x hx⟩⟩
  | fin | gA | gL | gR | gE | dA | dL | dR => exact h

def chansOf (e : TableV) (w : Nat) : Prop := w = e.watch ∨ (w = e.initWatch ∧ w ≠ 0)

theorem chansOf_clr_cases (e : TableV) (w : Nat) (h : chansOf (clr e) w) :
    w = e.watch ∨ (w = e.initWatch ∧ w ≠ 0 ∧ ¬ Collectable e) := by
  rcases h with h | ⟨h1, h2⟩
  · exact Or.inl (h.trans (clr_watch e))
  · have hne : (clr e).initWatch ≠ 0 := h1 ▸ h2
    exact Or.inr ⟨h1.trans (clr_initWatch e hne), h2, fun hc => hne (clr_collectable e hc).2⟩

theorem chansOf_clr (e : TableV) (w : Nat) (h : chansOf (clr e) w) : chansOf e w :=
  (chansOf_clr_cases e w h).imp id fun g => ⟨g.1, g.2.1⟩

def rootChan (root : List TableV) (w : Nat) : Prop := ∃ x, x < root.length ∧ chansOf (getT root x) w

/-- channels the writer allocated for table `x` in its `userWrites` -/
def freshOf (th : Thread) (x : Nat) (w : Nat) : Prop :=
  w = (getT th.entries x).watch ∨ (w = (getT th.entries x).initWatch ∧ (getT th.oldRoot x).initWatch = 0 ∧ w ≠ 0)

def fresh (th : Thread) (w : Nat) : Prop := ∃ x ∈ lockList th, freshOf th x w

/-- the writer has written and (if it commits) not yet stored -/
def freshPhase (th : Thread) (c : Bool) : Prop :=
  Micro.userWrites ∉ th.prog ∧ (c = false ∨ Micro.act .storeRoot ∈ th.prog)

def priv (th : Thread) (c : Bool) (w : Nat) : Prop :=
  (freshPhase th c ∧ fresh th w) ∨
  (c = true ∧ Micro.act .storeRoot ∉ th.prog ∧ Micro.act .notify ∈ th.prog ∧ w ∈ th.toNotify) ∨
  (c = true ∧ Micro.act .storeRoot ∉ th.prog ∧ Micro.act .closeInit ∈ th.prog ∧ w ∈ th.initToClose)

def FI (th : Thread) (c : Bool) : Prop :=
  freshPhase th c → ∀ x ∈ lockList th, ∀ y ∈ lockList th, x ≠ y → ∀ w, freshOf th x w → freshOf th y w → False

/-- the clauses of `CI` about the committed root alone -/
structure RootOK (root : List TableV) : Prop where
  RI : ∀ x y, x < root.length → y < root.length → x ≠ y →
    ∀ w, chansOf (getT root x) w → chansOf (getT root y) w → False
  RW : ∀ x, x < root.length → (getT root x).initWatch ≠ 0 → (getT root x).watch ≠ (getT root x).initWatch
  IP : ∀ x, x < root.length → ((getT root x).initPending = true ↔ (getT root x).initWatch ≠ 0)
  RV : ∀ x, x < root.length → (getT root x).rev = (getT root x).cnt

/-- what `CI` says of one thread -/
def ThreadOK (root : List TableV) (nc : Nat) (th : Thread) (c : Bool) : Prop :=
  (∀ x ∈ lockList th, x < root.length) ∧ adjOK th.prog = true ∧
  ∃ p, strip2 th.prog = code2 (lockList th) c p ∧ Loc root nc th c p

theorem ThreadOK.at {root : List TableV} {nc : Nat} {th : Thread} {c : Bool} (p : Pos2)
    (hb : ∀ x ∈ lockList th, x < root.length) (hadj : adjOK th.prog = true)
    (hp : strip2 th.prog = code2 (lockList th) c p) (hl : Loc root nc th c p) : ThreadOK root nc th c :=
  ⟨hb, hadj, p, hp, hl⟩

theorem ThreadOK.bound {root : List TableV} {nc : Nat} {th : Thread} {c : Bool} (h : ThreadOK root nc th c) :
    ∀ x ∈ lockList th, x < root.length := h.1

theorem ThreadOK.adj {root : List TableV} {nc : Nat} {th : Thread} {c : Bool} (h : ThreadOK root nc th c) :
    adjOK th.prog = true := h.2.1

theorem ThreadOK.pos {root : List TableV} {nc : Nat} {th : Thread} {c : Bool} (h : ThreadOK root nc th c) :
    ∃ p, strip2 th.prog = code2 (lockList th) c p ∧ Loc root nc th c p := h.2.2

/-- Field names: `R` root channel, `C` closed, `P` private; `b·` is the bound by `nextChan`, a pair
    of letters says that the two roles exclude each other (`PP`: private to two threads); `RI`, `RW`,
    `IP`, `RV` are `RootOK`; `FIc` is `FI` of every thread; `CO`: a closed channel was notified or
    collected by a committing writer past its `storeRoot`; `TH`: `ThreadOK` of every thread; `RS`:
    only the running thread may stand directly before a `storeRoot` -/
structure CI (st : State) (cs : List Bool) (run : Option Nat) : Prop where
  len : cs.length = st.threads.length
  nc : 1 ≤ st.nextChan
  bR : ∀ w, rootChan st.root w → w < st.nextChan
  bC : ∀ w, w ∈ st.closed → w < st.nextChan
  bP : ∀ (tid : Nat) th c w, st.threads[tid]? = some th → cs[tid]? = some c → priv th c w → w < st.nextChan
  RC : ∀ w, rootChan st.root w → w ∉ st.closed
  PC : ∀ (tid : Nat) th c w, st.threads[tid]? = some th → cs[tid]? = some c → priv th c w → w ∉ st.closed
  PR : ∀ (tid : Nat) th c w, st.threads[tid]? = some th → cs[tid]? = some c → priv th c w → ¬ rootChan st.root w
  PP : ∀ (tid tid' : Nat) th th' c c' w, tid ≠ tid' → st.threads[tid]? = some th → st.threads[tid']? = some th' →
    cs[tid]? = some c → cs[tid']? = some c' → priv th c w → priv th' c' w → False
  RI : ∀ x y, x < st.root.length → y < st.root.length → x ≠ y →
    ∀ w, chansOf (getT st.root x) w → chansOf (getT st.root y) w → False
  RW : ∀ x, x < st.root.length → (getT st.root x).initWatch ≠ 0 →
    (getT st.root x).watch ≠ (getT st.root x).initWatch
  FIc : ∀ (tid : Nat) th c, st.threads[tid]? = some th → cs[tid]? = some c → FI th c
  IP : ∀ x, x < st.root.length → ((getT st.root x).initPending = true ↔ (getT st.root x).initWatch ≠ 0)
  RV : ∀ x, x < st.root.length → (getT st.root x).rev = (getT st.root x).cnt
  CO : ∀ w, w ∈ st.closed → ∃ (tid : Nat) (th : Thread), st.threads[tid]? = some th ∧ cs[tid]? = some true ∧
    Micro.act .storeRoot ∉ th.prog ∧
    ((Micro.act .notify ∉ th.prog ∧ w ∈ th.toNotify) ∨ (Micro.act .closeInit ∉ th.prog ∧ w ∈ th.initToClose))
  TH : ∀ (tid : Nat) th, st.threads[tid]? = some th → ∃ c, cs[tid]? = some c ∧ ThreadOK st.root st.nextChan th c
  RS : ∀ (tid : Nat) th, st.threads[tid]? = some th → some tid ≠ run → th.prog.head? ≠ some (.act .storeRoot)

theorem CI.rootOK {st : State} {cs : List Bool} {run : Option Nat} (h : CI st cs run) : RootOK st.root :=
  ⟨h.RI, h.RW, h.IP, h.RV⟩

theorem CI.thread {st : State} {cs : List Bool} {run : Option Nat} (h : CI st cs run) {j : Nat} {T : Thread} {c : Bool}
    (hT : st.threads[j]? = some T) (hc : cs[j]? = some c) : ThreadOK st.root st.nextChan T c := by
  obtain ⟨c', hc', hok⟩ := h.TH j T hT
  cases hc.symm.trans hc'
  exact hok

structure PhaseOrder (L : List Nat) (p : Pos2) : Prop where
  store_of_writes : uwIn p = true → srIn true p = true
  notify_of_store : srIn true p = true → ntIn true p = true
  closeInit_of_notify : ntIn true p = true → clIn true p = true
  fin_of_closed : ¬ clIn true p = true → p = .fin
  stable_until_notified : ¬ srIn true p = true → ntIn true p = true → stable L p = L

/-- `hl` excludes the positions of a registration: the first clause of `Loc` there is `c = false` -/
theorem commit_phases (root : List TableV) (nc : Nat) (th : Thread) (p : Pos2) (hl : Loc root nc th true p) :
    PhaseOrder (lockList th) p := by
  have h : (uwIn p = true → srIn true p = true) ∧ (srIn true p = true → ntIn true p = true) ∧
      (ntIn true p = true → clIn true p = true) ∧ (¬ clIn true p = true → p = .fin) ∧
      (¬ srIn true p = true → ntIn true p = true → stable (lockList th) p = lockList th) := by
    cases p <;> simp [Loc] at hl <;> simp [uwIn, srIn, ntIn, clIn, stable]
  obtain ⟨ws, sn, nc, fin, st⟩ := h
  exact ⟨ws, sn, nc, fin, st⟩

/-- the order of the channel actions of a COMMITTING writer, by what is still
    ahead in its program -/
structure CommitOrder (th : Thread) : Prop where
  store_after_writes : Micro.act .storeRoot ∉ th.prog → Micro.userWrites ∉ th.prog
  notify_after_store : Micro.act .notify ∉ th.prog → Micro.act .storeRoot ∉ th.prog
  closeInit_after_notify : Micro.act .closeInit ∉ th.prog → Micro.act .notify ∉ th.prog
  closeInit_after_unlock : Micro.act .closeInit ∉ th.prog → ∀ x, Micro.release x ∉ th.prog
  locked_until_notified : Micro.act .storeRoot ∉ th.prog → Micro.act .notify ∈ th.prog →
    ∀ x ∈ th.tables, Micro.release x ∈ th.prog ∧ Micro.acquire x ∉ th.prog

theorem commitOrder_of_pos (root : List TableV) (nc : Nat) (th : Thread) (p : Pos2)
    (hp : strip2 th.prog = code2 (lockList th) true p) (hl : Loc root nc th true p) : CommitOrder th := by
  have tr := tracked_of_pos th _ true p hp
  have o := commit_phases root nc th p hl
  refine ⟨fun h hu => h (tr.storeRoot.2 (o.store_of_writes (tr.userWrites.1 hu))),
    fun h hs => h (tr.notify.2 (o.notify_of_store (tr.storeRoot.1 hs))),
    fun h hn => h (tr.closeInit.2 (o.closeInit_of_notify (tr.notify.1 hn))), fun h x hx => ?_, fun hs hn x hx => ?_⟩
  · rw [mem_of_pos hp (.release x), o.fin_of_closed (mt tr.closeInit.2 h)] at hx
    exact absurd hx List.not_mem_nil
  · exact held_of_pos th _ true p hp x
      (by rw [o.stable_until_notified (mt tr.storeRoot.2 hs) (tr.notify.1 hn)]; exact (mem_lockList th x).2 hx)

theorem commitOrder (st : State) (cs : List Bool) (run : Option Nat) (h : CI st cs run) (j : Nat) (T : Thread)
    (hT : st.threads[j]? = some T) (hc : cs[j]? = some true) : CommitOrder T := by
  obtain ⟨p, hp, hl⟩ := (h.thread hT hc).pos
  exact commitOrder_of_pos _ _ T p hp hl

theorem Loc_stored (root : List TableV) (nc : Nat) (th : Thread) (p : Pos2) (hl : Loc root nc th true p)
    (hs : ¬ srIn true p = true) : Wr th ∧ CiI th ∧ Stored root th (stable (lockList th) p) := by
  cases p with
  | rR => exact ⟨hl.2.1, hl.2.2.1, hl.2.2.2⟩
  | nt => exact ⟨hl.2.1, hl.2.2.1, hl.2.2.2⟩
  | rel k => exact ⟨hl.1, (hl.2 rfl).1, (hl.2 rfl).2⟩
  | fin => exact ⟨hl.2.1, hl.2.2, fun x hx => absurd hx List.not_mem_nil⟩
  | gR | gE | dA | dL | dR => exact Bool.noConfusion hl.1
  | _ => exact absurd rfl hs

theorem release_stable (L : List Nat) (p : Pos2) (x : Nat) (hx : Micro.release x ∈ code2 L true p)
    (hs : ¬ srIn true p = true) : x ∈ stable L p := by
  cases p <;> simp only [srIn, not_true_eq_false, Bool.false_eq_true, not_false_eq_true] at hs <;>
    simp [-List.map_drop, stable, code2, lock_relTail] at hx ⊢ <;> exact hx

theorem Loc_seen (root : List TableV) (nc : Nat) (th : Thread) (p : Pos2) (hl : Loc root nc th true p)
    (hld : Micro.act .loadRoot ∉ code2 (lockList th) true p) (hs : srIn true p = true) : Seen root th := by
  cases p with
  | acq k => simp [code2] at hld
  | clR => exact hl
  | clE | uw => exact hl.1
  | aR | lc | mg | ci | sr => exact hl.2.1
  | gA | gL | gP | gS => exact Bool.noConfusion hl.1
  | _ => exact Bool.noConfusion hs

/-- the record of a committed writer past its `storeRoot` -/
structure StoredRec (root : List TableV) (T : Thread) : Prop where
  written : Micro.userWrites ∉ T.prog
  wr : Wr T
  cii : CiI T
  held : ∀ x, Micro.release x ∈ T.prog → getT root x = clr (getT T.entries x)
  bound : ∀ x ∈ lockList T, x < root.length

theorem storedRec (st : State) (cs : List Bool) (run : Option Nat) (h : CI st cs run) (j : Nat) (T : Thread)
    (hT : st.threads[j]? = some T) (hc : cs[j]? = some true) (hs : Micro.act .storeRoot ∉ T.prog) :
    StoredRec st.root T := by
  obtain ⟨p, hp, hl⟩ := (h.thread hT hc).pos
  have hsf : ¬ srIn true p = true := mt (tracked_of_pos T _ true p hp).storeRoot.2 hs
  obtain ⟨wr, cii, sto⟩ := Loc_stored _ _ T p hl hsf
  exact ⟨(commitOrder_of_pos _ _ T p hp hl).store_after_writes hs, wr, cii,
    fun x hx => sto x (release_stable _ p x ((mem_of_pos hp _).1 hx) hsf), (h.thread hT hc).bound⟩

theorem abort_no_store (st : State) (cs : List Bool) (run : Option Nat) (h : CI st cs run) (j : Nat) (T : Thread)
    (hT : st.threads[j]? = some T) (hc : cs[j]? = some false) (hne : T.tables ≠ []) :
    Micro.act .storeRoot ∉ T.prog := by
  obtain ⟨p, hp, hl⟩ := (h.thread hT hc).pos
  intro hm
  have := (tracked_of_pos T _ false p hp).storeRoot.1 hm
  cases p <;> first
    | exact hne hl.2
    | exact hne hl.2.1
    | exact Bool.noConfusion hl.1
    | (simp [srIn] at this; done)

end Sdb.Conc
