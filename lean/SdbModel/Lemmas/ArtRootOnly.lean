import SdbModel.Lemmas.ArtInv

/-! Root-only-watch mode of Model.Art: no write allocates a channel, so by the counting of ArtCount trees carry
    no per-node channel, and Get and Prefix hand out the root watch. -/
namespace Sdb.ArtW
open Sdb.Art

def AllZ (n : Node) : Prop := ∀ c, c ≠ 0 → cnt c n = 0
def AllZK (k : Kids) : Prop := ∀ c, c ≠ 0 → cntK c k = 0

theorem AllZ.inner {kind : Nat} {p : List Nat} {lf : Option LeafD} {kids : Kids} {w t : Nat}
    (h : AllZ (.inner kind p lf kids w t)) : w = 0 ∧ AllZK kids := by
  constructor
  · rcases Nat.eq_zero_or_pos w with h0 | h0
    · exact h0
    · have := h w (by omega)
      simp [cnt] at this
  · intro c hc
    have := h c hc
    simp only [cnt] at this; omega

theorem AllZK.find {kids : Kids} {b : Nat} {n : Node} (h : AllZK kids) (hfind : kids.find b = some n) : AllZ n := by
  intro c hc
  have := h c hc
  have := cntK_erase_find c kids hfind
  omega

theorem fresh_ro (st : St) (h : st.rootOnly = true) : st.fresh.1 = st := by
  unfold St.fresh; simp [h]

theorem freshIf_zero (st : St) : (st.freshIf 0).1 = st := by
  unfold St.freshIf; simp

theorem record_ro (st : St) (w : Nat) : (st.record w).rootOnly = st.rootOnly := (record_le st w).ro

theorem Rw.ro {st st' : St} {w t w' : Nat} (h : Rw st w t st' w') (hro : st.rootOnly = true) (hw : w = 0) :
    st'.nextW = st.nextW := by
  subst hw
  cases h with
  | re => unfold reclone; split; rfl; rw [fresh_ro _ ((record_ro st _).trans hro), record_nextW]
  | promote => rw [freshIf_zero, record_nextW]
  | demote => rw [record_nextW, freshIf_zero]
  | new => rw [fresh_ro _ hro]

theorem Re.ro {st st' : St} {lf : Option LeafD} {w' : Nat} (h : Re st lf st' w') (hro : st.rootOnly = true) :
    st'.nextW = st.nextW := by
  cases h with
  | clone => unfold reclone; split; rfl; rw [fresh_ro _ ((record_ro st _).trans hro), record_nextW]
  | new => rw [fresh_ro _ hro]

theorem W.ro {id : Nat} {st st' : St} {n : Node} {key : List Nat} {res : Option Node} {rw : Option Nat}
    (h : W id st n key st' res rw) : st.rootOnly = true → AllZ n → st'.nextW = st.nextW := by
  induction h with
  | kid _ _ hfind hw hrw ih =>
    intro hro hz
    rw [hrw.ro (hw.le.ro.trans hro) hz.inner.1, ih hro (hz.inner.2.find hfind)]
  | slot _ _ _ hre hrw => intro hro hz; rw [hrw.ro (hre.le.ro.trans hro) hz.inner.1, hre.ro hro]
  | atInner hrw hre => intro hro hz; rw [hre.ro (hrw.le.ro.trans hro), hrw.ro hro hz.inner.1]
  | atLeaf hre => intro hro _; exact hre.ro hro
  | fork _ _ hin hre hrw =>
    intro hro hz
    rw [hrw.ro ((hin.le.trans hre.le).ro.trans hro) rfl, hre.ro (hin.le.ro.trans hro)]
    cases hin with
    | leaf => rfl
    | inner hrw1 => exact hrw1.ro hro hz.inner.1
  | kidGone _ _ hfind hw hrw ih =>
    intro hro hz
    rw [hrw.ro (hw.le.ro.trans hro) hz.inner.1, ih hro (hz.inner.2.find hfind)]
  | kidGoneMerge _ _ hfind _ _ ih => intro hro hz; rw [record_nextW, ih hro (hz.inner.2.find hfind)]
  | delLeaf => intro _ _; exact record_nextW _ _
  | delMerge => intro _ _; rw [record_nextW, record_nextW]
  | delClone hrw => intro hro hz; rw [hrw.ro ((record_ro _ _).trans hro) hz.inner.1, record_nextW]
  | delGone => intro _ _; rw [record_nextW, record_nextW]

theorem insKids_ro (P : ArtParams) (st : St) (h : st.rootOnly = true) : (kids : Kids) → (b : Nat) → (key full : List Nat) →
    (val : Nat) → (mod : Option (Nat → Nat → Nat)) → (r : InsRes) → (kids' : Kids) → AllZK kids →
    insKids P st kids b key full val mod = some (r, kids') → r.st.nextW = st.nextW := by
  intro kids b key full val mod r kids' hz hh
  obtain ⟨n, hfind, rfl, _⟩ := insKids_some hh
  exact (insNode_W P st n key full val mod).ro h (hz.find hfind)

theorem delKids_ro (P : ArtParams) (st : St) (h : st.rootOnly = true) : (kids : Kids) → (b : Nat) → (key : List Nat) →
    (r : DelRes) → (kids' : Kids) → (st' : St) → AllZK kids → delKids P st kids b key = some (r, kids') →
    delSt r = some st' → st'.nextW = st.nextW := by
  intro kids b key r kids' st' hz hh hr
  obtain ⟨n, hfind, rfl, _⟩ := delKids_some hh
  exact (delNode_W P st n key st' hr).ro h (hz.find hfind)

theorem Tr.allZ {st st' : St} {c o n : Nat} (h : Tr st st' c o n) (hnw : st'.nextW = st.nextW) (ho : o = 0) : n = 0 := by
  have hb := h.balance
  have : ¬ (st.nextW ≤ c ∧ c < st'.nextW) := by omega
  rw [frsh, if_neg this] at hb
  omega

def ROInv (x : Txn) : Prop := x.st.rootOnly = true ∧ ∀ c, c ≠ 0 → cntR c x.root = 0
def ROTree (t : Tree) : Prop := t.rootOnly = true → ∀ c, c ≠ 0 → cntR c t.root = 0

theorem WR.ro {id : Nat} {st st' : St} {root root' : Option Node} {key : List Nat} {rw : Option Nat}
    (h : WR id st root key st' root' rw) (hro : st.rootOnly = true) (hz : ∀ c, c ≠ 0 → cntR c root = 0) :
    st'.nextW = st.nextW := by
  cases h with
  | node h => exact h.ro hro hz
  | first hre => exact hre.ro hro

theorem ROInv.wrote {x x' : Txn} {k : List Nat} {rw : Option Nat} (h : ROInv x) (hw : Wrote x k x' rw) : ROInv x' :=
  ⟨hw.w.le.ro.trans h.1, fun c hc => (hw.w.tr hc).allZ (hw.w.ro h.1 h.2) (h.2 c hc)⟩

theorem ROInv.step {x : Txn} (P : ArtParams) (h : ROInv x) (o : Op) : ROInv (step P x o) :=
  step_of_wrote ROInv.wrote id P h o

theorem ROInv.insert {x : Txn} (P : ArtParams) (h : ROInv x) (k : List Nat) (v : Nat) (m : Option (Nat → Nat → Nat)) :
    ROInv (x.insert P k v m).1 :=
  h.step P (.insert k v m)

theorem ROInv.delete {x : Txn} (P : ArtParams) (h : ROInv x) (k : List Nat) : ROInv (x.delete P k).1 :=
  h.step P (.delete k)

theorem ROInv.run {x : Txn} (P : ArtParams) (h : ROInv x) (ops : List Op) : ROInv (run P x ops) :=
  run_of_wrote ROInv.wrote id P h ops

theorem Reach.roTree {P : ArtParams} {t : Tree} (h : Reach P t) : ROTree t := by
  induction h with
  | new wd ro => intro _ c _; simp [newTree, cntR]
  | commit t wd wd' ops _ ih =>
    intro hro
    have hro' : t.rootOnly = true := by
      rw [(commit_facts _ wd').rootOnly, (later_run P (t.txn wd) ops).ro] at hro
      exact hro
    have hx : ROInv (t.txn wd) := ⟨hro', ih hro'⟩
    exact (hx.run P ops).2
  | clone t wd ops _ ih =>
    intro hro
    have hro' : t.rootOnly = true := by
      have := (later_run P (t.txn wd) ops).ro
      simp only [Txn.clone, Txn.bump] at hro
      rw [this] at hro; exact hro
    have hx : ROInv (t.txn wd) := ⟨hro', ih hro'⟩
    exact (hx.run P ops).2

theorem ro_get_is_root (root : Option Node) (w : Nat) (hz : ∀ c, c ≠ 0 → cntR c root = 0) (k : List Nat) :
    (getRoot root w k).2 = w ∧ (prefixRoot root w k).2 = w := by
  cases root with
  | none => exact ⟨rfl, rfl⟩
  | some r =>
    constructor
    · rcases searchNode_mem r w k with h | ⟨h0, h1⟩
      · exact h
      · have := hz _ h0; simp only [cntR] at this; omega
    · rcases prefixNode_mem r w k with h | ⟨h0, h1⟩
      · exact h
      · have := hz _ h0; simp only [cntR] at this; omega

end Sdb.ArtW
