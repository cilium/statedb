import SdbModel.Lemmas.ReconcilerInjectRound

/-!
  The retry timer of `reconciler/retries.go`.  `QInv P` is the invariant of the retry queue and its
  timer; the bound `P` on the retry times stays abstract (`PAdd`), so that one proof per queue
  operation serves `WInv`, `SInv` and their counterparts in `ReconcilerInjectTimer`.  The status
  commit is the one step where the timer needs the bookkeeping, `InvL` or `JInv` (lemmas ending in
  `J`): the retry item of a failed result is outside the time queue until the commit re-adds it.
  At the end: what an idle state is (`Idle`), that nothing is forgotten in it (`accounted`, over the
  clauses `InvL` and `JInv` share), and that it has converged once failures have stopped (`Converged`).

  The letters of the invariants:
  `T` the table (`TInv`);
  `Q` the retry queue and its timer (`QInv`; `QR`, `QRJ` inside a round);
  `R` the states between rounds (`RInv`);
  `W` the whole run: `RInv` with every retry due within the maximal backoff (`WInv`);
  `S` the same once failures have stopped: no retry due later than a fixed `B` (`SInv`);
  `J` with user writes queued to land during Updates (`JInv`, `JRInv`, `JWInv`, `JSInv`).
-/
namespace Sdb.Rec

/-- the timer will wake the loop no later than `t` -/
def TimerBy (tm : Timer) (t : Nat) : Prop := tm = .fired ∨ ∃ u, tm = .armed u ∧ u ≤ t

/-- the retry timer is armed for the head of the time queue, or has fired for a head that is due
    (`Pop`, `Add` and `Clear` call `resetTimer` when they change the head); `P` bounds the retry times -/
structure QInv (P : Nat → Prop) (r : R) : Prop where
  tmSome : ∀ h, r.head = some h → r.timer = .armed h.retryAt ∨ (r.timer = .fired ∧ h.retryAt ≤ r.now)
  tmNone : r.head = none → r.timer = .none ∨ r.timer = .stopped
  times : ∀ it ∈ r.items, P it.retryAt
  pw : r.items.Pairwise (fun a b => a.id ≠ b.id)
  objid : ∀ it ∈ r.items, it.obj.id = it.id

/-- `P` holds of every retry time a failure can produce now -/
def PAdd (P : Nat → Prop) (r : R) : Prop := ∀ n, P (r.now + backoff r.cfg.minB r.cfg.maxB n)

theorem PAdd.congr {P : Nat → Prop} {r r' : R} (h : PAdd P r) (h1 : r'.now = r.now) (h2 : r'.cfg = r.cfg) : PAdd P r' := by
  unfold PAdd; rw [h1, h2]; exact h

theorem pAdd_bound (r : R) : PAdd (fun t => t ≤ r.now + r.cfg.maxB) r := by
  intro n
  have := C16_backoff_le_max r.cfg.minB r.cfg.maxB n
  show r.now + backoff r.cfg.minB r.cfg.maxB n ≤ r.now + r.cfg.maxB
  omega

theorem QInv.timerBy {P : Nat → Prop} {r : R} (h : QInv P r) : ∀ it ∈ r.items, it.inQueue = true → TimerBy r.timer it.retryAt := by
  intro it hit hq
  cases hh : r.head with
  | none => have := (head_none_iff r).1 hh it hit; rw [hq] at this; cases this
  | some h0 =>
    have hle := head_le hh hit hq
    rcases h.tmSome h0 hh with a | a
    · exact Or.inr ⟨_, a, hle⟩
    · exact Or.inl a.1

theorem QInv.congr {P : Nat → Prop} {r r' : R} (h : QInv P r) (h1 : r'.items = r.items) (h2 : r'.timer = r.timer)
    (h3 : r'.now = r.now) : QInv P r' := by
  have hh : r'.head = r.head := by unfold R.head R.queue; rw [h1]
  obtain ⟨a, b, c, d, e⟩ := h
  constructor <;> simp only [hh, h1, h2, h3] <;> assumption

theorem newTimer_none (tm : Timer) : newTimer tm none = .none ∨ newTimer tm none = .stopped := by
  cases tm <;> simp [newTimer]

theorem newTimer_some (tm : Timer) (h : Item) : newTimer tm (some h) = .armed h.retryAt := by
  cases tm <;> rfl

theorem QInv.of_reset {P : Nat → Prop} {r' : R} (tm : Timer) (ht : r'.timer = newTimer tm r'.head)
    (times : ∀ it ∈ r'.items, P it.retryAt) (pw : r'.items.Pairwise (fun a b => a.id ≠ b.id))
    (objid : ∀ it ∈ r'.items, it.obj.id = it.id) : QInv P r' :=
  ⟨fun h hh => Or.inl (by rw [ht, hh]; exact newTimer_some _ _), fun hh => by rw [ht, hh]; exact newTimer_none _,
    times, pw, objid⟩

/-- a queue operation that leaves the timer alone: it stays right when the new head is an old item
    and the old head is still there, for then both heads are due at the same time -/
theorem QInv.of_head {P : Nat → Prop} {r r' : R} (h : QInv P r) (ht : r'.timer = r.timer) (hn : r.now ≤ r'.now)
    (hnew : ∀ h', r'.head = some h' → h' ∈ r.items) (hold : ∀ h0, r.head = some h0 → h0 ∈ r'.items)
    (times : ∀ it ∈ r'.items, P it.retryAt) (pw : r'.items.Pairwise (fun a b => a.id ≠ b.id))
    (objid : ∀ it ∈ r'.items, it.obj.id = it.id) : QInv P r' := by
  refine ⟨fun h' hh' => ?_, fun hh' => ?_, times, pw, objid⟩
  · obtain ⟨_, hq', hmin'⟩ := head_spec hh'
    cases hh0 : r.head with
    | none => exact absurd (((head_none_iff r).1 hh0 h' (hnew h' hh')).symm.trans hq') Bool.false_ne_true
    | some h0 =>
      obtain ⟨_, hq0, hmin0⟩ := head_spec hh0
      rw [ht, Nat.le_antisymm (hmin' h0 (hold h0 hh0) hq0) (hmin0 h' (hnew h' hh') hq')]
      exact (h.tmSome h0 hh0).imp id (fun a => ⟨a.1, Nat.le_trans a.2 hn⟩)
  · rw [ht]
    cases hh0 : r.head with
    | none => exact h.tmNone hh0
    | some h0 =>
      exact absurd (((head_none_iff r').1 hh' h0 (hold h0 hh0)).symm.trans (head_queued hh0)) Bool.false_ne_true

theorem QInv.retryClear {P : Nat → Prop} {r : R} (h : QInv P r) (id : Nat) : QInv P (r.retryClear id) := by
  have times : ∀ it ∈ r.items.filter (·.id ≠ id), P it.retryAt := fun it hit => h.times it (List.mem_filter.1 hit).1
  have objid : ∀ it ∈ r.items.filter (·.id ≠ id), it.obj.id = it.id := fun it hit => h.objid it (List.mem_filter.1 hit).1
  unfold R.retryClear
  split
  · exact h
  · rename_i it0 hfind
    dsimp only
    split
    · -- the head was removed: the timer is reset for the new head
      exact QInv.of_reset r.timer rfl times (h.pw.filter _) objid
    · rename_i hnh
      -- the head (if any) stays: it is not the item of `id`, which was the head if it was queued at all
      refine h.of_head rfl (Nat.le_refl _) (fun h' hh' => (List.mem_filter.1 (head_mem hh')).1) (fun h0 hh0 => ?_)
        times (h.pw.filter _) objid
      obtain ⟨hm0, hq0, _⟩ := head_spec hh0
      refine mem_filter_id_ne.2 ⟨hm0, fun e => hnh ⟨?_, by rw [hh0]; exact congrArg some e⟩⟩
      have hid0 : it0.id = id := by simpa using List.find?_some hfind
      rw [eq_of_id h.pw (List.mem_of_find?_eq_some hfind) hm0 (hid0.trans e.symm)]
      exact hq0

theorem QInv.retryPop {P : Nat → Prop} {r : R} (h : QInv P r) : QInv P r.retryPop := by
  unfold R.retryPop
  split
  · exact h
  · rename_i h0 hh0
    refine QInv.of_reset r.timer rfl (fun it hit => ?_) ?_ (fun it hit => ?_)
    · obtain ⟨i, hi, rfl⟩ := List.mem_map.1 hit
      have := h.times i hi
      split <;> exact this
    · show (r.items.map _).Pairwise _
      rw [List.pairwise_map]
      refine h.pw.imp ?_
      intro a b hab
      split <;> split <;> simpa using hab
    · obtain ⟨i, hi, rfl⟩ := List.mem_map.1 hit
      have := h.objid i hi
      split <;> exact this

/-- adding a retry item for `X` where the old item of `X`, if any, is outside the time queue -/
theorem QInv.add_core {P : Nat → Prop} {r r' : R} (h : QInv P r) (itn : Item) (X : Nat) (hitnid : itn.id = X)
    (hitno : itn.obj.id = X) (hitnP : P itn.retryAt)
    (hnq : ∀ it ∈ r.items, it.id = X → it.inQueue = false)
    (hi : r'.items = r.items.filter (·.id ≠ X) ++ [itn])
    (ht : r'.timer = if r'.head.map (·.id) = some X then newTimer r.timer r'.head else r.timer)
    (hn : r'.now = r.now) : QInv P r' := by
  have hmem : ∀ it, it ∈ r'.items ↔ (it ∈ r.items ∧ it.id ≠ X) ∨ it = itn := fun it => by
    rw [hi, List.mem_append, mem_filter_id_ne, List.mem_singleton]
  have times : ∀ it ∈ r'.items, P it.retryAt := fun it hit =>
    ((hmem it).1 hit).elim (fun a => h.times it a.1) (fun e => e ▸ hitnP)
  have objid : ∀ it ∈ r'.items, it.obj.id = it.id := fun it hit =>
    ((hmem it).1 hit).elim (fun a => h.objid it a.1) (fun e => by rw [e, hitno, hitnid])
  have pw : r'.items.Pairwise (fun a b => a.id ≠ b.id) := by
    rw [hi, List.pairwise_append]
    refine ⟨h.pw.filter _, List.pairwise_singleton _ _, fun a ha b hb => ?_⟩
    rw [List.mem_singleton.1 hb, hitnid]
    exact (mem_filter_id_ne.1 ha).2
  by_cases hc : r'.head.map (·.id) = some X
  · exact QInv.of_reset r.timer (ht.trans (if_pos hc)) times pw objid
  · -- the new item is not the head: the head is an old item, and the old head, being queued, is not an item of `X`
    refine h.of_head (ht.trans (if_neg hc)) (Nat.le_of_eq hn.symm) (fun h' hh' => ?_) (fun h0 hh0 => ?_) times pw objid
    · rcases (hmem h').1 (head_mem hh') with a | e
      · exact a.1
      · exact absurd (by rw [hh', e, ← hitnid]; rfl) hc
    · obtain ⟨hm0, hq0, _⟩ := head_spec hh0
      exact (hmem h0).2 (Or.inl ⟨hm0, fun e => absurd ((hnq h0 hm0 e).symm.trans hq0) Bool.false_ne_true⟩)

theorem QInv.retryAdd {P : Nat → Prop} {r : R} (h : QInv P r) (hp : PAdd P r) (o : RObj) (a b : Nat) (d : Bool)
    (hnq : ∀ it ∈ r.items, it.id = o.id → it.inQueue = false) :
    QInv P (r.retryAdd o a b d) :=
  h.add_core _ o.id rfl rfl (hp _) hnq rfl rfl rfl

/-- nothing that `r.failing ≠ [] → PAdd P r` reads has changed -/
def NCF (r r' : R) : Prop := r'.now = r.now ∧ r'.cfg = r.cfg ∧ r'.failing = r.failing

theorem NCF.now {r r' : R} (h : NCF r r') : r'.now = r.now := h.1
theorem NCF.cfg {r r' : R} (h : NCF r r') : r'.cfg = r.cfg := h.2.1
theorem NCF.failing {r r' : R} (h : NCF r r') : r'.failing = r.failing := h.2.2

theorem NCF.refl (r : R) : NCF r r := ⟨rfl, rfl, rfl⟩
theorem NCF.trans {a b c : R} (h1 : NCF a b) (h2 : NCF b c) : NCF a c :=
  ⟨h2.now.trans h1.now, h2.cfg.trans h1.cfg, h2.failing.trans h1.failing⟩
theorem FrameT.ncf {r r' : R} (h : FrameT r r') : NCF r r' := ⟨h.now, h.cfg, h.failing⟩

theorem QInv.landAll {P : Nat → Prop} {r : R} (h : QInv P r) (acts : List (Nat × Inject)) : QInv P (r.landAll acts) := by
  have hW := frameW_landAll acts r
  exact h.congr hW.items hW.timer hW.now

theorem ncf_landAll (r : R) (acts : List (Nat × Inject)) : NCF r (r.landAll acts) := by
  have hW := frameW_landAll acts r
  exact ⟨hW.now, hW.cfg, hW.failing⟩

theorem QInv.preUpdate {P : Nat → Prop} {r : R} (h : QInv P r) (obj : RObj) (rev : Nat) : QInv P (r.preUpdate obj rev) := by
  unfold R.preUpdate
  dsimp only
  split
  · exact h.congr rfl rfl rfl
  · apply QInv.retryClear; exact h.congr rfl rfl rfl

theorem ncf_preUpdate (r : R) (obj : RObj) (rev : Nat) : NCF r (r.preUpdate obj rev) := by
  have p := preUpdate_facts r obj rev
  exact ⟨p.now, p.cfg, p.failing⟩

/-- writes landing during an Update leave retry items and timer alone; a failed Delete re-adds the
    retry at once, so the old item of its object has to be out of the time queue (`hnq`) -/
theorem QInv.processSingle {P : Nat → Prop} {r : R} (h : QInv P r) (hp : r.failing ≠ [] → PAdd P r)
    (obj : RObj) (rev : Nat) (del : Bool) (hnq : del = true → ∀ it ∈ r.items, it.id = obj.id → it.inQueue = false) :
    QInv P (r.processSingle obj rev del) ∧ NCF r (r.processSingle obj rev del) ∧
    ∀ res ∈ (r.processSingle obj rev del).results, res ∈ r.results ∨ (res.2.2.2.2 = true → r.failing ≠ []) := by
  cases del with
  | false =>
    rw [processSingle_update_land]
    refine ⟨(h.preUpdate obj rev).landAll _, (ncf_preUpdate r obj rev).trans (ncf_landAll _ _), fun res hres => ?_⟩
    rw [(frameW_landAll _ _).results, (preUpdate_facts r obj rev).results] at hres
    rcases List.mem_append.1 hres with a | a
    · exact Or.inl a
    · simp only [List.mem_singleton] at a
      rw [a]
      exact Or.inr (fun hf => failing_ne_nil hf)
  | true =>
    rw [processSingle_delete]
    split
    · rename_i hf
      refine ⟨?_, ⟨rfl, rfl, rfl⟩, fun res hres => Or.inl hres⟩
      apply QInv.retryAdd
      · exact h.congr rfl rfl rfl
      · exact (hp (failing_ne_nil hf)).congr rfl rfl
      · exact hnq rfl
    · refine ⟨by apply QInv.retryClear; exact h.congr rfl rfl rfl, ⟨by simp, by simp, by simp⟩, fun res hres => ?_⟩
      rw [retryClear_results] at hres
      exact Or.inl hres

theorem QInv.writeStatus {P : Nat → Prop} {r : R} (h : QInv P r) (base orig : RObj) (rev : Nat) (failed : Bool)
    (hp : failed = true → PAdd P r) (hnq : failed = true → ∀ it ∈ r.items, it.id = orig.id → it.inQueue = false) :
    QInv P (r.writeStatus base orig rev failed) := by
  cases failed with
  | false => exact h.congr rfl rfl rfl
  | true =>
    rw [writeStatus_error]
    apply QInv.retryAdd
    · exact h.congr rfl rfl rfl
    · exact (hp rfl).congr rfl rfl
    · exact hnq rfl

theorem QInv.commitOne {P : Nat → Prop} {r : R} (h : QInv P r) (res : Res) {rs : List Res} (hI : InvL r (res :: rs))
    (hp : res.2.2.2.2 = true → PAdd P r) : QInv P (r.commitOne res) := by
  rcases hI.commitOne_cases with ⟨e, _⟩ | ⟨cur, hcur, hcid, hrev, e⟩ <;> rw [e]
  · exact h
  · -- the retry item of a failed result is out of the time queue until it is re-added here
    have hres := hI.resOK _ (List.mem_cons_self ..)
    exact h.writeStatus _ _ _ _ hp (fun _ it hit hid =>
      (((hres.current hcur hcid).elim (·.2.2) (fun a => absurd hrev a.1)) it hit (hid.trans hres.orig_id)).1)

theorem QInv.commitOneJ {P : Nat → Prop} {r : R} (h : QInv P r) (res : Res) {rs : List Res} (hI : JInv r (res :: rs))
    (hp : res.2.2.2.2 = true → PAdd P r) : QInv P (r.commitOne res) := by
  rcases hI.commitOne_cases with ⟨e, _⟩ | ⟨cur, base, hcur, hcid, hlive, hbase, e⟩ <;> rw [e]
  · exact h
  · exact h.writeStatus _ _ _ _ hp (fun _ it hit hid =>
      (((hI.resOK _ (List.mem_cons_self ..)).live hcur hcid hlive).2.2.2 it hit (hid.trans (hbase.1.trans hcid))).1)

theorem QInv.foldl_commitOne {I : R → List Res → Prop} {P : Nat → Prop}
    (hstep : ∀ {r res rs}, I r (res :: rs) → I (r.commitOne res) rs)
    (hone : ∀ {r res rs}, QInv P r → I r (res :: rs) → (res.2.2.2.2 = true → PAdd P r) → QInv P (r.commitOne res))
    (rs : List Res) {r : R} (h : QInv P r) (hI : I r rs) (hp : ∀ res ∈ rs, res.2.2.2.2 = true → PAdd P r) :
    QInv P (rs.foldl R.commitOne r) :=
  (foldl_commitOne_ind (P := fun x l => QInv P x ∧ I x l ∧ ∀ res ∈ l, res.2.2.2.2 = true → PAdd P x)
    (fun x res _ ⟨h, hI, hp⟩ => ⟨hone h hI (hp res (List.mem_cons_self ..)), hstep hI, fun res' hres hf =>
      have hrel := commitRel_commitOne x res
      (hp res' (List.mem_cons_of_mem _ hres) hf).congr hrel.now hrel.cfg⟩)
    rs [] ((List.append_nil rs).symm ▸ ⟨h, hI, hp⟩)).1

theorem QInv.commitStatus {P : Nat → Prop} {r : R} (h : QInv P r) (hI : InvL r r.results)
    (hp : ∀ res ∈ r.results, res.2.2.2.2 = true → PAdd P r) : QInv P r.commitStatus :=
  (QInv.foldl_commitOne InvL.commitOne (fun h hI => h.commitOne _ hI) r.results h hI hp).congr rfl rfl rfl

theorem QInv.commitStatusJ {P : Nat → Prop} {r : R} (h : QInv P r) (hI : JInv r r.results)
    (hp : ∀ res ∈ r.results, res.2.2.2.2 = true → PAdd P r) : QInv P r.commitStatus :=
  (QInv.foldl_commitOne JInv.commitOne (fun h hI => h.commitOneJ _ hI) r.results h hI hp).congr rfl rfl rfl

/-- `QInv` inside a round (writes may land).  A failed result waiting for the status commit witnesses
    `failing ≠ []`, and then `P` admits the retry time the commit will give it -/
structure QRJ (P : Nat → Prop) (r : R) : Prop where
  q : QInv P r
  hp : r.failing ≠ [] → PAdd P r
  hres : ∀ res ∈ r.results, res.2.2.2.2 = true → r.failing ≠ []

theorem QRJ.step {P : Nat → Prop} {r r' : R} (h : QRJ P r) (hq : QInv P r') (n : NCF r r')
    (hr : ∀ res ∈ r'.results, res ∈ r.results ∨ (res.2.2.2.2 = true → r.failing ≠ [])) : QRJ P r' := by
  refine ⟨hq, ?_, ?_⟩
  · rw [n.failing]; exact fun e => (h.hp e).congr n.now n.cfg
  · rw [n.failing]; exact fun res hres hfl => (hr res hres).elim (fun a => h.hres res a hfl) (fun a => a hfl)

theorem QRJ.congr {P : Nat → Prop} {r r' : R} (h : QRJ P r) (items : r'.items = r.items) (timer : r'.timer = r.timer)
    (failing : r'.failing = r.failing) (now : r'.now = r.now) (cfg : r'.cfg = r.cfg)
    (results : r'.results = r.results) : QRJ P r' :=
  h.step (h.q.congr items timer now) ⟨now, cfg, failing⟩ (fun _ hr => Or.inl (results ▸ hr))

theorem QRJ.processSingle {P : Nat → Prop} {r : R} (h : QRJ P r) (obj : RObj) (rev : Nat) (del : Bool)
    (hnq : del = true → ∀ it ∈ r.items, it.id = obj.id → it.inQueue = false) :
    QRJ P (r.processSingle obj rev del) ∧ NCF r (r.processSingle obj rev del) :=
  have ⟨hq, hn, hres⟩ := h.q.processSingle h.hp obj rev del hnq
  ⟨h.step hq hn hres, hn⟩

theorem QRJ.retryClear {P : Nat → Prop} {r : R} (h : QRJ P r) (id : Nat) : QRJ P (r.retryClear id) :=
  h.step (h.q.retryClear id) (frameT_retryClear r id).ncf (fun _ hr => Or.inl (retryClear_results r id ▸ hr))

theorem QRJ.retryPop {P : Nat → Prop} {r : R} (h : QRJ P r) : QRJ P r.retryPop :=
  h.step h.q.retryPop (frameT_retryPop r).ncf (fun _ hr => Or.inl (retryPop_results r ▸ hr))

theorem QRJ.setNum {P : Nat → Prop} {x : R} (h : QRJ P x) (n : Nat) : QRJ P { x with numReconciled := n } :=
  h.congr rfl rfl rfl rfl rfl rfl

theorem QRJ.process {P : Nat → Prop} {x : R} (h : QRJ P x) (obj : RObj) (rev : Nat) (del : Bool)
    (hnq : del = true → ∀ it ∈ x.items, it.id = obj.id → it.inQueue = false) :
    QRJ P { (x.processSingle obj rev del) with numReconciled := (x.processSingle obj rev del).numReconciled + 1 } ∧
    NCF x { (x.processSingle obj rev del) with numReconciled := (x.processSingle obj rev del).numReconciled + 1 } := by
  obtain ⟨a, n⟩ := h.processSingle obj rev del hnq
  generalize x.processSingle obj rev del = y at a n ⊢
  exact ⟨a.setNum _, n⟩

theorem QRJ.consume {P : Nat → Prop} (cs : List Change) {r : R} (last : Nat) (h : QRJ P r) :
    QRJ P (r.consume cs last).1 ∧ NCF r (r.consume cs last).1 := by
  -- the retry of the change's id is cleared before it is processed
  have hproc : ∀ (x : R) (c : Change) (d : Bool), QRJ P x → NCF r x →
      QRJ P { ((x.retryClear c.obj.id).processSingle c.obj c.rev d) with
        numReconciled := ((x.retryClear c.obj.id).processSingle c.obj c.rev d).numReconciled + 1 } ∧
      NCF r { ((x.retryClear c.obj.id).processSingle c.obj c.rev d) with
        numReconciled := ((x.retryClear c.obj.id).processSingle c.obj c.rev d).numReconciled + 1 } :=
    fun x c d hq hn =>
      let ⟨a, n⟩ := (hq.retryClear c.obj.id).process c.obj c.rev d
        (fun _ it hit hid => absurd hid (mem_filter_id_ne.1 (retryClear_items x c.obj.id ▸ hit)).2)
      ⟨a, hn.trans ((frameT_retryClear x c.obj.id).ncf.trans n)⟩
  exact consume_inv (P := fun x _ _ => QRJ P x ∧ NCF r x)
    (fun x c _ _ ⟨hq, hn⟩ _ _ => ⟨hq.congr rfl rfl rfl rfl rfl rfl, hn.trans ⟨rfl, rfl, rfl⟩⟩)
    (fun x c _ _ ⟨hq, hn⟩ _ => hproc { x with itDelRev := c.rev } c true (hq.congr rfl rfl rfl rfl rfl rfl) hn)
    (fun x c _ _ ⟨hq, hn⟩ _ _ => hproc { x with itRev := c.rev } c false (hq.congr rfl rfl rfl rfl rfl rfl) hn)
    cs r last ⟨h, NCF.refl r⟩

theorem QRJ.processRetries {P : Nat → Prop} (fuel : Nat) {r : R} (h : QRJ P r) :
    QRJ P (r.processRetries fuel) ∧ NCF r (r.processRetries fuel) := by
  exact processRetries_inv (P := fun x => QRJ P x ∧ NCF r x)
    (fun x it0 ⟨hq, hn⟩ _ hh _ =>
      -- the head is popped out of the time queue before it is processed
      let ⟨a, n⟩ := hq.retryPop.process it0.obj it0.rev it0.delete (fun _ it hit hid => by
        rw [retryPop_items x it0 hh] at hit
        obtain ⟨i, hi, rfl⟩ := List.mem_map.1 hit
        split
        · rfl
        · rename_i hne
          rw [if_neg hne] at hid
          exact absurd (hid.trans (hq.q.objid it0 (head_mem hh))) hne)
      ⟨a, hn.trans ((frameT_retryPop x).ncf.trans n)⟩)
    fuel r ⟨h, NCF.refl r⟩

theorem QRJ.commitStatus_of {P : Nat → Prop} {r : R} (h : QRJ P r) (hq : QInv P r.commitStatus) :
    QRJ P r.commitStatus ∧ NCF r r.commitStatus := by
  obtain ⟨r', hrel, he⟩ := commitStatus_rel r
  have n : NCF r r.commitStatus := by rw [he]; exact ⟨hrel.now, hrel.cfg, hrel.failing⟩
  exact ⟨h.step hq n (fun _ hr => nomatch (commitStatus_results r ▸ hr)), n⟩

theorem QRJ.commitStatus {P : Nat → Prop} {r : R} (h : QRJ P r) (hI : JInv r r.results) : QRJ P r.commitStatus ∧ NCF r r.commitStatus :=
  h.commitStatus_of (h.q.commitStatusJ hI (fun res hr hf => h.hp (h.hres res hr hf)))

def InjSub (r r' : R) : Prop := ∀ a ∈ r'.injects, a ∈ r.injects

theorem InjSub.refl (r : R) : InjSub r r := fun _ h => h
theorem InjSub.trans {a b c : R} (h1 : InjSub a b) (h2 : InjSub b c) : InjSub a c := fun x hx => h1 x (h2 x hx)
theorem InjSub.of_eq {r r' : R} (h : r'.injects = r.injects) : InjSub r r' := fun _ ha => h ▸ ha
theorem processSingle_injSub (r : R) (obj : RObj) (rev : Nat) (del : Bool) : InjSub r (r.processSingle obj rev del) := by
  cases del with
  | false =>
    rw [processSingle_update_land]
    intro a ha
    rw [(frameW_landAll _ _).injects, (preUpdate_facts r obj rev).injects] at ha
    exact (List.mem_filter.1 ha).1
  | true =>
    rw [processSingle_delete]
    split
    · exact InjSub.of_eq rfl
    · exact InjSub.of_eq (by simp)

theorem InjSub.nil {r r' : R} (h : InjSub r r') (hr : r.injects = []) : r'.injects = [] :=
  List.eq_nil_iff_forall_not_mem.2 (fun a ha => nomatch hr ▸ h a ha)

theorem consume_injSub (cs : List Change) (r : R) (last : Nat) : InjSub r (r.consume cs last).1 := by
  have hproc : ∀ (x x1 : R) (c : Change) (d : Bool), InjSub r x → x1.injects = x.injects →
      InjSub r { ((x1.retryClear c.obj.id).processSingle c.obj c.rev d) with
        numReconciled := ((x1.retryClear c.obj.id).processSingle c.obj c.rev d).numReconciled + 1 } :=
    fun x x1 c d hs e => hs.trans (((InjSub.of_eq e).trans (InjSub.of_eq (retryClear_injects ..))).trans
      (processSingle_injSub (x1.retryClear c.obj.id) c.obj c.rev d))
  exact consume_inv (P := fun x _ _ => InjSub r x)
    (fun x c _ _ hs _ _ => hs.trans (InjSub.of_eq rfl))
    (fun x c _ _ hs _ => hproc x { x with itDelRev := c.rev } c true hs rfl)
    (fun x c _ _ hs _ _ => hproc x { x with itRev := c.rev } c false hs rfl)
    cs r last (InjSub.refl r)

theorem processRetries_injSub (fuel : Nat) (r : R) : InjSub r (r.processRetries fuel) := by
  exact processRetries_inv (P := fun x => InjSub r x)
    (fun x it0 hs _ _ _ => hs.trans ((InjSub.of_eq (retryPop_injects x)).trans
      (processSingle_injSub x.retryPop it0.obj it0.rev it0.delete)))
    fuel r (InjSub.refl r)

def Inject.isTouch : Inject → Bool
  | .touch _ => true
  | _ => false

/-- no foreign status write (`touch`) is queued -/
def NoTouch (l : List (Nat × Inject)) : Prop := ∀ a ∈ l, a.2.isTouch = false

instance (l : List (Nat × Inject)) : Decidable (NoTouch l) := by unfold NoTouch; infer_instance

theorem noTouch_nil {l : List (Nat × Inject)} (h : l = []) : NoTouch l := by
  rw [h]; intro a ha; cases ha

theorem injSafe_of_noTouch (acts : List (Nat × Inject)) (r : R) (h : NoTouch acts) : InjSafe r acts := by
  induction acts generalizing r with
  | nil => trivial
  | cons a as ih =>
    refine ⟨fun id e => ?_, ih _ (fun b hb => h b (List.mem_cons_of_mem _ hb))⟩
    have := h a (List.mem_cons_self ..)
    rw [e] at this; cases this

theorem InjSub.noTouch {r r' : R} (h : InjSub r r') (hn : NoTouch r.injects) : NoTouch r'.injects := fun a ha => hn a (h a ha)

theorem updSafe_of_noTouch (r : R) (obj : RObj) (h : NoTouch r.injects) : r.updSafe obj :=
  injSafe_of_noTouch _ _ (fun a ha => h a (List.mem_filter.1 ha).1)

theorem consume_safe_of_noTouch (cs : List Change) (r : R) (h : NoTouch r.injects) : r.consumeSafe cs := by
  induction cs generalizing r with
  | nil => trivial
  | cons c cs ih =>
    unfold R.consumeSafe
    simp only
    have h1 : NoTouch (if c.deleted = true then ({ r with itDelRev := c.rev } : R) else { r with itRev := c.rev }).injects := by
      cases c.deleted <;> exact h
    generalize (if c.deleted = true then ({ r with itDelRev := c.rev } : R) else { r with itRev := c.rev }) = r1 at h1 ⊢
    split
    · exact ih r1 h1
    · have h2 : NoTouch (r1.retryClear c.obj.id).injects := by rw [retryClear_injects]; exact h1
      refine ⟨fun _ => updSafe_of_noTouch _ _ h2, ?_⟩
      split
      · trivial
      · exact ih _ ((processSingle_injSub _ c.obj c.rev c.deleted).noTouch h2)

theorem retries_safe_of_noTouch (fuel : Nat) (r : R) (h : NoTouch r.injects) : r.retriesSafe fuel := by
  induction fuel generalizing r with
  | zero => trivial
  | succ n ih =>
    rw [retriesSafe_succ]
    split
    · trivial
    · split
      · trivial
      · rename_i it0 hh
        split
        · trivial
        · have h2 : NoTouch r.retryPop.injects := by rw [retryPop_injects]; exact h
          exact ⟨fun _ => updSafe_of_noTouch _ _ h2,
            ih _ ((processSingle_injSub r.retryPop it0.obj it0.rev it0.delete).noTouch h2)⟩

/-- `QInv` inside a round in which nothing is queued to land -/
structure QR (P : Nat → Prop) (r : R) : Prop where
  q : QInv P r
  noinj : r.injects = []
  hp : r.failing ≠ [] → PAdd P r
  hres : ∀ res ∈ r.results, res.2.2.2.2 = true → r.failing ≠ []

theorem QR.toJ {P : Nat → Prop} {r : R} (h : QR P r) : QRJ P r := ⟨h.q, h.hp, h.hres⟩

theorem QRJ.toQR {P : Nat → Prop} {r : R} (h : QRJ P r) (hinj : r.injects = []) : QR P r := ⟨h.q, hinj, h.hp, h.hres⟩

theorem QR.processRetries {P : Nat → Prop} (fuel : Nat) {r : R} (h : QR P r) :
    QR P (r.processRetries fuel) ∧ NCF r (r.processRetries fuel) :=
  ⟨(h.toJ.processRetries fuel).1.toQR ((processRetries_injSub fuel r).nil h.noinj), (h.toJ.processRetries fuel).2⟩

theorem QR.commitStatus {P : Nat → Prop} {r : R} (h : QR P r) (hI : InvL r r.results) : QR P r.commitStatus ∧ NCF r r.commitStatus :=
  have ⟨a, n⟩ := h.toJ.commitStatus_of (h.q.commitStatus hI (fun res hr hf => h.hp (h.hres res hr hf)))
  ⟨a.toQR ((commitStatus_injects r).trans h.noinj), n⟩

theorem roundTail_q {P : Nat → Prop} {r3 : R} (last : Nat) (hI3 : InvL r3 r3.results)
    (hcu3 : r3.numReconciled < r3.cfg.roundSize → CaughtUp r3) (h3 : QRJ P r3) :
    QInv P (roundTail r3 last) ∧ NCF r3 (roundTail r3 last) := by
  obtain ⟨_, _, _, _, hq, hn⟩ := roundTail_steps (P := fun x => QRJ P x ∧ NCF r3 x)
    (fun x hI ⟨hq, hn⟩ =>
      have ⟨a, n⟩ := hq.commitStatus_of (hq.q.commitStatus hI (fun res hr hf => hq.hp (hq.hres res hr hf)))
      ⟨a, hn.trans n⟩)
    (fun x fuel _ _ ⟨hq, hn⟩ => ⟨(hq.processRetries fuel).1, hn.trans (hq.processRetries fuel).2⟩)
    (fun x n p l ⟨hq, hn⟩ => ⟨hq.congr rfl rfl rfl rfl rfl rfl, hn.trans ⟨rfl, rfl, rfl⟩⟩)
    last hI3 hcu3 ⟨h3, NCF.refl r3⟩
  exact ⟨hq.q, hn⟩

theorem roundTail_qJ {P : Nat → Prop} {r3 : R} (last : Nat) (hI3 : JInv r3 r3.results) (hs : r3.tailSafe) (h3 : QRJ P r3) :
    QInv P (roundTail r3 last) ∧ NCF r3 (roundTail r3 last) := by
  obtain ⟨_, hq, hn⟩ := roundTail_ind (Q := fun x => JInv x x.results ∧ QRJ P x ∧ NCF r3 x) last ⟨hI3, h3, NCF.refl r3⟩
    (fun x ⟨hI, hq, hn⟩ => ⟨hI.commitStatus, (hq.commitStatus hI).1, hn.trans (hq.commitStatus hI).2⟩)
    (fun ⟨hI, hq, hn⟩ => ⟨(hI.processRetries _ hs).1, (hq.processRetries _).1, hn.trans (hq.processRetries _).2⟩)
    (fun x n p l ⟨hI, hq, hn⟩ => ⟨hI.congr rfl rfl rfl rfl rfl rfl rfl rfl rfl, hq.congr rfl rfl rfl rfl rfl rfl,
      hn.trans ⟨rfl, rfl, rfl⟩⟩)
  exact ⟨hq.q, hn⟩

theorem QRJ.next {P : Nat → Prop} {r : R} (h : QRJ P r) : QRJ P r.nextChanges.1 ∧ NCF r r.nextChanges.1 := by
  rcases nextChanges_fst r with e | e <;> rw [e]
  · exact ⟨h, NCF.refl r⟩
  · exact ⟨h.congr rfl rfl rfl rfl rfl rfl, rfl, rfl, rfl⟩

theorem QInv.single_mid {P : Nat → Prop} {r : R} (h : QInv P r) (hres : r.results = []) (hp : r.failing ≠ [] → PAdd P r) :
    QRJ P (round3 r) ∧ NCF r (round3 r) := by
  have h1 := QRJ.next ⟨h, hp, hres ▸ fun _ hr => nomatch hr⟩
  obtain ⟨a, n⟩ := h1.1.consume r.nextChanges.2 0
  obtain ⟨p, e⟩ := round3_eq r
  rw [e]
  exact ⟨a.congr rfl rfl rfl rfl rfl rfl, h1.2.trans (n.trans ⟨rfl, rfl, rfl⟩)⟩

theorem QInv.round {P : Nat → Prop} {r : R} (h : QInv P r) (hr : RInv r)
    (hp : r.failing ≠ [] → PAdd P r) : QInv P r.round ∧ NCF r r.round := by
  obtain ⟨h3, n3⟩ := h.single_mid hr.res hp
  rw [round_eq3]
  obtain ⟨hq, n4⟩ := roundTail_q _ hr.single_mid.inv hr.single_mid.cu h3
  exact ⟨hq, n3.trans n4⟩

theorem QInv.roundJ {P : Nat → Prop} {r : R} (h : QInv P r) (hr : JRInv r) (hs : r.roundSafe)
    (hp : r.failing ≠ [] → PAdd P r) : QInv P r.round ∧ NCF r r.round := by
  obtain ⟨h3, n3⟩ := h.single_mid hr.res hp
  rw [round_eq3]
  obtain ⟨hq, n4⟩ := roundTail_qJ _ (hr.single_mid hs).1 hs.2 h3
  exact ⟨hq, n3.trans n4⟩

theorem QInv.mono {P Q : Nat → Prop} {r : R} (h : QInv P r) (hPQ : ∀ t, P t → Q t) : QInv Q r :=
  ⟨h.tmSome, h.tmNone, fun it hit => hPQ _ (h.times it hit), h.pw, h.objid⟩

theorem QInv.setNow {P : Nat → Prop} {r : R} (h : QInv P r) (t : Nat) (ht : r.now ≤ t) : QInv P { r with now := t } :=
  h.of_head rfl ht (fun _ hh => head_mem hh) (fun _ hh => head_mem hh) h.times h.pw h.objid

theorem QInv.fireTimer {P : Nat → Prop} {r : R} (h : QInv P r) : QInv P r.fireTimer := by
  unfold R.fireTimer
  split
  · rename_i t ht
    split
    · rename_i hle
      refine ⟨fun h0 hh0 => ?_, fun hh0 => ?_, h.times, h.pw, h.objid⟩
      · rcases h.tmSome h0 hh0 with a | a
        · rw [ht] at a; cases a
          exact Or.inr ⟨rfl, hle⟩
        · rw [ht] at a; cases a.1
      · rcases h.tmNone hh0 with a | a <;> rw [ht] at a <;> cases a
    · exact h
  · exact h

theorem frameT_fireTimer (r : R) : FrameT r r.fireTimer := by
  unfold R.fireTimer
  split
  · split
    · constructor <;> rfl
    · exact FrameT.refl r
  · exact FrameT.refl r

theorem QInv.triggered_iff {P : Nat → Prop} {r : R} (h : QInv P r) :
    r.triggered = true ↔ (r.pending.isSome = true ∨ r.refreshedAt ≠ r.tableRev ∨ ∃ h0, r.head = some h0 ∧ h0.retryAt ≤ r.now) := by
  unfold R.triggered
  simp only [Bool.or_eq_true, bne_iff_ne, ne_eq, or_assoc]
  refine or_congr Iff.rfl (or_congr Iff.rfl ?_)
  cases hh : r.head with
  | none =>
    rcases h.tmNone hh with e | e <;> rw [e] <;> simp
  | some h0 =>
    rcases h.tmSome h0 hh with e | ⟨e, hdue⟩
    · rw [e]; simp
    · rw [e]; simp [hdue]

theorem QInv.bound_congr {r r' : R} (h : QInv (fun t => t ≤ r.now + r.cfg.maxB) r) (h1 : r'.items = r.items)
    (h2 : r'.timer = r.timer) (h3 : r'.now = r.now) (h4 : r'.cfg = r.cfg) : QInv (fun t => t ≤ r'.now + r'.cfg.maxB) r' := by
  rw [h3, h4]; exact h.congr h1 h2 h3

theorem QInv.bound_fireTimer {r : R} (h : QInv (fun t => t ≤ r.now + r.cfg.maxB) r) :
    QInv (fun t => t ≤ r.fireTimer.now + r.fireTimer.cfg.maxB) r.fireTimer := by
  rw [(frameT_fireTimer r).now, (frameT_fireTimer r).cfg]; exact h.fireTimer

theorem QInv.bound_setNow {r : R} (h : QInv (fun u => u ≤ r.now + r.cfg.maxB) r) (t : Nat) (ht : r.now ≤ t) :
    QInv (fun u => u ≤ t + r.cfg.maxB) { r with now := t } :=
  (h.mono (fun _ hu => Nat.le_trans hu (Nat.add_le_add_right ht _))).setNow t ht

/-- the invariant of all reachable between-round states: bookkeeping, timer, and every retry is due within the maximal backoff -/
structure WInv (r : R) : Prop where
  rinv : RInv r
  q : QInv (fun t => t ≤ r.now + r.cfg.maxB) r

theorem QInv.init (P : Nat → Prop) (c : Cfg) : QInv P { cfg := c } :=
  ⟨fun _ hh => (nomatch hh), fun _ => Or.inl rfl, fun _ hit => (nomatch hit), List.Pairwise.nil, fun _ hit => (nomatch hit)⟩

theorem WInv.init (c : Cfg) : WInv { cfg := c } := ⟨RInv.init c, QInv.init _ c⟩

theorem WInv.fireTimer {r : R} (h : WInv r) : WInv r.fireTimer := ⟨h.rinv.fireTimer, h.q.bound_fireTimer⟩

theorem WInv.round {r : R} (h : WInv r) : WInv r.round := by
  obtain ⟨hq, n⟩ := h.q.round h.rinv (fun _ => pAdd_bound r)
  refine ⟨h.rinv.round, ?_⟩
  rw [n.now, n.cfg]; exact hq

theorem WInv.quiesceW {round : R → R} (hround : ∀ r, WInv r → WInv (round r)) {r : R} (h : WInv r) (fuel : Nat) :
    WInv (quiesceW round r fuel) :=
  quiesceW_ind (fun _ h => h.fireTimer) (fun r h _ => hround r h) r fuel h

theorem WInv.quiesce {r : R} (h : WInv r) (fuel : Nat) : WInv (r.quiesce fuel) :=
  quiesce_eq r fuel ▸ h.quiesceW (fun _ h => h.round) fuel

theorem WInv.setNow {r : R} (h : WInv r) (t : Nat) (ht : r.now ≤ t) : WInv { r with now := t } :=
  ⟨h.rinv.setNow t, h.q.bound_setNow t ht⟩

theorem WInv.setFailing {r : R} (h : WInv r) (l : List Nat) : WInv { r with failing := l } :=
  ⟨h.rinv.setFailing l, h.q.congr rfl rfl rfl⟩

theorem WInv.advanceW {round : R → R} (hround : ∀ r, WInv r → WInv (round r)) {r : R} (h : WInv r) (ms fuel : Nat) :
    WInv (advanceW round r ms fuel) :=
  advanceW_ind (fun _ t h ht => h.setNow t ht) (fun _ h => h.quiesceW hround 64) r ms fuel h

theorem WInv.advance {r : R} (h : WInv r) (ms fuel : Nat) : WInv (r.advance ms fuel) :=
  advance_eq r ms fuel ▸ h.advanceW (fun _ h => h.round) ms fuel

theorem WInv.round_frame {r : R} (h : WInv r) : NCF r r.round :=
  (h.q.round h.rinv (fun _ => pAdd_bound r)).2

theorem WInv.quiesce_frame {r : R} (h : WInv r) (fuel : Nat) : NCF r (r.quiesce fuel) :=
  (quiesce_ind (P := fun x => WInv x ∧ NCF r x)
    (fun x h => ⟨h.1.fireTimer, h.2.trans (frameT_fireTimer x).ncf⟩)
    (fun _ h => ⟨h.1.round, h.2.trans h.1.round_frame⟩) ⟨h, NCF.refl r⟩ fuel).2

theorem WInv.advance_frame {r : R} (h : WInv r) (ms fuel : Nat) :
    (r.advance ms fuel).now = r.now + ms ∧ (r.advance ms fuel).cfg = r.cfg := by
  obtain ⟨⟨_, c⟩, n⟩ := advanceW_now (P := fun x => WInv x ∧ x.cfg = r.cfg) (round := R.round)
    (fun _ t h ht => ⟨h.1.setNow t ht, h.2⟩)
    (fun x h => quiesce_eq x 64 ▸ ⟨⟨h.1.quiesce 64, (h.1.quiesce_frame 64).cfg.trans h.2⟩, (h.1.quiesce_frame 64).now⟩)
    r ms fuel ⟨h, rfl⟩
  exact advance_eq r ms fuel ▸ ⟨n, c⟩

theorem WInv.userPut {r : R} (h : WInv r) (id data : Nat) : WInv (r.userPut id data) :=
  ⟨h.rinv.userPut id data, h.q.congr rfl rfl rfl⟩

theorem WInv.delObj {r : R} (h : WInv r) (id : Nat) : WInv (r.delObj id) :=
  have f := frameW_delObj r id
  ⟨h.rinv.delObj id, h.q.bound_congr f.items f.timer f.now f.cfg⟩

theorem WInv.touch {r : R} (h : WInv r) (id : Nat) (hne : ∀ o, r.get id = some o → o.kind ≠ .error) : WInv (r.touch id) :=
  have f := frameW_touch r id
  ⟨h.rinv.touch id hne, h.q.bound_congr f.items f.timer f.now f.cfg⟩

structure Idle (r : R) : Prop where
  pending : r.pending = none
  refreshed : r.refreshedAt = r.tableRev
  notFired : r.timer ≠ .fired
  armedLater : ∀ t, r.timer = .armed t → r.now < t

theorem not_triggered {r : R} (h : r.triggered = false) : Idle r := by
  unfold R.triggered at h
  simp only [Bool.or_eq_false_iff, bne_eq_false_iff_eq] at h
  obtain ⟨⟨h1, h2⟩, h3⟩ := h
  refine ⟨by cases hp : r.pending <;> simp_all, h2, ?_, ?_⟩
  · intro e; rw [e] at h3; simp at h3
  · intro t e; rw [e] at h3; simp at h3; omega

/-- an idle loop has passed everything in the table; `TInv` and `Sync` are shared by `RInv` and `JRInv` -/
theorem Idle.caughtUp {r : R} (hi : Idle r) (ht : TInv r) (hs : Sync r) :
    (∀ o ∈ r.objs, o.rev ≤ r.itRev) ∧ (∀ d ∈ r.dels, d.2 ≤ r.itDelRev) := by
  have href := hi.refreshed
  refine ⟨fun o ho => ?_, fun d hd => ?_⟩
  · rcases hs.objs hi.pending ho with a | a
    · exact a
    · have := ht.objs_le o ho; omega
  · rcases hs.dels hi.pending hd with a | a
    · exact a
    · have := ht.dels_le d hd; omega

theorem RInv.idle_caughtUp {r : R} (h : RInv r) (hidle : r.triggered = false) :
    (∀ o ∈ r.objs, o.rev ≤ r.itRev) ∧ (∀ d ∈ r.dels, d.2 ≤ r.itDelRev) :=
  (not_triggered hidle).caughtUp h.inv.tinv h.sync

theorem RInv.items_queued {r : R} (h : RInv r) : ∀ it ∈ r.items, it.inQueue = true := h.inv.queued

/-- between rounds (no result waiting) every object and every retained deletion is accounted for.
    Only the clauses `ObjOK` and `DelOK`, which `InvL` and `JInv` share, are used; `P` is whatever
    is known of every retry item -/
theorem accounted {r : R} {P : Item → Prop} (hO : ∀ o ∈ r.objs, ObjOK r.log r.items r.itRev [] o)
    (hD : ∀ d ∈ r.dels, DelOK r.log r.items r.itDelRev d) (hP : ∀ it ∈ r.items, P it) :
    (∀ o ∈ r.objs,
      (o.kind = .done ∧ lastCall r.log o.id = some ⟨"U", o.id, o.data, true⟩) ∨
      ((o.kind = .pending ∨ o.kind = .refreshing) ∧ o.rev > r.itRev) ∨
      (o.kind = .error ∧ ∃ it ∈ r.items, it.id = o.id ∧ it.delete = false ∧ it.rev = o.rev ∧ it.inQueue = true ∧ P it)) ∧
    (∀ d ∈ r.dels,
      d.2 > r.itDelRev ∨
      (∃ it ∈ r.items, it.id = d.1.id ∧ it.delete = true ∧ it.inQueue = true ∧ P it) ∨
      (∃ c, lastCall r.log d.1.id = some c ∧ c.op = "D" ∧ c.ok = true)) := by
  have nores : ∀ {o : RObj}, ¬ HasRes [] o := fun ⟨_, hr, _⟩ => nomatch hr
  refine ⟨fun o ho => ?_, fun d hd => ?_⟩
  · obtain ⟨a, b, c⟩ := hO o ho
    cases hk : o.kind with
    | done => exact Or.inl ⟨rfl, (a hk).1⟩
    | error =>
      obtain ⟨it, hit, b1, b2, b3, b4⟩ := (b hk).resolve_right nores
      exact Or.inr (Or.inr ⟨rfl, it, hit, b1, b2, b3, b4, hP it hit⟩)
    | pending => exact Or.inr (Or.inl ⟨Or.inl rfl, (c (Or.inl hk)).resolve_right nores⟩)
    | refreshing => exact Or.inr (Or.inl ⟨Or.inr rfl, (c (Or.inr hk)).resolve_right nores⟩)
  · exact (hD d hd).imp_right (Or.imp (fun ⟨it, hit, b⟩ => ⟨it, hit, b.1, b.2.1, b.2.2, hP it hit⟩) (·.1))

/-- … and in an idle state nothing is left to be delivered -/
theorem idle_accounted {r : R} (ht : TInv r) (hs : Sync r) (hO : ∀ o ∈ r.objs, ObjOK r.log r.items r.itRev [] o)
    (hD : ∀ d ∈ r.dels, DelOK r.log r.items r.itDelRev d) (hidle : r.triggered = false) :
    (∀ o ∈ r.objs,
      (o.kind = .done ∧ lastCall r.log o.id = some ⟨"U", o.id, o.data, true⟩) ∨
      (o.kind = .error ∧ ∃ it ∈ r.items, it.id = o.id ∧ it.delete = false ∧ it.rev = o.rev ∧ it.inQueue = true)) ∧
    (∀ d ∈ r.dels,
      (∃ c, lastCall r.log d.1.id = some c ∧ c.op = "D" ∧ c.ok = true) ∨
      (∃ it ∈ r.items, it.id = d.1.id ∧ it.delete = true ∧ it.inQueue = true)) := by
  obtain ⟨c1, c2⟩ := (not_triggered hidle).caughtUp ht hs
  obtain ⟨n1, n2⟩ := accounted (P := fun _ => True) hO hD (fun _ _ => trivial)
  refine ⟨fun o ho => ?_, fun d hd => ?_⟩
  · rcases n1 o ho with a | ⟨_, a⟩ | ⟨a, it, hit, b1, b2, b3, b4, _⟩
    · exact Or.inl a
    · have := c1 o ho; omega
    · exact Or.inr ⟨a, it, hit, b1, b2, b3, b4⟩
  · rcases n2 d hd with a | ⟨it, hit, b1, b2, b3, _⟩ | a
    · have := c2 d hd; omega
    · exact Or.inr ⟨it, hit, b1, b2, b3⟩
    · exact Or.inl a

theorem idle_no_items {r : R} {B : Nat} (h : RInv r) (hq : QInv (fun t => t ≤ B) r) (hB : B < r.now)
    (hidle : r.triggered = false) : r.items = [] := by
  have hnt := not_triggered hidle
  cases hi : r.items with
  | nil => rfl
  | cons it rest =>
    have hit : it ∈ r.items := by rw [hi]; exact List.mem_cons_self ..
    have hle : it.retryAt ≤ B := hq.times it hit
    -- the timer would have fired, or is armed for a time that has passed: the loop would be triggered
    rcases hq.timerBy it hit (h.items_queued it hit) with a | ⟨u, a, b⟩
    · exact absurd a hnt.notFired
    · have := hnt.armedLater u a
      omega

/-- everything is delivered and no retry is left; C14's convergence theorems spell this out -/
def Converged (r : R) : Prop :=
  (∀ o ∈ r.objs, o.kind = .done ∧ lastCall r.log o.id = some ⟨"U", o.id, o.data, true⟩) ∧
  (∀ d ∈ r.dels, ∃ c, lastCall r.log d.1.id = some c ∧ c.op = "D" ∧ c.ok = true) ∧
  r.items = [] ∧ r.lowWatermark = 0

theorem Converged.done {r : R} (h : Converged r) :
    ∀ o ∈ r.objs, o.kind = .done ∧ lastCall r.log o.id = some ⟨"U", o.id, o.data, true⟩ := h.1
theorem Converged.deleted {r : R} (h : Converged r) :
    ∀ d ∈ r.dels, ∃ c, lastCall r.log d.1.id = some c ∧ c.op = "D" ∧ c.ok = true := h.2.1
theorem Converged.items {r : R} (h : Converged r) : r.items = [] := h.2.2.1
theorem Converged.lowWatermark {r : R} (h : Converged r) : r.lowWatermark = 0 := h.2.2.2

theorem idle_converged {r : R} {B : Nat} (h : RInv r) (hq : QInv (fun t => t ≤ B) r) (hB : B < r.now)
    (hidle : r.triggered = false) : Converged r := by
  have hitems := idle_no_items h hq hB hidle
  obtain ⟨a, b⟩ := idle_accounted h.inv.tinv h.sync h.inv.objOK h.inv.delOK hidle
  refine ⟨fun o ho => ?_, fun d hd => ?_, hitems, ?_⟩
  · rcases a o ho with a | ⟨_, it, hit, _⟩
    · exact a
    · rw [hitems] at hit; cases hit
  · rcases b d hd with b | ⟨it, hit, _⟩
    · exact b
    · rw [hitems] at hit; cases hit
  · rw [lowWatermark_eq, hitems]; rfl

/-- the invariant once failures have stopped: no retry is due later than `B` -/
structure SInv (B : Nat) (r : R) : Prop where
  rinv : RInv r
  q : QInv (fun t => t ≤ B) r
  nofail : r.failing = []

theorem WInv.toSInv {r : R} (h : WInv r) (hf : r.failing = []) : SInv (r.now + r.cfg.maxB) r := ⟨h.rinv, h.q, hf⟩

theorem SInv.fireTimer {B : Nat} {r : R} (h : SInv B r) : SInv B r.fireTimer ∧ r.fireTimer.now = r.now := by
  have f := frameT_fireTimer r
  exact ⟨⟨h.rinv.fireTimer, h.q.fireTimer, f.failing.trans h.nofail⟩, f.now⟩

theorem SInv.round {B : Nat} {r : R} (h : SInv B r) : SInv B r.round ∧ r.round.now = r.now := by
  obtain ⟨hq, n⟩ := h.q.round h.rinv (fun e => absurd h.nofail e)
  exact ⟨⟨h.rinv.round, hq, n.failing.trans h.nofail⟩, n.now⟩

theorem SInv.setNow {B : Nat} {r : R} (h : SInv B r) (t : Nat) (ht : r.now ≤ t) : SInv B { r with now := t } :=
  ⟨h.rinv.setNow t, h.q.setNow t ht, h.nofail⟩

theorem SInv.quiesceW {B : Nat} {round : R → R} (hround : ∀ r, SInv B r → SInv B (round r) ∧ (round r).now = r.now)
    {r : R} (h : SInv B r) (fuel : Nat) : SInv B (quiesceW round r fuel) ∧ (quiesceW round r fuel).now = r.now :=
  quiesceW_ind (P := fun x => SInv B x ∧ x.now = r.now) (fun _ h => ⟨h.1.fireTimer.1, h.1.fireTimer.2.trans h.2⟩)
    (fun x h _ => ⟨(hround x h.1).1, (hround x h.1).2.trans h.2⟩) r fuel ⟨h, rfl⟩

theorem SInv.advanceW {B : Nat} {round : R → R} (hround : ∀ r, SInv B r → SInv B (round r) ∧ (round r).now = r.now)
    {r : R} (h : SInv B r) (ms fuel : Nat) : SInv B (advanceW round r ms fuel) ∧ (advanceW round r ms fuel).now = r.now + ms :=
  advanceW_now (fun _ t h ht => h.setNow t ht) (fun _ h => h.quiesceW hround 64) r ms fuel h

theorem SInv.quiesce {B : Nat} {r : R} (h : SInv B r) (fuel : Nat) : SInv B (r.quiesce fuel) ∧ (r.quiesce fuel).now = r.now :=
  quiesce_eq r fuel ▸ h.quiesceW (fun _ h => h.round) fuel

theorem SInv.advance {B : Nat} {r : R} (h : SInv B r) (ms fuel : Nat) :
    SInv B (r.advance ms fuel) ∧ (r.advance ms fuel).now = r.now + ms :=
  advance_eq r ms fuel ▸ h.advanceW (fun _ h => h.round) ms fuel

end Sdb.Rec
