import SdbModel.Lemmas.OMap

/-! The ordered-map laws of Lemmas/OMap in the shape the change-iterator development (C07 / C08, namespace
    `Sdb.Chg`) uses them: sortedness hypothesis first, the map implicit. -/
namespace Sdb.Chg
open Sdb.Tbl

namespace OMap
variable {α : Type}

/-- `Tbl.OMap.Sorted`, under the name the statements of C07 / C08 use (equal by unfolding; `simp` does not see it) -/
def Sorted (m : OMap α) : Prop := m.Pairwise (fun a b => cmpL a.1 b.1 = .lt)

theorem Sorted.nil : Sorted ([] : OMap α) := List.Pairwise.nil

theorem Sorted.filter (p : Key × α → Bool) {m : OMap α} (h : Sorted m) : Sorted (m.filter p) :=
  List.Pairwise.filter p h

theorem Sorted.unique {m : OMap α} (h : Sorted m) {k : Key} {v v' : α}
    (h1 : (k, v) ∈ m) (h2 : (k, v') ∈ m) : v = v' :=
  Tbl.OMap.sorted_unique m h k v v' h1 h2

theorem get_eq_some_iff {m : OMap α} (h : Sorted m) (k : Key) (v : α) :
    OMap.get m k = some v ↔ (k, v) ∈ m := (Tbl.OMap.mem_iff_get m h k v).symm

theorem get_eq_none_iff {m : OMap α} (h : Sorted m) (k : Key) :
    OMap.get m k = none ↔ ∀ v, (k, v) ∉ m := Tbl.OMap.get_none_iff m h k

theorem mem_insert {m : OMap α} (h : Sorted m) (k : Key) (v : α) (k' : Key) (v' : α) :
    (k', v') ∈ OMap.insert m k v ↔ (k' = k ∧ v' = v) ∨ (k' ≠ k ∧ (k', v') ∈ m) :=
  Tbl.OMap.mem_insert_iff m h k v k' v'

theorem sorted_insert {m : OMap α} (h : Sorted m) (k : Key) (v : α) : Sorted (OMap.insert m k v) :=
  Tbl.OMap.sorted_insert m h k v

theorem sorted_erase {m : OMap α} (h : Sorted m) (k : Key) : Sorted (OMap.erase m k) :=
  Tbl.OMap.sorted_erase m h k

theorem mem_erase {m : OMap α} (h : Sorted m) (k : Key) (k' : Key) (v' : α) :
    (k', v') ∈ OMap.erase m k ↔ k' ≠ k ∧ (k', v') ∈ m := Tbl.OMap.mem_erase_iff m h k k' v'

theorem get_insert_self {m : OMap α} (h : Sorted m) (k : Key) (v : α) : OMap.get (OMap.insert m k v) k = some v :=
  Tbl.OMap.get_insert_self m k v

theorem get_erase_self {m : OMap α} (h : Sorted m) (k : Key) : OMap.get (OMap.erase m k) k = none :=
  Tbl.OMap.get_erase_self m h k

theorem get_insert_ne {m : OMap α} (h : Sorted m) (k : Key) (v : α) (k' : Key) (hne : k' ≠ k) :
    OMap.get (OMap.insert m k v) k' = OMap.get m k' := Tbl.OMap.get_insert_other m k k' v hne

theorem get_erase_ne {m : OMap α} (h : Sorted m) (k : Key) (k' : Key) (hne : k' ≠ k) :
    OMap.get (OMap.erase m k) k' = OMap.get m k' := Tbl.OMap.get_erase_other m h k k' hne

theorem mem_lowerBound (m : OMap α) (k : Key) (e : Key × α) :
    e ∈ OMap.lowerBound m k ↔ e ∈ m ∧ cmpL e.1 k ≠ .lt := Tbl.OMap.mem_lowerBound m k e.1 e.2

theorem sorted_lowerBound {m : OMap α} (h : Sorted m) (k : Key) : Sorted (OMap.lowerBound m k) :=
  h.filter _

end OMap

end Sdb.Chg
