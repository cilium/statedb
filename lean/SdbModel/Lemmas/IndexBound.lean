import SdbModel.Lemmas.Index
import SdbModel.Lemmas.ListBasics
/-!
  C04: the two bounds on the escaped primary key are needed.  The uint16 length field of the composite
  keys: `nonUniqueKey.primaryLen` reads back `|enc id| mod 2^16`, so for an object whose escaped primary key
  is 2^16 bytes or longer the secondary length computed by `secondaryLen` is off by a multiple of 2^16 and
  `List` / `Get` through the non-unique index skip the object (`long_primary_missing`).  K2: from 256 escaped
  bytes on, `List` need not be in primary-key order (`tags_list_order_witness`).
-/
namespace Sdb.Tbl
open OMap

theorem enc_replicate_two (n : Nat) : P.enc (List.replicate n 2) = List.replicate n 2 := by
  induction n with
  | zero => rfl
  | succ n ih =>
    rw [List.replicate_succ, EncParams.enc, ih]
    rfl

theorem long_primary_missing (o : Obj) (tag : Key) (ht : o.tags = [tag]) (hlen : (P.enc o.id).length = 65536)
    (hb : ∀ b ∈ o.id, b < 256) (hpf : ∀ k ∈ o.pfxs, LKeyOk k) :
    ∃ (t : TableS) (x : Obj), IdxInv 65537 t ∧ x ∈ qAll t ∧ tag ∈ x.tags ∧ x ∉ qList t .tags tag 0 := by
  let t0 : TableS := { locked := true, full := false }
  have hok : ObjOk 65537 o := ⟨hb, by rw [hlen]; omega, hpf⟩
  have inv0 : IdxInv 65537 t0 := IdxInv.empty _ _ rfl rfl rfl rfl rfl
  have hg : GuardOk 0 (t0.primary.get o.id) := Or.inl rfl
  obtain ⟨t', h, hm, inv'⟩ := inv0.modify_ok 0 o false hok (fun hf => nomatch hf) rfl hg
  have hi := modify_ok_idx t0 0 o false rfl hg
  rw [h] at hi
  have hnone : t0.primary.get o.id = none := rfl
  have hprim : t'.primary = [(o.id, newObj t0 o false)] := by rw [hm.primary]; rfl
  have htag : t'.tagIdx = [(P.composite o.id tag, newObj t0 o false)] := by
    rw [hi.tagIdx, hnone]
    simp only [reindexNonUnique, newObj_tags, ht, List.foldl_cons, List.foldl_nil]
    rfl
  refine ⟨t', newObj t0 o false, inv', ?_, ?_, ?_⟩
  · simp [qAll, hprim]
  · rw [newObj_tags, ht]; exact List.mem_cons_self ..
  · have hsec : nukSecLen (P.composite o.id tag) ≠ ((P.enc tag).length : Int) := by
      have hl : (P.composite o.id tag).length = (P.enc tag).length + 65539 := by
        rw [comp_eq, List.length_append, List.length_cons, List.length_append, be_length, hlen]
      unfold nukSecLen nukSecondaryLen
      rw [composite_primaryLen P P_wf, hlen, hl, Nat.mod_self]
      omega
    -- the only entry of the index fails the exact-length test of `List`
    intro hx
    simp only [qList, htag, prefixQ] at hx
    obtain ⟨e, he, _⟩ := List.mem_map.mp hx
    obtain ⟨he1, he2⟩ := List.mem_filter.mp he
    obtain rfl := List.mem_singleton.mp (List.mem_filter.mp he1).1
    exact hsec (eq_of_beq he2)

/-- two inserts (primary keys of 256 and 257 zero bytes, both objects tagged with the empty key): the
    invariant holds with `B = 65536`, yet `List` by that tag is not in ascending primary-key order -/
theorem tags_list_order_witness :
    ∃ (t : TableS) (key : Key), IdxInv 65536 t ∧
      ¬ (qList t .tags key 0).Pairwise (fun a b => cmpL a.id b.id = .lt) := by
  let p : Key := List.replicate 256 0
  let p' : Key := List.replicate 257 0
  let x : Obj := { id := p, val := 0, uvar := 0, tags := [[]], pfxs := [], up := false, ord := 0, rev := 0 }
  let x' : Obj := { id := p', val := 0, uvar := 0, tags := [[]], pfxs := [], up := false, ord := 1, rev := 0 }
  let t0 : TableS := { locked := true, full := false }
  have hpne : p ≠ p' := by
    intro e
    have : (List.replicate 256 0).length = (List.replicate 257 0).length := congrArg List.length e
    rw [List.length_replicate, List.length_replicate] at this
    omega
  have ok : ∀ n ord : Nat, n ≤ 257 → ObjOk 65536
      { id := List.replicate n 0, val := 0, uvar := 0, tags := [[]], pfxs := [], up := false, ord := ord, rev := 0 } := by
    intro n ord hn
    refine ⟨fun b hb => ?_, ?_, fun k hk => nomatch hk⟩
    · rw [List.eq_of_mem_replicate hb]; decide
    · show (P.enc (List.replicate n 0)).length < 65536
      rw [enc_zeros_length]; omega
  have okx : ObjOk 65536 x := ok 256 0 (by decide)
  have okx' : ObjOk 65536 x' := ok 257 1 (by decide)
  have inv0 : IdxInv 65536 t0 := IdxInv.empty _ _ rfl rfl rfl rfl rfl
  obtain ⟨t1, _, hm1, inv1⟩ := inv0.modify_ok 0 x false okx (fun hf => nomatch hf) rfl (Or.inl rfl)
  obtain ⟨t2, _, hm2, inv2⟩ := inv1.modify_ok 0 x' false okx' (fun hf => nomatch hm1.full.symm.trans hf)
    hm1.locked (Or.inl rfl)
  refine ⟨t2, [], inv2, ?_⟩
  intro hsorted
  have hcomp := TagInv.qList_sorted_by_composite inv2.tag inv2.idLen [] 0
  -- both objects are live and carry the tag
  have g2 : t2.primary.get p' = some (newObj t1 x' false) := by rw [hm2.primary]; exact get_insert_self _ _ _
  have g1 : t2.primary.get p = some (newObj t0 x false) := by
    rw [hm2.primary, get_insert_other _ _ _ _ hpne, hm1.primary]
    exact get_insert_self _ _ _
  have m1 : newObj t0 x false ∈ qList t2 .tags [] 0 := by
    rw [inv2.tag.mem_qList inv2.idLen]
    exact ⟨by rw [newObj_id]; exact g1, by rw [newObj_tags]; exact List.mem_cons_self ..⟩
  have m2 : newObj t1 x' false ∈ qList t2 .tags [] 0 := by
    rw [inv2.tag.mem_qList inv2.idLen]
    exact ⟨by rw [newObj_id]; exact g2, by rw [newObj_tags]; exact List.mem_cons_self ..⟩
  have hne : newObj t0 x false ≠ newObj t1 x' false := by
    intro e
    have := congrArg Obj.id e
    rw [newObj_id, newObj_id] at this
    exact hpne this
  rcases (LB.pairwise_mem (hsorted.and hcomp) m1 m2).resolve_left hne with ⟨_, hc⟩ | ⟨hi, _⟩
  · rw [newObj_id, newObj_id] at hc
    rw [comp_zeros_gt] at hc
    simp at hc
  · rw [newObj_id, newObj_id] at hi
    exact cmpL_lt_asymm _ _ (cmpL_zeros_succ 256) hi

end Sdb.Tbl
