import SdbModel.Lemmas.ArtWatch

/-! Occurrences of a watch channel in a tree of Model.Art, and the bookkeeping inequality `Tr` between
    occurrences, recorded and freshly allocated channels across a write (`W.tr`): the steps of a write act on
    disjoint parts of a node, and `Tr` of the parts adds up to `Tr` of the node (`Tr.comp`). -/
namespace Sdb.ArtW
open Sdb.Art

def cntL (c : Nat) : Option LeafD → Nat
  | some d => if d.watch = c then 1 else 0
  | none => 0

@[simp] theorem cntL_some (c : Nat) (d : LeafD) : cntL c (some d) = if d.watch = c then 1 else 0 := rfl
@[simp] theorem cntL_none (c : Nat) : cntL c none = 0 := rfl

mutual
/-- number of watch fields in the subtree holding channel `c` -/
def cnt (c : Nat) : Node → Nat
  | .leaf _ d => if d.watch = c then 1 else 0
  | .inner _ _ lf kids w _ =>
    (if w = c then 1 else 0) + cntL c lf + cntK c kids
def cntK (c : Nat) : Kids → Nat
  | .nil => 0
  | .cons _ n r => cnt c n + cntK c r
end

def recd (st st' : St) (c : Nat) : Nat := if c ∈ st'.pending ∧ c ∉ st.pending then 1 else 0
def frsh (st st' : St) (c : Nat) : Nat := if st.nextW ≤ c ∧ c < st'.nextW then 1 else 0

/-- the bookkeeping inequality of one step on a part of the tree that held `c`
    `o` times before and `n` times after: an occurrence only appears by
    allocation, a recorded channel loses an occurrence, and only channels that
    occur are recorded -/
def Tr (st st' : St) (c : Nat) (o n : Nat) : Prop :=
  n + recd st st' c ≤ o + frsh st st' c ∧ recd st st' c ≤ o

theorem Tr.balance {st st' : St} {c o n : Nat} (h : Tr st st' c o n) : n + recd st st' c ≤ o + frsh st st' c := h.1

theorem Tr.recd_le {st st' : St} {c o n : Nat} (h : Tr st st' c o n) : recd st st' c ≤ o := h.2

theorem Tr.fresh_or {st st' : St} {c o n : Nat} (h : Tr st st' c o n) :
    n + recd st st' c ≤ o ∨ (st.nextW ≤ c ∧ c < st'.nextW ∧ n + recd st st' c ≤ o + 1) := by
  have k := h.balance
  unfold frsh at k
  split at k
  · rename_i hf; exact Or.inr ⟨hf.1, hf.2, k⟩
  · exact Or.inl k

theorem recd_le_one (st st' : St) (c : Nat) : recd st st' c ≤ 1 := by
  unfold recd; split <;> omega

theorem recd_pos {st st' : St} {c : Nat} (hp : c ∈ st'.pending) (hp0 : c ∉ st.pending) : recd st st' c = 1 :=
  if_pos ⟨hp, hp0⟩

theorem recd_of_sub {st st' : St} {c : Nat} (h : c ∈ st'.pending → c ∈ st.pending) : recd st st' c = 0 :=
  if_neg fun ⟨h1, h2⟩ => h2 (h h1)

theorem Tr.refl (st : St) (c k : Nat) : Tr st st c k k := by
  unfold Tr; rw [recd_of_sub id]; omega

theorem recd_trans {st st1 st2 : St} (l1 : StLe st st1) (l2 : StLe st1 st2) (c : Nat) :
    recd st st2 c = recd st st1 c + recd st1 st2 c := by
  by_cases a0 : c ∈ st.pending
  · rw [recd_of_sub fun _ => a0, recd_of_sub fun _ => a0, recd_of_sub fun _ => l1.sub c a0]
  · by_cases a1 : c ∈ st1.pending
    · rw [recd_of_sub fun _ => a1]
      unfold recd
      rw [if_pos ⟨l2.sub c a1, a0⟩, if_pos ⟨a1, a0⟩]
    · rw [recd_of_sub (st' := st1) fun h => absurd h a1]
      unfold recd
      simp only [a0, a1, not_false_eq_true, and_true, Nat.zero_add]

theorem frsh_trans {st st1 st2 : St} (l1 : StLe st st1) (l2 : StLe st1 st2) (c : Nat) :
    frsh st st2 c = frsh st st1 c + frsh st1 st2 c := by
  have h1 := l1.nw
  have h2 := l2.nw
  unfold frsh
  by_cases hc : c < st1.nextW
  · rw [if_neg (c := st1.nextW ≤ c ∧ c < st2.nextW) (by omega), Nat.add_zero]
    exact ite_congr (propext (by omega)) (fun _ => rfl) (fun _ => rfl)
  · rw [if_neg (c := st.nextW ≤ c ∧ c < st1.nextW) (by omega), Nat.zero_add]
    exact ite_congr (propext (by omega)) (fun _ => rfl) (fun _ => rfl)

/-- two consecutive steps on disjoint parts (holding `c` `o1` and `o2` times) of a part that held it `o` times;
    `hn` is `n ≤ n1 + n2 + (o - (o1 + o2))` without the subtraction -/
theorem Tr.comp {st st1 st2 : St} {c o1 n1 o2 n2 o n : Nat} (l1 : StLe st st1) (l2 : StLe st1 st2)
    (h1 : Tr st st1 c o1 n1) (h2 : Tr st1 st2 c o2 n2) (ho : o1 + o2 ≤ o) (hn : n + (o1 + o2) ≤ n1 + n2 + o) :
    Tr st st2 c o n := by
  unfold Tr at *
  rw [recd_trans l1 l2, frsh_trans l1 l2]
  omega

theorem Tr.mono {st st' : St} {c o n o' n' : Nat} (h : Tr st st' c o n) (ho : o ≤ o') (hn : n' + o ≤ n + o') :
    Tr st st' c o' n' := by
  unfold Tr at *; omega

theorem Tr.add_left {st st' : St} {c o n : Nat} (k : Nat) (h : Tr st st' c o n) : Tr st st' c (k + o) (k + n) :=
  h.mono (Nat.le_add_left o k) (by omega)

theorem Tr.record (st : St) (w c : Nat) : Tr st (st.record w) c (if w = c then 1 else 0) 0 := by
  have hR : recd st (st.record w) c ≤ if w = c then 1 else 0 := by
    by_cases hw : w = c
    · rw [if_pos hw]; exact recd_le_one ..
    · rw [if_neg hw]
      exact Nat.le_of_eq (recd_of_sub fun h => (record_pending h).resolve_left fun e => hw e.symm)
  unfold Tr; omega

theorem Tr.nilW (st : St) {c : Nat} (hc : c ≠ 0) : Tr st st c 0 (if 0 = c then 1 else 0) := by
  rw [if_neg hc.symm]; exact Tr.refl st c 0

theorem Tr.alloc (st : St) (c : Nat) : Tr st { st with nextW := st.nextW + 1 } c 0 (if st.nextW = c then 1 else 0) := by
  have hR : recd st { st with nextW := st.nextW + 1 } c = 0 := recd_of_sub id
  unfold Tr
  rw [hR]
  unfold frsh
  simp only
  split <;> split <;> omega

theorem Tr.fresh (st : St) (c : Nat) (hc : c ≠ 0) : Tr st st.fresh.1 c 0 (if st.fresh.2 = c then 1 else 0) := by
  unfold St.fresh
  split
  · exact Tr.nilW st hc
  · exact Tr.alloc st c

theorem Tr.freshIf (st : St) (w c : Nat) (hc : c ≠ 0) :
    Tr st (st.freshIf w).1 c 0 (if (st.freshIf w).2 = c then 1 else 0) := by
  unfold St.freshIf
  split
  · exact Tr.nilW st hc
  · exact Tr.alloc st c

theorem Rw.tr {st st' : St} {w t w' : Nat} (h : Rw st w t st' w') {c : Nat} (hc : c ≠ 0) :
    Tr st st' c (if w = c then 1 else 0) (if w' = c then 1 else 0) := by
  cases h with
  | re =>
    unfold reclone; split; exact Tr.refl _ _ _
    exact Tr.comp (record_le st w) (fresh_le _) (Tr.record st w c) (Tr.fresh _ c hc) (by omega) (by omega)
  | promote =>
    exact Tr.comp (record_le st w) (freshIf_le _ w) (Tr.record st w c) (Tr.freshIf _ w c hc) (by omega) (by omega)
  | demote =>
    exact Tr.comp (freshIf_le st w) (record_le _ w) (Tr.freshIf st w c hc) (Tr.record _ w c) (by omega) (by omega)
  | new => rw [if_neg hc.symm]; exact Tr.fresh st c hc

theorem cnt_setPfx (c : Nat) (q : List Nat) (n : Node) : cnt c (n.setPfx q) = cnt c n := by
  cases n <;> simp [Node.setPfx, cnt]

theorem cnt_mergeUp (c : Nat) (p : List Nat) (child : Node) : cnt c (mergeUp p child) = cnt c child := cnt_setPfx ..

theorem cntL_getLeaf_le (c : Nat) (n : Node) : cntL c n.getLeaf ≤ cnt c n := by
  cases n with
  | leaf p d => simp [Node.getLeaf, cnt, cntL]
  | inner k p lf kids w t => simp only [Node.getLeaf, cnt]; omega

theorem cntK_insert (c b : Nat) (n : Node) : (k : Kids) → cntK c (k.insert b n) = cntK c k + cnt c n
  | .nil => by simp [Kids.insert, cntK]
  | .cons a m r => by
    unfold Kids.insert
    split
    · simp only [cntK]; omega
    · simp only [cntK, cntK_insert c b n r]; omega

theorem cntK_erase_le (c b : Nat) : (k : Kids) → cntK c (k.erase b) ≤ cntK c k
  | .nil => by simp [Kids.erase]
  | .cons a m r => by
    unfold Kids.erase
    split
    · simp only [cntK]; omega
    · have := cntK_erase_le c b r
      simp only [cntK]; omega

theorem cntK_erase_find (c : Nat) {b : Nat} {n : Node} : (kids : Kids) → kids.find b = some n →
    cntK c kids = cntK c (kids.erase b) + cnt c n
  | .nil, h => by cases h
  | .cons a m r, h => by
    simp only [Kids.find] at h
    simp only [Kids.erase]
    split at h
    · rename_i hab; cases h; simp only [if_pos hab, cntK]; omega
    · rename_i hab
      split at h
      · simp only [if_neg hab, cntK, cntK_erase_find c r h]; omega
      · cases h

theorem cntK_set (c b : Nat) (n' : Node) {n : Node} : (kids : Kids) → kids.find b = some n →
    cntK c (kids.set b n') = cntK c (kids.erase b) + cnt c n'
  | .nil, h => by cases h
  | .cons a m r, h => by
    simp only [Kids.find] at h
    simp only [Kids.erase, Kids.set]
    split at h
    · rename_i hab; simp only [if_pos hab, cntK]; omega
    · rename_i hab
      split at h
      · simp only [if_neg hab, cntK, cntK_set c b n' r h]; omega
      · cases h

theorem Tr.set {st st' : St} {c b : Nat} {kids : Kids} {n n1 : Node} (hfind : kids.find b = some n)
    (h : Tr st st' c (cnt c n) (cnt c n1)) : Tr st st' c (cntK c kids) (cntK c (kids.set b n1)) := by
  have e1 := cntK_erase_find c kids hfind
  have e2 := cntK_set c b n1 kids hfind
  exact h.mono (by omega) (by omega)

theorem cntL_lfWatch {c : Nat} (hc : c ≠ 0) (lf : Option LeafD) : cntL c lf = if lfWatch lf = c then 1 else 0 := by
  cases lf with
  | some d => rfl
  | none => exact (if_neg hc.symm).symm

theorem Re.tr {st st' : St} {lf : Option LeafD} {w' c : Nat} (h : Re st lf st' w') (hc : c ≠ 0) :
    Tr st st' c (cntL c lf) (if w' = c then 1 else 0) := by
  rw [cntL_lfWatch hc]; exact h.toRw.tr hc

/-- a step on the entry and the children of an inner node, then the header brought in -/
theorem Tr.hdr {st st1 st2 : St} {c w t w' : Nat} (hc : c ≠ 0) (l : StLe st st1) {lf lf' : Option LeafD}
    {kids kids' : Kids} (h : Tr st st1 c (cntL c lf + cntK c kids) (cntL c lf' + cntK c kids')) (hrw : Rw st1 w t st2 w')
    (kind kind' : Nat) (pfx pfx' : List Nat) (t' : Nat) :
    Tr st st2 c (cnt c (.inner kind pfx lf kids w t)) (cnt c (.inner kind' pfx' lf' kids' w' t')) := by
  simp only [cnt]
  exact Tr.comp l hrw.le h (hrw.tr hc) (by omega) (by omega)

theorem cnt_forkNode (c k4 : Nat) (common : List Nat) (this : Node) (key : List Nat) (d : LeafD) (w id : Nat) :
    cnt c (forkNode k4 common this key d w id) ≤
      cnt c this + (if d.watch = c then 1 else 0) + (if w = c then 1 else 0) := by
  have hg := cntL_getLeaf_le c this
  unfold forkNode
  split
  · simp only [cnt, cntK]; omega
  · simp only [cnt, cntK, cntL_some]; omega
  · split <;> (simp only [cnt, cntK, cntL_none]; omega)

theorem Into.tr {id : Nat} {st st1 : St} {n this : Node} (h : Into id st n st1 this) {c : Nat} (hc : c ≠ 0) :
    Tr st st1 c (cnt c n) (cnt c this) := by
  cases h with
  | leaf => exact Tr.refl _ _ _
  | inner hrw => exact Tr.hdr hc (StLe.refl _) (Tr.refl _ _ _) hrw ..

def cntR (c : Nat) : Option Node → Nat
  | none => 0
  | some r => cnt c r

theorem W.tr {id : Nat} {st st' : St} {n : Node} {key : List Nat} {res : Option Node} {rw : Option Nat}
    (h : W id st n key st' res rw) {c : Nat} (hc : c ≠ 0) : Tr st st' c (cnt c n) (cntR c res) := by
  induction h with
  | kid _ _ hfind hw hrw ih => simp only [cntR] at ih ⊢; exact Tr.hdr hc hw.le ((ih.set hfind).add_left _) hrw ..
  | slot _ _ _ hre hrw =>
    simp only [cntR]
    refine Tr.hdr hc hre.le ?_ hrw ..
    rw [cntK_insert]
    simp only [cnt]
    exact (hre.tr hc).mono (Nat.zero_le _) (by simp only [cntL_none]; omega)
  | atInner hrw hre =>
    simp only [cntR, cnt, cntL_some]
    exact Tr.comp hrw.le hre.le (hrw.tr hc) (hre.tr hc) (by omega) (by omega)
  | atLeaf hre => exact hre.tr hc
  | @fork st1 st2 st3 n this key k4 d w4 _ _ hin hre hrw =>
    have h2 := Tr.comp hre.le hrw.le (hre.tr hc) (hrw.tr hc) (Nat.le_refl _) (Nat.le_refl _)
    rw [if_neg hc.symm] at h2
    have := cnt_forkNode c k4 (commonPrefix key n.pfx) (this.setPfx (n.pfx.drop (commonPrefix key n.pfx).length))
      (key.drop (commonPrefix key n.pfx).length) d w4 id
    rw [cnt_setPfx] at this
    simp only [cntR, cntL_none] at h2 ⊢
    exact Tr.comp hin.le (hre.le.trans hrw.le) (hin.tr hc) h2 (Nat.le_refl _) (by omega)
  | kidGone _ _ hfind hw hrw ih =>
    have e := cntK_erase_find c _ hfind
    simp only [cntR] at ih ⊢
    exact Tr.hdr hc hw.le (ih.mono (by omega) (by omega)) hrw ..
  | kidGoneMerge _ _ hfind hw hkk ih =>
    have e := cntK_erase_find c _ hfind
    rw [hkk] at e
    simp only [cntR, cnt_mergeUp, cnt, cntK, cntL_none] at e ih ⊢
    exact Tr.comp hw.le (record_le _ _) ih (Tr.record _ _ c) (by omega) (by omega)
  | delLeaf => exact Tr.record _ _ c
  | delMerge =>
    simp only [cntR, cnt_mergeUp, cnt, cntK, cntL_some]
    exact Tr.comp (record_le _ _) (record_le _ _) (Tr.record _ _ c) (Tr.record _ _ c) (by omega) (by omega)
  | delClone hrw =>
    simp only [cntR, cnt, cntL_some, cntL_none]
    exact Tr.comp (record_le _ _) hrw.le (Tr.record _ _ c) (hrw.tr hc) (by omega) (by omega)
  | delGone =>
    simp only [cntR, cnt, cntK, cntL_some]
    exact Tr.comp (record_le _ _) (record_le _ _) (Tr.record _ _ c) (Tr.record _ _ c) (by omega) (by omega)

theorem WR.tr {id : Nat} {st st' : St} {root root' : Option Node} {key : List Nat} {rw : Option Nat}
    (h : WR id st root key st' root' rw) {c : Nat} (hc : c ≠ 0) : Tr st st' c (cntR c root) (cntR c root') := by
  cases h with
  | node h => exact h.tr hc
  | first hre => exact hre.tr hc

theorem Tr.cloneNode (st : St) (n : Node) (c : Nat) (hc : c ≠ 0) :
    Tr st (cloneNode st n).1 c (cnt c n) (cnt c (cloneNode st n).2) := by
  cases n with
  | leaf p d => rw [cloneNode_leaf_reclone]; exact (Rw.re st d.watch 0).tr hc
  | inner k p lf kids w t =>
    rw [cloneNode_inner_reclone]; exact Tr.hdr hc (StLe.refl _) (Tr.refl _ _ _) (Rw.re st w t) ..

theorem insKids_tr (P : ArtParams) (st : St) (c : Nat) (hc : c ≠ 0) : (kids : Kids) → (b : Nat) → (key full : List Nat) →
    (val : Nat) → (mod : Option (Nat → Nat → Nat)) → (r : InsRes) → (kids' : Kids) →
    insKids P st kids b key full val mod = some (r, kids') → Tr st r.st c (cntK c kids) (cntK c kids') := by
  intro kids b key full val mod r kids' h
  obtain ⟨n, hfind, rfl, rfl⟩ := insKids_some h
  exact ((insNode_W P st n key full val mod).tr hc).set hfind

theorem delKids_tr (P : ArtParams) (st : St) (c : Nat) (hc : c ≠ 0) : (kids : Kids) → (b : Nat) → (key : List Nat) →
    (r : DelRes) → (kids' : Kids) → (st' : St) → delKids P st kids b key = some (r, kids') → delSt r = some st' →
    (∀ s n' o, r = .replaced s n' o → Tr st st' c (cntK c kids) (cntK c kids')) ∧
    (∀ s o, r = .removed s o → ∃ m, cntK c kids = cntK c (kids.erase b) + m ∧ Tr st st' c m 0) := by
  intro kids b key r kids' st' h hr
  obtain ⟨n, hfind, hdn, hk'⟩ := delKids_some h
  have ih := (delNode_W P st n key st' (by rw [hdn]; exact hr)).tr hc
  rw [hdn] at ih
  constructor
  · rintro s n' o rfl
    rw [hk']
    exact ih.set hfind
  · rintro s o rfl
    exact ⟨cnt c n, cntK_erase_find c kids hfind, ih⟩

end Sdb.ArtW
