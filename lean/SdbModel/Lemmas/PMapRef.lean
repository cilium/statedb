import SdbModel.Model.PMap
import SdbModel.Lemmas.ArtRefine

/-! More about the reference ordered map of ArtSorted: folds of insertions (`FromMap`, unmarshalling, `Union`)
    and of deletions (`Difference`), and key lists (`part.Set`). -/
namespace Sdb.Art
open Sdb.PMap (KV)

/-- the reference `FromMap` / decode loop: insert the pairs from left to right -/
def sinsertAll (l : List KV) (es : List KV) : List KV := es.foldl (fun l e => sinsert l e.1 e.2) l

@[simp] theorem sinsertAll_nil (l : List KV) : sinsertAll l [] = l := rfl

@[simp] theorem sinsertAll_cons (l : List KV) (e : KV) (es : List KV) :
    sinsertAll l (e :: es) = sinsertAll (sinsert l e.1 e.2) es := rfl

theorem sinsertAll_append (l : List KV) (es fs : List KV) :
    sinsertAll l (es ++ fs) = sinsertAll (sinsertAll l es) fs := by
  simp [sinsertAll, List.foldl_append]

theorem sinsertAll_sorted (l : List KV) (h : Sorted l) (es : List KV) : Sorted (sinsertAll l es) := by
  induction es generalizing l with
  | nil => exact h
  | cons e es ih => exact ih _ (sinsert_sorted _ h _ _)

theorem look_sinsertAll (l : List KV) (es : List KV) (k : List Nat) :
    look (sinsertAll l es) k = match look es.reverse k with | some v => some v | none => look l k := by
  induction es generalizing l with
  | nil => simp
  | cons e es ih =>
    obtain ⟨a, w⟩ := e
    rw [sinsertAll_cons, ih, List.reverse_cons, look_append, look_sinsert]
    cases look es.reverse k with
    | some v => rfl
    | none =>
      simp only [look_cons, look_nil]
      by_cases h : a = k
      · simp [h]
      · simp [h, Ne.symm h]

def KeysNodup (es : List KV) : Prop := (es.map (·.1)).Nodup

theorem keysNodup_of_sorted (l : List KV) (h : Sorted l) : KeysNodup l := by
  unfold KeysNodup
  unfold Sorted at h
  rw [List.Nodup, List.pairwise_map]
  apply List.Pairwise.imp _ h
  intro a b hab e
  unfold KLt at hab
  rw [e] at hab
  exact cmpL_lt_irrefl _ hab

theorem mem_iff_look_nodup (l : List KV) (h : KeysNodup l) (k : List Nat) (v : Nat) :
    (k, v) ∈ l ↔ look l k = some v := by
  constructor
  · intro hm
    induction l with
    | nil => simp at hm
    | cons x r ih =>
      obtain ⟨a, w⟩ := x
      unfold KeysNodup at h
      rw [List.map_cons, List.nodup_cons] at h
      rw [look_cons]
      simp only [List.mem_cons, Prod.mk.injEq] at hm
      rcases hm with hm | hm
      · simp [hm.1, hm.2]
      · have : a ≠ k := by
          intro e; apply h.1; rw [e]; exact List.mem_map.mpr ⟨(k, v), hm, rfl⟩
        simp [this, ih h.2 hm]
  · exact look_some_mem l k v

theorem keysNodup_perm (l l' : List KV) (hp : l.Perm l') (h : KeysNodup l) : KeysNodup l' := by
  unfold KeysNodup at h ⊢
  exact (hp.map _).nodup_iff.mp h

theorem look_eq_of_mem_iff (l l' : List KV) (h : KeysNodup l) (h' : KeysNodup l') (hm : ∀ e, e ∈ l ↔ e ∈ l')
    (k : List Nat) : look l k = look l' k := by
  cases h1 : look l' k with
  | some v =>
    rw [← mem_iff_look_nodup _ h'] at h1
    exact (mem_iff_look_nodup _ h k v).mp ((hm _).mpr h1)
  | none =>
    rw [look_eq_none_iff] at h1 ⊢
    exact fun e he => h1 e ((hm e).mp he)

theorem look_sinsertAll_nodup (l : List KV) (es : List KV) (hd : KeysNodup es) (k : List Nat) :
    look (sinsertAll l es) k = match look es k with | some v => some v | none => look l k := by
  rw [look_sinsertAll, look_eq_of_mem_iff es.reverse es (keysNodup_perm _ _ es.reverse_perm.symm hd) hd
    (fun _ => List.mem_reverse)]

/-- **`FromMap` does not depend on the iteration order of the Go map** -/
theorem sinsertAll_perm (l : List KV) (h : Sorted l) (es es' : List KV) (hd : KeysNodup es) (hp : es.Perm es') :
    sinsertAll l es = sinsertAll l es' := by
  apply sorted_look_ext _ _ (sinsertAll_sorted _ h _) (sinsertAll_sorted _ h _)
  intro k
  have hd' := keysNodup_perm _ _ hp hd
  rw [look_sinsertAll_nodup l es hd, look_sinsertAll_nodup l es' hd',
    look_eq_of_mem_iff es es' hd hd' (fun _ => hp.mem_iff)]

theorem mem_keys_iff_look (l : List KV) (k : List Nat) : k ∈ l.map (·.1) ↔ (look l k).isSome = true := by
  cases h : look l k with
  | none =>
    rw [look_eq_none_iff] at h
    simp only [Option.isSome_none, Bool.false_eq_true, iff_false, List.mem_map, not_exists, not_and]
    exact fun e he => h e he
  | some v =>
    simp only [Option.isSome_some, iff_true]
    exact List.mem_map.mpr ⟨(k, v), look_some_mem _ _ _ h, rfl⟩

theorem mem_sinsertAll (l : List KV) (h : Sorted l) (es : List KV) (hd : KeysNodup es) (e : KV) :
    e ∈ sinsertAll l es ↔ e ∈ es ∨ (e.1 ∉ es.map (·.1) ∧ e ∈ l) := by
  obtain ⟨k, v⟩ := e
  rw [mem_iff_look _ (sinsertAll_sorted _ h _), look_sinsertAll_nodup l es hd, mem_iff_look_nodup es hd,
    mem_iff_look l h, mem_keys_iff_look]
  cases look es k <;> simp

/-- decoding the ordered entry list of a map gives the map back -/
theorem sinsertAll_self (l : List KV) (h : Sorted l) : sinsertAll [] l = l := by
  apply sorted_look_ext _ _ (sinsertAll_sorted _ sorted_nil _) h
  intro k
  rw [look_sinsertAll_nodup [] l (keysNodup_of_sorted l h)]
  cases look l k <;> rfl

theorem sinsertAll_absorb (l : List KV) (h : Sorted l) (es : List KV) (hsub : ∀ e ∈ es, e ∈ l) :
    sinsertAll l es = l := by
  apply sorted_look_ext _ _ (sinsertAll_sorted _ h _) h
  intro k
  rw [look_sinsertAll]
  cases h1 : look es.reverse k with
  | none => rfl
  | some v =>
    have := look_some_mem _ _ _ h1
    have := hsub (k, v) (by simpa using this)
    exact ((mem_iff_look l h k v).mp this).symm

theorem length_sinsertAll_ge (l : List KV) (h : Sorted l) (es : List KV) : l.length ≤ (sinsertAll l es).length := by
  induction es generalizing l with
  | nil => exact Nat.le_refl _
  | cons e es ih => exact Nat.le_trans (length_le_sinsert l h e.1 e.2) (ih _ (sinsert_sorted l h e.1 e.2))

theorem two_le_length_of_keys (l : List KV) (k k' : List Nat) (hne : k ≠ k')
    (h1 : k ∈ l.map (·.1)) (h2 : k' ∈ l.map (·.1)) : 2 ≤ l.length := by
  cases l with
  | nil => exact nomatch h1
  | cons e r =>
    cases r with
    | nil => exact absurd ((List.mem_singleton.1 h1).trans (List.mem_singleton.1 h2).symm) hne
    | cons _ _ => exact Nat.le_add_left 2 _

def sdeleteAll (l : List KV) (ks : List (List Nat)) : List KV := ks.foldl sdelete l

theorem sdeleteAll_eq_filter (l : List KV) (ks : List (List Nat)) :
    sdeleteAll l ks = l.filter (fun e => decide (e.1 ∉ ks)) := by
  induction ks generalizing l with
  | nil => exact (List.filter_eq_self.mpr (by simp)).symm
  | cons k ks ih =>
    unfold sdeleteAll at ih ⊢
    rw [List.foldl_cons, ih]
    unfold sdelete
    rw [List.filter_filter]
    apply List.filter_congr
    intro e _
    by_cases h1 : e.1 = k <;> simp [h1]

def KSorted (ks : List (List Nat)) : Prop := ks.Pairwise (fun a b => cmpL a b = .lt)

theorem ksorted_keys (l : List KV) (h : Sorted l) : KSorted (l.map (·.1)) := by
  unfold KSorted
  rw [List.pairwise_map]
  exact h

theorem ksorted_ext (l₁ l₂ : List (List Nat)) (h₁ : KSorted l₁) (h₂ : KSorted l₂)
    (h : ∀ k, k ∈ l₁ ↔ k ∈ l₂) : l₁ = l₂ :=
  ascending_ext id l₁ l₂ h₁ h₂ h

theorem keys_sinsert (l : List KV) (k : List Nat) (v : Nat) (q : List Nat) :
    q ∈ (sinsert l k v).map (·.1) ↔ q = k ∨ q ∈ l.map (·.1) := by
  rw [mem_keys_iff_look, mem_keys_iff_look, look_sinsert]
  by_cases h : q = k <;> simp [h]

theorem keys_sdelete (l : List KV) (k : List Nat) :
    (sdelete l k).map (·.1) = (l.map (·.1)).filter (fun q => decide (q ≠ k)) := by
  unfold sdelete
  rw [List.filter_map]
  rfl

theorem keys_sinsertAll (l : List KV) (es : List KV) (q : List Nat) :
    q ∈ (sinsertAll l es).map (·.1) ↔ q ∈ es.map (·.1) ∨ q ∈ l.map (·.1) := by
  induction es generalizing l with
  | nil => exact (or_iff_right List.not_mem_nil).symm
  | cons e es ih => rw [sinsertAll_cons, ih, keys_sinsert, List.map_cons, List.mem_cons, or_assoc, or_left_comm]

theorem keys_sdeleteAll (l : List KV) (ks : List (List Nat)) :
    (sdeleteAll l ks).map (·.1) = (l.map (·.1)).filter (fun q => decide (q ∉ ks)) := by
  rw [sdeleteAll_eq_filter, List.filter_map]
  rfl

end Sdb.Art
