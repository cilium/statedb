import SdbModel.Model.Enc

/-! The byte-string order `cmpL` (= `bytes.Compare`) is a strict total order that compares heads first and
    ties by the tails (`cmpL_cons`); `hasPrefix` is `<+:`.  On top of that: the escape encoding of
    part_index.go preserves the order and reflects prefixes, its output never contains the separator byte,
    and big-endian integers of a fixed width compare like the numbers; `EncodeLPMKey` in closed form
    (`encodeLPM_eq`). -/
namespace Sdb

/-- the lexicographic combination used in statements: first `a`, ties by `b` -/
def Ordering.thenO (a b : Ordering) : Ordering :=
  match a with
  | .eq => b
  | o => o

def cmpN (n m : Nat) : Ordering := if n < m then .lt else if m < n then .gt else .eq

theorem cmpN_of_lt {n m : Nat} (h : n < m) : cmpN n m = .lt := if_pos h

theorem cmpN_of_gt {n m : Nat} (h : m < n) : cmpN n m = .gt := by
  rw [cmpN, if_neg (Nat.lt_asymm h), if_pos h]

theorem cmpN_eq_iff {n m : Nat} : cmpN n m = .eq ↔ n = m := by
  rcases Nat.lt_trichotomy n m with h | rfl | h
  · rw [cmpN_of_lt h]; exact ⟨nofun, fun e => absurd e (Nat.ne_of_lt h)⟩
  · exact ⟨fun _ => rfl, fun _ => by rw [cmpN, if_neg (Nat.lt_irrefl n), if_neg (Nat.lt_irrefl n)]⟩
  · rw [cmpN_of_gt h]; exact ⟨nofun, fun e => absurd e (Nat.ne_of_gt h)⟩

theorem cmpN_swap (n m : Nat) : cmpN m n = (cmpN n m).swap := by
  rcases Nat.lt_trichotomy n m with h | rfl | h
  · rw [cmpN_of_lt h, cmpN_of_gt h]; rfl
  · rw [cmpN_eq_iff.2 rfl]; rfl
  · rw [cmpN_of_lt h, cmpN_of_gt h]; rfl

theorem Ordering.thenO_assoc (a b c : Ordering) :
    Ordering.thenO (Ordering.thenO a b) c = Ordering.thenO a (Ordering.thenO b c) := by
  cases a <;> rfl

theorem Ordering.thenO_swap (a b : Ordering) :
    (Ordering.thenO a b).swap = Ordering.thenO a.swap b.swap := by
  cases a <;> rfl

theorem Ordering.thenO_eq_eq {a b : Ordering} : Ordering.thenO a b = .eq ↔ a = .eq ∧ b = .eq := by
  cases a <;> simp [Ordering.thenO]

@[simp] theorem cmpL_nil_nil : cmpL [] [] = .eq := rfl
@[simp] theorem cmpL_nil_cons (b bs) : cmpL [] (b :: bs) = .lt := rfl
@[simp] theorem cmpL_cons_nil (a as) : cmpL (a :: as) [] = .gt := rfl
theorem cmpL_cons_cons (a as b bs) :
    cmpL (a :: as) (b :: bs) = if a < b then .lt else if b < a then .gt else cmpL as bs := rfl

theorem cmpL_cons (a as b bs) :
    cmpL (a :: as) (b :: bs) = Ordering.thenO (cmpN a b) (cmpL as bs) := by
  rcases Nat.lt_trichotomy a b with h | rfl | h
  · rw [cmpL_cons_cons, cmpN_of_lt h, if_pos h]; rfl
  · rw [cmpL_cons_cons, cmpN_eq_iff.2 rfl, if_neg (Nat.lt_irrefl a), if_neg (Nat.lt_irrefl a)]; rfl
  · rw [cmpL_cons_cons, cmpN_of_gt h, if_neg (Nat.lt_asymm h), if_pos h]; rfl

theorem cmpL_eq_iff (a b : List Nat) : cmpL a b = .eq ↔ a = b := by
  induction a generalizing b with
  | nil => cases b <;> simp
  | cons x xs ih =>
    cases b with
    | nil => simp
    | cons y ys => rw [cmpL_cons, Ordering.thenO_eq_eq, cmpN_eq_iff, ih, List.cons.injEq]

theorem cmpL_refl (l : List Nat) : cmpL l l = .eq := (cmpL_eq_iff l l).2 rfl

theorem cmpL_append_left (l a b : List Nat) : cmpL (l ++ a) (l ++ b) = cmpL a b := by
  induction l with
  | nil => rfl
  | cons x xs ih => rw [List.cons_append, List.cons_append, cmpL_cons, cmpN_eq_iff.2 rfl, ih]; rfl

theorem cmpL_diff_lt (pre : List Nat) (a b : Nat) (r1 r2 : List Nat) (h : a < b) :
    cmpL (pre ++ a :: r1) (pre ++ b :: r2) = .lt := by
  rw [cmpL_append_left, cmpL_cons, cmpN_of_lt h]; rfl

theorem cmpL_diff_gt (pre : List Nat) (a b : Nat) (r1 r2 : List Nat) (h : a < b) :
    cmpL (pre ++ b :: r1) (pre ++ a :: r2) = .gt := by
  rw [cmpL_append_left, cmpL_cons, cmpN_of_gt h]; rfl

theorem cmpL_swap (a b : List Nat) : cmpL b a = (cmpL a b).swap := by
  induction a generalizing b with
  | nil => cases b <;> rfl
  | cons x xs ih =>
    cases b with
    | nil => rfl
    | cons y ys => rw [cmpL_cons, cmpL_cons, Ordering.thenO_swap, ← cmpN_swap, ← ih]

theorem cmpL_append_same_len (A B a b : List Nat) (h : A.length = B.length) :
    cmpL (A ++ a) (B ++ b) = Ordering.thenO (cmpL A B) (cmpL a b) := by
  induction A generalizing B with
  | nil =>
    cases B with
    | nil => rfl
    | cons _ _ => cases h
  | cons x xs ih =>
    cases B with
    | nil => cases h
    | cons y ys =>
      rw [List.cons_append, List.cons_append, cmpL_cons, cmpL_cons, ih ys (Nat.succ.inj h),
        Ordering.thenO_assoc]

theorem cmpL_gt_iff_lt (a b : List Nat) : cmpL a b = .gt ↔ cmpL b a = .lt := by
  rw [cmpL_swap a b]
  cases cmpL a b <;> simp [Ordering.swap]

theorem cmpL_lt_iff_gt (a b : List Nat) : cmpL a b = .lt ↔ cmpL b a = .gt :=
  (cmpL_gt_iff_lt b a).symm

theorem cmpL_lt_irrefl (a : List Nat) : cmpL a a ≠ .lt := by
  rw [cmpL_refl]; simp

theorem cmpL_lt_asymm (a b : List Nat) (h : cmpL a b = .lt) : cmpL b a ≠ .lt := by
  rw [cmpL_swap a b, h]; simp [Ordering.swap]

/-- two ascending lists with the same members are permutations of each other without duplicates,
    and `cmpL · · = .lt` is asymmetric -/
theorem ascending_ext {α : Type} (key : α → List Nat) (l₁ l₂ : List α)
    (h₁ : l₁.Pairwise fun a b => cmpL (key a) (key b) = .lt) (h₂ : l₂.Pairwise fun a b => cmpL (key a) (key b) = .lt)
    (h : ∀ e, e ∈ l₁ ↔ e ∈ l₂) : l₁ = l₂ :=
  have nd : ∀ {l : List α}, (l.Pairwise fun a b => cmpL (key a) (key b) = .lt) → l.Nodup := fun hl =>
    List.Pairwise.imp (S := (· ≠ ·)) (fun hab e => cmpL_lt_irrefl _ (e ▸ hab)) hl
  ((List.perm_ext_iff_of_nodup (nd h₁) (nd h₂)).mpr h).eq_of_pairwise
    (fun _ _ _ _ hab hba => absurd hba (cmpL_lt_asymm _ _ hab)) h₁ h₂

theorem cmpL_cons_lt (x : Nat) (xs : List Nat) (y : Nat) (ys : List Nat) :
    cmpL (x :: xs) (y :: ys) = .lt ↔ x < y ∨ x = y ∧ cmpL xs ys = .lt := by
  rw [cmpL_cons]
  rcases Nat.lt_trichotomy x y with h | rfl | h
  · rw [cmpN_of_lt h]; exact ⟨fun _ => .inl h, fun _ => rfl⟩
  · rw [cmpN_eq_iff.2 rfl]
    exact ⟨fun e => .inr ⟨rfl, e⟩, fun e => e.elim (fun h => absurd h (Nat.lt_irrefl x)) (·.2)⟩
  · rw [cmpN_of_gt h]
    exact ⟨nofun, fun e => e.elim (fun h' => absurd h (Nat.lt_asymm h')) (fun e => absurd e.1 (Nat.ne_of_gt h))⟩

theorem cmpL_append_not_lt (a b s : List Nat) (h : cmpL a s ≠ .lt) : cmpL (a ++ b) s ≠ .lt := by
  induction a generalizing s with
  | nil =>
    cases s with
    | nil => cases b <;> simp
    | cons y ys => simp at h
  | cons x xs ih =>
    cases s with
    | nil => simp
    | cons y ys =>
      intro hlt
      rw [List.cons_append, cmpL_cons_lt] at hlt
      exact h ((cmpL_cons_lt ..).mpr (hlt.imp_right fun ⟨e, h'⟩ => ⟨e, Decidable.by_contra fun hn => ih ys hn h'⟩))

theorem cmpL_lt_trans (a b c : List Nat) (h1 : cmpL a b = .lt) (h2 : cmpL b c = .lt) : cmpL a c = .lt := by
  induction a generalizing b c with
  | nil =>
    cases c with
    | nil => cases b <;> simp_all
    | cons _ _ => rfl
  | cons x xs ih =>
    cases b with
    | nil => simp at h1
    | cons y ys =>
      cases c with
      | nil => simp at h2
      | cons z zs =>
        rw [cmpL_cons_lt] at h1 h2 ⊢
        rcases h1 with h1 | ⟨rfl, h1⟩
        · exact .inl (h2.elim (Nat.lt_trans h1) (fun e => e.1 ▸ h1))
        · exact h2.imp id (fun e => ⟨e.1, ih ys zs h1 e.2⟩)

theorem cmpL_total (a b : List Nat) : cmpL a b = .lt ∨ a = b ∨ cmpL b a = .lt := by
  cases h : cmpL a b with
  | lt => exact Or.inl rfl
  | eq => exact Or.inr (Or.inl ((cmpL_eq_iff a b).mp h))
  | gt => exact Or.inr (Or.inr ((cmpL_gt_iff_lt a b).mp h))

@[simp] theorem hasPrefix_nil (k) : hasPrefix k [] = true := by cases k <;> rfl
@[simp] theorem hasPrefix_nil_cons (b bs) : hasPrefix [] (b :: bs) = false := rfl
theorem hasPrefix_cons_cons (a as b bs) :
    hasPrefix (a :: as) (b :: bs) = (a == b && hasPrefix as bs) := rfl

theorem hasPrefix_iff (k p : List Nat) : hasPrefix k p = true ↔ p <+: k := by
  induction p generalizing k with
  | nil => simp
  | cons b bs ih =>
    cases k with
    | nil => simp
    | cons a as =>
      rw [hasPrefix_cons_cons, Bool.and_eq_true, beq_iff_eq, ih, List.cons_prefix_cons, eq_comm]

theorem hasPrefix_append_left (l k p : List Nat) : hasPrefix (l ++ k) (l ++ p) = hasPrefix k p := by
  induction l with
  | nil => rfl
  | cons x xs ih => simp [hasPrefix_cons_cons, ih]

theorem hasPrefix_diff (pre : List Nat) (a b : Nat) (r1 r2 : List Nat) (h : a ≠ b) :
    hasPrefix (pre ++ a :: r1) (pre ++ b :: r2) = false := by
  rw [hasPrefix_append_left]; simp [hasPrefix_cons_cons, h]

theorem hasPrefix_drop_nil (k p : List Nat) (h : hasPrefix k p = true) (hd : k.drop p.length = []) : k = p := by
  obtain ⟨t, rfl⟩ := (hasPrefix_iff k p).1 h
  rw [List.drop_left] at hd
  rw [hd, List.append_nil]

theorem hasPrefix_length (k p : List Nat) (h : hasPrefix k p = true) : p.length ≤ k.length :=
  ((hasPrefix_iff k p).1 h).length_le

theorem hasPrefix_trans (k p q : List Nat) (h1 : hasPrefix k p = true) (h2 : hasPrefix p q = true) :
    hasPrefix k q = true :=
  (hasPrefix_iff k q).2 (((hasPrefix_iff p q).1 h2).trans ((hasPrefix_iff k p).1 h1))

theorem hasPrefix_dropN (n : Nat) (k p : List Nat) (h : hasPrefix k p = true) :
    hasPrefix (k.drop n) (p.drop n) = true := by
  obtain ⟨t, rfl⟩ := (hasPrefix_iff k p).1 h
  rw [List.drop_append]
  exact (hasPrefix_iff _ _).2 (List.prefix_append _ _)

theorem hasPrefix_cons_inv (x : List Nat) (b : Nat) (r : List Nat) (h : hasPrefix x (b :: r) = true) :
    ∃ r', x = b :: r' ∧ hasPrefix r' r = true := by
  obtain ⟨t, rfl⟩ := (hasPrefix_iff x (b :: r)).1 h
  exact ⟨r ++ t, rfl, (hasPrefix_iff _ _).2 (List.prefix_append r t)⟩

theorem hasPrefix_false_of_length {a b : List Nat} (h : a.length < b.length) : hasPrefix a b = false := by
  cases hh : hasPrefix a b with
  | false => rfl
  | true => have := hasPrefix_length _ _ hh; omega

/-- no separator byte (`nonUniqueSeparator` = 0) occurs -/
def ZeroFree (l : List Nat) : Prop := ∀ b ∈ l, 0 < b

theorem ZeroFree.nil : ZeroFree [] := nofun

theorem ZeroFree.cons {a : Nat} {l : List Nat} (ha : 0 < a) (h : ZeroFree l) : ZeroFree (a :: l) :=
  List.forall_mem_cons.2 ⟨ha, h⟩

theorem ZeroFree.append {l l' : List Nat} (h : ZeroFree l) (h' : ZeroFree l') : ZeroFree (l ++ l') :=
  fun b hb => (List.mem_append.1 hb).elim (h b) (h' b)

theorem ZeroFree.tail {a : Nat} {l : List Nat} (h : ZeroFree (a :: l)) : ZeroFree l :=
  fun b hb => h b (List.mem_cons_of_mem _ hb)

theorem ZeroFree.head {a : Nat} {l : List Nat} (h : ZeroFree (a :: l)) : 0 < a :=
  h a (List.mem_cons_self ..)

/-! ### the escape scheme

`EncParams.WellFormed` forces `sep = 0`, `sub = 1`, `escSep = [1, x]`, `escSub = [1, y]` with `0 < x < y`
(`EncParams.enc_eq`); the facts are proved for that shape with `x`, `y` variable, and use only `0 < x < y`. -/

def encB (x y b : Nat) : List Nat := if b = 0 then [1, x] else if b = 1 then [1, y] else [b]

def encXY (x y : Nat) : Key → List Nat
  | [] => []
  | b :: bs => encB x y b ++ encXY x y bs

theorem EncParams.wf_iff (P : EncParams) : P.wf = true ↔ P.WellFormed := by
  unfold EncParams.wf EncParams.WellFormed
  constructor
  · intro h
    simp only [Bool.and_eq_true, beq_iff_eq] at h
    obtain ⟨⟨h0, h1⟩, h2⟩ := h
    refine ⟨h0, h1, ?_⟩
    split at h2
    · rename_i s1 x s2 y he1 he2
      simp only [Bool.and_eq_true, beq_iff_eq, decide_eq_true_eq] at h2
      obtain ⟨⟨⟨⟨a, b⟩, c⟩, d⟩, e⟩ := h2
      exact ⟨x, y, by rw [he1, a], by rw [he2, b], c, d, e⟩
    · simp at h2
  · rintro ⟨h0, h1, x, y, hx, hy, a, b, c⟩
    simp [h0, h1, hx, hy, a, b, c]

theorem EncParams.enc_eq (P : EncParams) (h : P.WellFormed) :
    ∃ x y, 0 < x ∧ x < y ∧ y < 256 ∧ P.enc = encXY x y := by
  obtain ⟨h0, h1, x, y, hx, hy, a, b, c⟩ := h
  refine ⟨x, y, a, b, c, funext fun k => ?_⟩
  induction k with
  | nil => rfl
  | cons b bs ih =>
    simp only [EncParams.enc, encXY, ih]
    congr 1
    simp [EncParams.encByte, encB, h0, h1, hx, hy]

theorem EncParams.enc_append (P : EncParams) (a b : Key) : P.enc (a ++ b) = P.enc a ++ P.enc b := by
  induction a with
  | nil => rfl
  | cons c cs ih => rw [List.cons_append, EncParams.enc, EncParams.enc, ih, List.append_assoc]

theorem EncParams.encodedLength_eq (P : EncParams) (h : P.WellFormed) (k : Key) :
    P.encodedLength k = (P.enc k).length := by
  obtain ⟨h0, h1, x, y, hx, hy, _⟩ := h
  induction k with
  | nil => rfl
  | cons b bs ih =>
    simp only [EncParams.encodedLength, EncParams.enc, List.length_append, ih]
    congr 1
    simp only [EncParams.encByte, h0, h1, hx, hy]
    by_cases hb0 : b = 0
    · simp [hb0]
    · by_cases hb1 : b = 1
      · simp [hb1]
      · simp [hb0, hb1]

section XY
variable {x y : Nat}

theorem encXY_cons_eq_cons (x y b : Nat) (bs : Key) : ∃ e es, encXY x y (b :: bs) = e :: es := by
  rw [encXY, encB]
  by_cases h0 : b = 0
  · rw [if_pos h0]; exact ⟨_, _, rfl⟩
  · rw [if_neg h0]
    by_cases h1 : b = 1
    · rw [if_pos h1]; exact ⟨_, _, rfl⟩
    · rw [if_neg h1]; exact ⟨_, _, rfl⟩

theorem encXY_diff (hxy : x < y) {c d : Nat} (h : c < d) (cs ds : Key) :
    ∃ pre a b ra rb, encXY x y (c :: cs) = pre ++ a :: ra ∧ encXY x y (d :: ds) = pre ++ b :: rb ∧
      a < b := by
  rw [encXY, encXY, encB, encB, if_neg (Nat.ne_zero_of_lt h)]
  by_cases hc0 : c = 0
  · rw [if_pos hc0]
    by_cases hd1 : d = 1
    · rw [if_pos hd1]; exact ⟨[1], x, y, _, _, rfl, rfl, hxy⟩
    · rw [if_neg hd1]; exact ⟨[], 1, d, _, _, rfl, rfl, Nat.lt_of_le_of_ne (Nat.zero_lt_of_lt h) (Ne.symm hd1)⟩
  · have hd : 1 < d := Nat.lt_of_le_of_lt (Nat.pos_of_ne_zero hc0) h
    rw [if_neg hc0, if_neg (Nat.ne_of_gt hd)]
    by_cases hc1 : c = 1
    · rw [if_pos hc1]; exact ⟨[], 1, d, _, _, rfl, rfl, hd⟩
    · rw [if_neg hc1]; exact ⟨[], c, d, _, _, rfl, rfl, h⟩

theorem encXY_cmp (hxy : x < y) (a b : Key) :
    cmpL (encXY x y a) (encXY x y b) = cmpL a b := by
  induction a generalizing b with
  | nil =>
    cases b with
    | nil => rfl
    | cons d ds =>
      obtain ⟨e, es, h⟩ := encXY_cons_eq_cons x y d ds
      rw [h]; rfl
  | cons c cs ih =>
    cases b with
    | nil =>
      obtain ⟨e, es, h⟩ := encXY_cons_eq_cons x y c cs
      rw [h]; rfl
    | cons d ds =>
      rw [cmpL_cons]
      rcases Nat.lt_trichotomy c d with h | rfl | h
      · obtain ⟨pre, a, b, ra, rb, e1, e2, hab⟩ := encXY_diff hxy h cs ds
        rw [e1, e2, cmpL_diff_lt _ _ _ _ _ hab, cmpN_of_lt h]; rfl
      · rw [encXY, encXY, cmpL_append_left, ih, cmpN_eq_iff.2 rfl]; rfl
      · obtain ⟨pre, a, b, ra, rb, e1, e2, hab⟩ := encXY_diff hxy h ds cs
        rw [e1, e2, cmpL_diff_gt _ _ _ _ _ hab, cmpN_of_gt h]; rfl

theorem encXY_injective (hxy : x < y) (a b : Key) (h : encXY x y a = encXY x y b) : a = b := by
  have := encXY_cmp hxy a b
  rw [h, cmpL_refl] at this
  exact (cmpL_eq_iff a b).mp this.symm

theorem encXY_hasPrefix (hxy : x < y) (k p : Key) :
    hasPrefix (encXY x y k) (encXY x y p) = hasPrefix k p := by
  induction p generalizing k with
  | nil => rw [encXY, hasPrefix_nil, hasPrefix_nil]
  | cons d ds ih =>
    cases k with
    | nil =>
      obtain ⟨e, es, h⟩ := encXY_cons_eq_cons x y d ds
      rw [h]; rfl
    | cons c cs =>
      rw [hasPrefix_cons_cons]
      rcases Nat.lt_trichotomy c d with h | rfl | h
      · obtain ⟨pre, a, b, ra, rb, e1, e2, hab⟩ := encXY_diff hxy h cs ds
        rw [e1, e2, hasPrefix_diff _ _ _ _ _ (Nat.ne_of_lt hab), beq_false_of_ne (Nat.ne_of_lt h)]; rfl
      · rw [encXY, encXY, hasPrefix_append_left, ih, beq_self_eq_true]; rfl
      · obtain ⟨pre, a, b, ra, rb, e1, e2, hab⟩ := encXY_diff hxy h ds cs
        rw [e1, e2, hasPrefix_diff _ _ _ _ _ (Nat.ne_of_gt hab), beq_false_of_ne (Nat.ne_of_gt h)]; rfl

theorem encB_zeroFree (hx : 0 < x) (hxy : x < y) (c : Nat) : ZeroFree (encB x y c) := by
  unfold encB
  by_cases h0 : c = 0
  · rw [if_pos h0]; exact .cons Nat.one_pos (.cons hx .nil)
  · rw [if_neg h0]
    by_cases h1 : c = 1
    · rw [if_pos h1]; exact .cons Nat.one_pos (.cons (Nat.lt_trans hx hxy) .nil)
    · rw [if_neg h1]; exact .cons (Nat.pos_of_ne_zero h0) .nil

theorem encXY_zeroFree (hx : 0 < x) (hxy : x < y) (k : Key) : ZeroFree (encXY x y k) := by
  induction k with
  | nil => exact .nil
  | cons c cs ih => exact (encB_zeroFree hx hxy c).append ih

end XY

/-- The separator is below every byte of a zero-free list, so it ends the list for the comparison
    the way the end of the input does; what follows only breaks ties. -/
theorem cmpL_sep {u u' : List Nat} (A A' : List Nat) (hu : ZeroFree u) (hu' : ZeroFree u') :
    cmpL (u ++ 0 :: A) (u' ++ 0 :: A') = Ordering.thenO (cmpL u u') (cmpL A A') := by
  induction u generalizing u' with
  | nil =>
    cases u' with
    | nil => exact cmpL_cons 0 A 0 A'
    | cons c cs => rw [List.nil_append, List.cons_append, cmpL_cons, cmpN_of_lt hu'.head]; rfl
  | cons d ds ih =>
    cases u' with
    | nil => rw [List.nil_append, List.cons_append, cmpL_cons, cmpN_of_gt hu.head]; rfl
    | cons c cs =>
      rw [List.cons_append, List.cons_append, cmpL_cons, cmpL_cons, ih hu.tail hu'.tail,
        Ordering.thenO_assoc]

/-- The uint16 length suffix of a composite key, for lengths below 256: its high byte is 0x00 and acts
    as a second separator; where the keys are equal so are the suffixes. -/
theorem cmpL_lenSuffix {u u' : List Nat} {n n' : Nat} (hu : ZeroFree u) (hu' : ZeroFree u')
    (hn : u.length = u'.length → n = n') :
    cmpL (u ++ [0, n]) (u' ++ [0, n']) = cmpL u u' := by
  rw [cmpL_sep [n] [n'] hu hu']
  cases h : cmpL u u' with
  | eq => rw [hn (congrArg List.length ((cmpL_eq_iff u u').1 h))]; exact cmpL_refl [n']
  | lt => rfl
  | gt => rfl

theorem sep_split_unique {u u' A A' : List Nat} (hu : ZeroFree u) (hu' : ZeroFree u')
    (h : u ++ 0 :: A = u' ++ 0 :: A') : u = u' ∧ A = A' := by
  have e := cmpL_sep A A' hu hu'
  rw [h, cmpL_refl] at e
  obtain ⟨h1, h2⟩ := Ordering.thenO_eq_eq.1 e.symm
  exact ⟨(cmpL_eq_iff u u').1 h1, (cmpL_eq_iff A A').1 h2⟩

@[simp] theorem be_length (w n : Nat) : (be w n).length = w := by
  induction w generalizing n with
  | zero => rfl
  | succ w ih => simp [be, ih]

theorem be_lt_256 (w n : Nat) : ∀ b ∈ be w n, b < 256 := by
  induction w generalizing n with
  | zero => simp [be]
  | succ w ih =>
    intro b hb
    simp only [be, List.mem_append, List.mem_singleton] at hb
    rcases hb with hb | hb
    · exact ih _ b hb
    · omega

theorem unbe_append (a : List Nat) (b : Nat) : unbe (a ++ [b]) = unbe a * 256 + b := by
  simp [unbe, List.foldl_append]

theorem unbe_be (w n : Nat) : unbe (be w n) = n % 256 ^ w := by
  induction w generalizing n with
  | zero => simp [be, unbe, Nat.mod_one]
  | succ w ih =>
    rw [be, unbe_append, ih, Nat.pow_succ, Nat.mul_comm (256 ^ w) 256, Nat.mod_mul, Nat.add_comm,
      Nat.mul_comm]

theorem be_injective (w n m : Nat) (hn : n < 256 ^ w) (hm : m < 256 ^ w) (h : be w n = be w m) : n = m := by
  have h1 := unbe_be w n
  have h2 := unbe_be w m
  rw [h, h2, Nat.mod_eq_of_lt hm] at h1
  rw [Nat.mod_eq_of_lt hn] at h1
  exact h1.symm

theorem cmpL_singleton (a b : Nat) : cmpL [a] [b] = cmpN a b := rfl

theorem mul256_add_lt {q q' r : Nat} (r' : Nat) (h : r < 256) (hq : q < q') : 256 * q + r < 256 * q' + r' :=
  calc 256 * q + r < 256 * q + 256 := Nat.add_lt_add_left h _
    _ = 256 * (q + 1) := (Nat.mul_succ 256 q).symm
    _ ≤ 256 * q' := Nat.mul_le_mul_left 256 hq
    _ ≤ 256 * q' + r' := Nat.le_add_right _ _

theorem cmpN_mul_add (q q' r r' : Nat) (h : r < 256) (h' : r' < 256) :
    cmpN (256 * q + r) (256 * q' + r') = Ordering.thenO (cmpN q q') (cmpN r r') := by
  rcases Nat.lt_trichotomy q q' with h1 | rfl | h2
  · rw [cmpN_of_lt h1, cmpN_of_lt (mul256_add_lt r' h h1)]; rfl
  · simp only [cmpN, Nat.lt_irrefl, if_false, Nat.add_lt_add_iff_left, Ordering.thenO]
  · rw [cmpN_of_gt h2, cmpN_of_gt (mul256_add_lt r h' h2)]; rfl

theorem be_cmp (w n m : Nat) (hn : n < 256 ^ w) (hm : m < 256 ^ w) :
    cmpL (be w n) (be w m) = cmpN n m := by
  induction w generalizing n m with
  | zero => rw [Nat.lt_one_iff.1 hn, Nat.lt_one_iff.1 hm]; rfl
  | succ w ih =>
    rw [Nat.pow_succ] at hn hm
    rw [be, be, cmpL_append_same_len _ _ _ _ (by rw [be_length, be_length]),
      ih _ _ (Nat.div_lt_of_lt_mul (Nat.mul_comm _ _ ▸ hn)) (Nat.div_lt_of_lt_mul (Nat.mul_comm _ _ ▸ hm)),
      cmpL_singleton, ← cmpN_mul_add _ _ _ _ (Nat.mod_lt _ (by decide)) (Nat.mod_lt _ (by decide)),
      Nat.div_add_mod, Nat.div_add_mod]

theorem be2_small {n : Nat} (h : n < 256) : be 2 n = [0, n] := by
  rw [be, be, be, Nat.div_eq_of_lt h, Nat.mod_eq_of_lt h]; rfl

/-- a key that ends in two length bytes (`be 2 n`): the bytes and what stands before them -/
theorem drop_len_sub_two (A B : List Nat) (hB : B.length = 2) :
    (A ++ B).drop ((A ++ B).length - 2) = B := by
  rw [List.length_append, hB, Nat.add_sub_cancel, List.drop_left]

theorem take_len_sub_two (A B : List Nat) (hB : B.length = 2) :
    (A ++ B).take ((A ++ B).length - 2) = A := by
  rw [List.length_append, hB, Nat.add_sub_cancel, List.take_left]

/-- `EncodeLPMKey` in closed form: `⌈l/8⌉` bytes of the input, the last one masked unless `l` is a multiple of 8,
    then the length -/
theorem encodeLPM_eq (d : List Nat) (l : Nat) :
    encodeLPM d l = if d.length < (l + 7) / 8 then none else
      some ((if 0 < (l + 7) / 8 ∧ l % 8 ≠ 0 then
          d.take ((l + 7) / 8 - 1) ++ [Nat.land (d.getD ((l + 7) / 8 - 1) 0) (lpmMask (l % 8))]
        else d.take ((l + 7) / 8)) ++ be 2 l) := by
  unfold encodeLPM
  simp only [gt_iff_lt]
  by_cases hlen : d.length < (l + 7) / 8
  · rw [if_pos hlen, if_pos hlen]
  · rw [if_neg hlen, if_neg hlen]
    by_cases hc : 0 < (l + 7) / 8 ∧ l % 8 ≠ 0
    · rw [if_pos hc, if_pos hc, List.take_take, Nat.min_eq_left (Nat.sub_le _ _), List.getD_eq_getElem?_getD,
        List.getElem?_take_of_lt (Nat.sub_lt hc.1 Nat.one_pos), ← List.getD_eq_getElem?_getD]
    · rw [if_neg hc, if_neg hc]

end Sdb
