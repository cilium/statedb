import SdbModel.Model.PMap
import SdbModel.Lemmas.PMapRef

/-! `part.Map` (`Model.PMap`) refines the reference sorted association list, under the invariant `MapWF`:
    a singleton excludes a tree, and a tree is `TreeWF`. -/
namespace Sdb.PMap
open Sdb.Art

theorem emptyTree_wf : TreeWF emptyTree := ⟨trivial, rfl⟩

theorem emptyTree_all : allRoot emptyTree.root = [] := rfl

theorem txnOf_wf (t : Tree) (h : TreeWF t) : TxnWF (txnOf t) := h

theorem txnOf_all (t : Tree) : allRoot (txnOf t).root = allRoot t.root := rfl

theorem insT_wf (P : ArtParams) (x : Txn) (k : List Nat) (v : Nat) (h : TxnWF x) : TxnWF (insT P x k v) :=
  (Txn_insert_spec P x k v none h).wf

theorem insT_all (P : ArtParams) (x : Txn) (k : List Nat) (v : Nat) (h : TxnWF x) :
    allRoot (insT P x k v).root = sinsert (allRoot x.root) k v := by
  have hok := Txn_insert_spec P x k v none h
  unfold insT
  rw [hok.all, hok.nv, mergedVal_none]

theorem commitT_wf (x : Txn) (h : TxnWF x) : TreeWF (commitT x) := h

theorem commitT_all (x : Txn) : allRoot (commitT x).root = allRoot x.root := rfl

theorem commitT_size (x : Txn) : (commitT x).size = x.size := rfl

/-- the insertion loop of `FromMap` / `Unmarshal*` -/
theorem foldl_insT (P : ArtParams) (es : List KV) (x : Txn) (h : TxnWF x) :
    TxnWF (es.foldl (fun x (e : KV) => insT P x e.1 e.2) x) ∧
    allRoot (es.foldl (fun x (e : KV) => insT P x e.1 e.2) x).root = sinsertAll (allRoot x.root) es := by
  induction es generalizing x with
  | nil => exact ⟨h, rfl⟩
  | cons e es ih =>
    have := ih (insT P x e.1 e.2) (insT_wf P x e.1 e.2 h)
    rw [insT_all P x e.1 e.2 h] at this
    exact this

/-- the model writes the loop body with a pair pattern -/
theorem foldl_insT' (P : ArtParams) (es : List KV) (x : Txn) :
    es.foldl (fun x (k, v) => insT P x k v) x = es.foldl (fun x (e : KV) => insT P x e.1 e.2) x := rfl

def MapWF (m : Map) : Prop :=
  (m.single.isSome = true → m.tree = none) ∧ ∀ t, m.tree = some t → TreeWF t

theorem MapWF.tree_none {m : Map} (h : MapWF m) : m.single.isSome = true → m.tree = none := h.1

theorem MapWF.treeWF {m : Map} (h : MapWF m) {t : Tree} (ht : m.tree = some t) : TreeWF t := h.2 t ht

/-- the tree representation is only used for two or more entries, so the three representation states
    partition the abstract maps by size 0 / 1 / ≥ 2 -/
def MapCanon (m : Map) : Prop := MapWF m ∧ ∀ t, m.tree = some t → 2 ≤ t.size

theorem MapCanon.wf {m : Map} (h : MapCanon m) : MapWF m := h.1

theorem MapCanon.two_le {m : Map} (h : MapCanon m) {t : Tree} (ht : m.tree = some t) : 2 ≤ t.size := h.2 t ht

theorem mapWF_empty : MapWF {} := ⟨fun _ => rfl, fun _ h => nomatch h⟩

theorem mapCanon_empty : MapCanon {} := ⟨mapWF_empty, fun _ h => nomatch h⟩

theorem mapWF_single (e : KV) : MapWF { single := some e } := ⟨fun _ => rfl, fun _ h => nomatch h⟩

theorem mapCanon_single (e : KV) : MapCanon { single := some e } := ⟨mapWF_single e, fun _ h => nomatch h⟩

theorem mapWF_tree (t : Tree) (h : TreeWF t) : MapWF { single := none, tree := some t } :=
  ⟨(fun h => nomatch h), fun _ h' => Option.some.inj h' ▸ h⟩

theorem mapCanon_tree (t : Tree) (h : TreeWF t) (h2 : 2 ≤ (allRoot t.root).length) :
    MapCanon { single := none, tree := some t } :=
  ⟨mapWF_tree t h, fun _ h' => Option.some.inj h' ▸ h.size_eq ▸ h2⟩

theorem MapWF.cases {m : Map} (h : MapWF m) :
    m = {} ∨ (∃ e, m = { single := some e }) ∨ (∃ t, m = { single := none, tree := some t } ∧ TreeWF t) := by
  obtain ⟨s, t⟩ := m
  cases s with
  | some e =>
    cases (h.tree_none rfl : t = none)
    exact Or.inr (Or.inl ⟨e, rfl⟩)
  | none =>
    cases t with
    | none => exact Or.inl rfl
    | some t => exact Or.inr (Or.inr ⟨t, rfl, h.treeWF rfl⟩)

theorem MapCanon.cases {m : Map} (h : MapCanon m) :
    m = {} ∨ (∃ e, m = { single := some e }) ∨
      (∃ t, m = { single := none, tree := some t } ∧ TreeWF t ∧ 2 ≤ (allRoot t.root).length) := by
  rcases h.wf.cases with rfl | ⟨e, rfl⟩ | ⟨t, rfl, ht⟩
  · exact Or.inl rfl
  · exact Or.inr (Or.inl ⟨e, rfl⟩)
  · exact Or.inr (Or.inr ⟨t, rfl, ht, ht.size_eq ▸ h.two_le rfl⟩)

theorem all_sorted (m : Map) (h : MapWF m) : Sorted m.all := by
  rcases h.cases with rfl | ⟨e, rfl⟩ | ⟨t, rfl, ht⟩
  · exact sorted_nil
  · exact sorted_single e
  · exact allRoot_sorted _ ht.rootWF

theorem get_look (m : Map) (h : MapWF m) (k : List Nat) : m.get k = look m.all k := by
  rcases h.cases with rfl | ⟨⟨a, w⟩, rfl⟩ | ⟨t, rfl, ht⟩
  · rfl
  · simp only [Map.get, Map.all, look_cons, look_nil, beq_iff_eq]
  · exact getRoot_look _ ht.rootWF _ k

theorem len_length (m : Map) (h : MapWF m) : m.len = m.all.length := by
  rcases h.cases with rfl | ⟨e, rfl⟩ | ⟨t, rfl, ht⟩
  · rfl
  · rfl
  · exact ht.size_eq

theorem prefix_filter (m : Map) (h : MapWF m) (p : List Nat) :
    m.prefix p = m.all.filter (fun e => hasPrefix e.1 p) := by
  rcases h.cases with rfl | ⟨⟨a, w⟩, rfl⟩ | ⟨t, rfl, ht⟩
  · rfl
  · simp only [Map.prefix, Map.all, List.filter_cons, List.filter_nil]
  · exact prefixRoot_filter _ ht.rootWF _ p

theorem lowerBound_filter (m : Map) (h : MapWF m) (k : List Nat) :
    m.lowerBound k = m.all.filter (fun e => decide (cmpL e.1 k ≠ .lt)) := by
  rcases h.cases with rfl | ⟨⟨a, w⟩, rfl⟩ | ⟨t, rfl, ht⟩
  · rfl
  · simp only [Map.lowerBound, Map.all, List.filter_cons, List.filter_nil]
    cases cmpL a k <;> rfl
  · exact lbRoot_filter _ ht.rootWF k

/-- `c`: the side condition under which the operation returns the canonical representation -/
structure Spec (c : Prop) (m' : Map) (l : List KV) : Prop where
  wf : MapWF m'
  all : m'.all = l
  canon : c → MapCanon m'

theorem set_single_same (P : ArtParams) (k : List Nat) (w v : Nat) :
    Map.set P { single := some (k, w) } k v = { single := some (k, v) } := by
  simp only [Map.set, beq_self_eq_true, Bool.or_true, if_true]

theorem set_single_ne (P : ArtParams) (a k : List Nat) (w v : Nat) (hk : a ≠ k) :
    Map.set P { single := some (a, w) } k v =
      { single := none, tree := some (commitT (insT P (insT P (txnOf emptyTree) k v) a w)) } := by
  have : (a == k) = false := beq_false_of_ne hk
  simp only [Map.set, this]
  rfl

theorem set_tree (P : ArtParams) (t : Tree) (k : List Nat) (v : Nat) :
    Map.set P { single := none, tree := some t } k v =
      { single := none, tree := some (commitT (insT P (txnOf t) k v)) } := rfl

/-- canonicity is kept because a singleton with another key becomes a tree of two entries and
    a tree only grows -/
theorem set_spec (P : ArtParams) (m : Map) (h : MapWF m) (k : List Nat) (v : Nat) :
    Spec (MapCanon m) (m.set P k v) (sinsert m.all k v) := by
  rcases h.cases with rfl | ⟨⟨a, w⟩, rfl⟩ | ⟨t, rfl, ht⟩
  · exact ⟨mapWF_single _, rfl, fun _ => mapCanon_single _⟩
  · by_cases hk : a = k
    · subst hk
      rw [set_single_same]
      exact ⟨mapWF_single _, by simp only [Map.all, sinsert, cmpL_refl], fun _ => mapCanon_single _⟩
    · have h0 : TxnWF (txnOf emptyTree) := emptyTree_wf
      have h1 := insT_wf P _ k v h0
      have hall : allRoot (commitT (insT P (insT P (txnOf emptyTree) k v) a w)).root = sinsert [(a, w)] k v := by
        rw [commitT_all, insT_all P _ a w h1, insT_all P _ k v h0]
        exact sinsert_comm [] sorted_nil k a v w (Ne.symm hk)
      have hc := mapCanon_tree _ (commitT_wf _ (insT_wf P _ a w h1))
        (by rw [hall, length_sinsert _ (sorted_single _), look_cons, if_neg hk]; exact Nat.le_refl 2)
      rw [set_single_ne P a k w v hk]
      exact ⟨hc.wf, hall, fun _ => hc⟩
  · have h0 : TxnWF (txnOf t) := ht
    have hall : allRoot (commitT (insT P (txnOf t) k v)).root = sinsert (allRoot t.root) k v := insT_all P _ k v h0
    rw [set_tree]
    refine ⟨mapWF_tree _ (commitT_wf _ (insT_wf P _ k v h0)), hall,
      fun hc => mapCanon_tree _ (commitT_wf _ (insT_wf P _ k v h0)) ?_⟩
    rw [hall]
    exact Nat.le_trans (ht.size_eq ▸ hc.two_le rfl) (length_le_sinsert _ (allRoot_sorted _ ht.rootWF) k v)

theorem set_canon (P : ArtParams) (m : Map) (h : MapCanon m) (k : List Nat) (v : Nat) : MapCanon (m.set P k v) :=
  (set_spec P m h.wf k v).canon h

theorem sinsert_length_pos (l : List KV) (k : List Nat) (v : Nat) : 1 ≤ (sinsert l k v).length := by
  have : (k, v) ∈ sinsert l k v := look_some_mem _ _ _ (by rw [look_sinsert]; simp)
  exact List.length_pos_of_mem this

theorem bump_wf (x : Txn) (h : TxnWF x) : TxnWF x.bump := h

structure CommitOK (x : Txn) (r : Map × Txn) : Prop where
  canon : MapCanon r.1
  all : r.1.all = allRoot x.root
  txnWF : TxnWF r.2
  txnAll : allRoot r.2.root = allRoot x.root

theorem commitMapTxn_spec (x : Txn) (h : TxnWF x) : CommitOK x (commitMapTxn x) := by
  have hs := h.size_eq
  unfold commitMapTxn
  split
  · rename_i hz
    have hnil : allRoot x.root = [] := List.eq_nil_of_length_eq_zero (hz ▸ hs).symm
    exact { canon := mapCanon_empty, all := hnil.symm, txnWF := h, txnAll := rfl }
  · rename_i hz
    obtain ⟨e, he⟩ : ∃ e, allRoot x.root = [e] := List.length_eq_one_iff.mp (hz ▸ hs).symm
    show CommitOK x ({ single := (allRoot x.root).head? }, x.bump)
    rw [he]
    exact { canon := mapCanon_single e, all := he.symm, txnWF := h, txnAll := rfl }
  · rename_i h0 h1
    refine { canon := mapCanon_tree _ h ?_, all := rfl, txnWF := h, txnAll := rfl }
    show 2 ≤ (allRoot x.root).length
    rw [← hs]
    generalize x.size = n at h0 h1
    match n, h0, h1 with
    | n + 2, _, _ => omega

/-- `Delete` from a tree shrinks the representation the way `MapTxn.Commit` does -/
theorem delete_tree (P : ArtParams) (t : Tree) (k : List Nat) :
    Map.delete P { single := none, tree := some t } k = (commitMapTxn ((txnOf t).delete P k).1).1 := by
  simp only [Map.delete, commitMapTxn]
  split <;> rfl

/-- the result of `Delete` is in canonical representation whether or not the receiver was -/
theorem delete_spec (P : ArtParams) (m : Map) (h : MapWF m) (k : List Nat) :
    Spec True (m.delete P k) (sdelete m.all k) := by
  suffices MapCanon (m.delete P k) ∧ (m.delete P k).all = sdelete m.all k from ⟨this.1.wf, this.2, fun _ => this.1⟩
  rcases h.cases with rfl | ⟨⟨a, w⟩, rfl⟩ | ⟨t, rfl, ht⟩
  · exact ⟨mapCanon_empty, rfl⟩
  · by_cases hk : a = k
    · subst hk
      simp only [Map.delete, beq_self_eq_true, if_true, Map.all, sdelete_single]
      exact ⟨mapCanon_empty, trivial⟩
    · simp only [Map.delete, beq_iff_eq, hk, if_false, Map.all, sdelete_single]
      exact ⟨mapCanon_single _, trivial⟩
  · have hdel := Txn_delete_spec P (txnOf t) k ht
    have hc := commitMapTxn_spec _ hdel.wf
    rw [delete_tree]
    exact ⟨hc.canon, hc.all.trans hdel.all⟩

theorem ensure_wf (m : Map) (h : MapWF m) : TreeWF m.ensure := by
  rcases h.cases with rfl | ⟨e, rfl⟩ | ⟨t, rfl, ht⟩
  · exact emptyTree_wf
  · exact emptyTree_wf
  · exact ht

theorem txn_spec (P : ArtParams) (m : Map) (h : MapWF m) :
    TxnWF (m.txn P) ∧ allRoot (m.txn P).root = m.all := by
  rcases h.cases with rfl | ⟨⟨a, w⟩, rfl⟩ | ⟨t, rfl, ht⟩
  · exact ⟨emptyTree_wf, rfl⟩
  · exact ⟨insT_wf P _ a w emptyTree_wf, insT_all P _ a w emptyTree_wf⟩
  · exact ⟨ht, rfl⟩

theorem fromMap_cons2 (P : ArtParams) (m : Map) (e1 e2 : KV) (r : List KV) :
    m.fromMap P (e1 :: e2 :: r) =
      { single := none,
        tree := some (commitT ((e1 :: e2 :: r).foldl (fun x (e : KV) => insT P x e.1 e.2) (m.txn P))) } := rfl

/-- canonicity for a duplicate-free argument: two or more new entries with different keys make a
    tree of at least two entries -/
theorem fromMap_spec (P : ArtParams) (m : Map) (h : MapWF m) (hm : List KV) :
    Spec (MapCanon m ∧ KeysNodup hm) (m.fromMap P hm) (sinsertAll m.all hm) := by
  match hm with
  | [] => exact ⟨h, rfl, fun hc => hc.1⟩
  | [(k, v)] => exact ⟨(set_spec P m h k v).wf, (set_spec P m h k v).all, fun hc => (set_spec P m h k v).canon hc.1⟩
  | e1 :: e2 :: r =>
    obtain ⟨hx, hxall⟩ := txn_spec P m h
    obtain ⟨hwf, hall⟩ := foldl_insT P (e1 :: e2 :: r) _ hx
    rw [hxall] at hall
    rw [fromMap_cons2]
    refine ⟨mapWF_tree _ (commitT_wf _ hwf), hall, fun ⟨_, hd⟩ => mapCanon_tree _ (commitT_wf _ hwf) ?_⟩
    have hne : e1.1 ≠ e2.1 := by
      simp only [KeysNodup, List.map_cons, List.nodup_cons, List.mem_cons, not_or] at hd
      exact hd.1.1
    rw [commitT_all, hall]
    exact two_le_length_of_keys _ e1.1 e2.1 hne ((keys_sinsertAll ..).mpr (Or.inl List.mem_cons_self))
      ((keys_sinsertAll ..).mpr (Or.inl (List.mem_cons_of_mem _ List.mem_cons_self)))

theorem fromMap_canon (P : ArtParams) (m : Map) (h : MapCanon m) (hm : List KV) (hd : KeysNodup hm) :
    MapCanon (m.fromMap P hm) := (fromMap_spec P m h.wf hm).canon ⟨h, hd⟩

theorem ofEntries_eq_fromMap (P : ArtParams) (es : List KV) : Map.ofEntries P es = Map.fromMap P {} es := by
  match es with
  | [] => rfl
  | [(_, _)] => rfl
  | _ :: _ :: _ => rfl

theorem ofEntries_spec (P : ArtParams) (es : List KV) :
    Spec (KeysNodup es) (Map.ofEntries P es) (sinsertAll [] es) := by
  rw [ofEntries_eq_fromMap]
  have hs := fromMap_spec P {} mapWF_empty es
  exact ⟨hs.wf, hs.all, fun hd => hs.canon ⟨mapCanon_empty, hd⟩⟩

theorem ofEntries_canon (P : ArtParams) (es : List KV) (hd : KeysNodup es) : MapCanon (Map.ofEntries P es) :=
  (ofEntries_spec P es).canon hd

/-- marshal, then unmarshal: the iterated entries are sorted, so inserting them one by one gives them back -/
theorem roundtrip (P : ArtParams) (m : Map) (h : MapWF m) : Spec True (Map.ofEntries P m.all) m.all := by
  have hs := all_sorted m h
  have hspec := ofEntries_spec P m.all
  exact ⟨hspec.wf, by rw [hspec.all, sinsertAll_self _ hs], fun _ => hspec.canon (keysNodup_of_sorted _ hs)⟩

theorem canon_all_nil (m : Map) (h : MapCanon m) : m.all = [] ↔ m = {} := by
  constructor
  · intro ha
    rcases h.cases with rfl | ⟨e, rfl⟩ | ⟨t, rfl, _, h2⟩
    · rfl
    · exact nomatch ha
    · rw [show allRoot t.root = [] from ha] at h2
      simp at h2
  · rintro rfl; rfl

theorem canon_all_single (m : Map) (h : MapCanon m) (e : KV) : m.all = [e] ↔ m = { single := some e } := by
  constructor
  · intro ha
    rcases h.cases with rfl | ⟨e', rfl⟩ | ⟨t, rfl, _, h2⟩
    · exact nomatch ha
    · rw [List.cons.inj ha |>.1]
    · rw [show allRoot t.root = [e] from ha] at h2
      simp at h2
  · rintro rfl; rfl

theorem canon_tree_iff (m : Map) (h : MapCanon m) : m.tree.isSome = true ↔ 2 ≤ m.all.length := by
  rcases h.cases with rfl | ⟨e', rfl⟩ | ⟨t, rfl, _, h2⟩
  · simp [Map.all]
  · simp [Map.all]
  · exact ⟨fun _ => h2, fun _ => rfl⟩

theorem canon_rep_unique (m o : Map) (hm : MapCanon m) (ho : MapCanon o) (ha : m.all = o.all) :
    m.single = o.single ∧ m.tree.isSome = o.tree.isSome := by
  have ht : m.tree.isSome = o.tree.isSome := by
    rw [Bool.eq_iff_iff, canon_tree_iff m hm, canon_tree_iff o ho, ha]
  refine ⟨?_, ht⟩
  rcases hm.cases with rfl | ⟨e, rfl⟩ | ⟨t, rfl, _, _⟩
  · rw [(canon_all_nil o ho).mp ha.symm]
  · rw [(canon_all_single o ho e).mp ha.symm]
  · cases hs : o.single with
    | none => rfl
    | some e =>
      rw [ho.wf.tree_none (hs ▸ rfl)] at ht
      exact nomatch ht

end Sdb.PMap
