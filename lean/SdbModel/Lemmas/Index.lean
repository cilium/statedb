import SdbModel.Lemmas.IndexUnique
import SdbModel.Lemmas.IndexTags
import SdbModel.Lemmas.IndexLpmQ
/-!
  C04: the table-level index invariant `IdxInv` (primary index well formed, `TagInv` for the non-unique
  index, and `UInv` for the unique index and `LInv` for the two LPM indexes of a table that has them), kept
  by `modify` / `delete` / `deleteAll` (`IdxInv.write`, from the `write` lemma of each index), and lifted to
  every table of a database state (committed root and open write transaction) reachable by operation
  sequences.
-/
namespace Sdb.Tbl
open OMap

/-- what the caller guarantees about an object it writes: the primary key is a byte string whose
    escaped form is shorter than `B` (`B = 65536`: the uint16 length field of the composite keys;
    `B = 256`: the bound under which composite keys order by primary key, K2) -/
structure ObjOk (B : Nat) (o : Obj) : Prop where
  bytes : ∀ b ∈ o.id, b < 256
  idLen : (P.enc o.id).length < B
  /-- the LPM keys are byte strings long enough for their prefix length (`EncodeLPMKey` panics otherwise) -/
  pfxOk : ∀ k ∈ o.pfxs, LKeyOk k

/-- the documented precondition of a UNIQUE index, for the unique LPM index (whose key is derived from
    `ord`): no OTHER live object has the key of the written object -/
def UniqOk (t : TableS) (o : Obj) : Prop :=
  ∀ pk x, t.primary.get pk = some x → pk ≠ o.id → x.up = true → o.up = true → x.ord % 65536 ≠ o.ord % 65536

theorem ObjOk_iff (B : Nat) (o : Obj) :
    ObjOk B o ↔ (∀ b ∈ o.id, b < 256) ∧ (P.enc o.id).length < B ∧ ∀ k ∈ o.pfxs, LKeyOk k :=
  ⟨fun h => ⟨h.bytes, h.idLen, h.pfxOk⟩, fun h => ⟨h.1, h.2.1, h.2.2⟩⟩

instance (k : Key × Nat) : Decidable (LKeyOk k) := by unfold LKeyOk; infer_instance
instance (B : Nat) (o : Obj) : Decidable (ObjOk B o) := decidable_of_iff _ (ObjOk_iff B o).symm

/-- `UniqOk` in a form that `decide` can check on a concrete table -/
theorem UniqOk_of_all (t : TableS) (o : Obj)
    (h : ∀ e ∈ t.primary, e.1 ≠ o.id → e.2.up = true → o.up = true → e.2.ord % 65536 ≠ o.ord % 65536) :
    UniqOk t o :=
  fun pk x hx => h (pk, x) (get_some_mem _ _ _ hx)

theorem UniqOk_of_not_up (t : TableS) (o : Obj) (h : o.up = false) : UniqOk t o :=
  fun _ _ _ _ _ hu => by rw [h] at hu; exact absurd hu (by decide)

/-- `B`: see `ObjOk`.  The revision index is not covered: it is `TInv`'s. -/
structure IdxInv (B : Nat) (t : TableS) : Prop where
  pOk : POk t.primary
  idLen : IdLen B t.primary
  tag : TagInv t.primary t.tagIdx
  u : t.full = true → UInv t.primary t.uIdx
  lpm : t.full = true → LInv false (·.pfxs) t.primary t.lpm
  ulpm : t.full = true → LInv true (·.upKey) t.primary t.ulpm

/-- same index contents (the fields the invariant and the queries read) -/
structure SameIdx (t t' : TableS) : Prop where
  primary : t'.primary = t.primary
  tagIdx : t'.tagIdx = t.tagIdx
  uIdx : t'.uIdx = t.uIdx
  lpm : t'.lpm = t.lpm
  ulpm : t'.ulpm = t.ulpm
  full : t'.full = t.full

theorem IdxInv.congr {B : Nat} {t t' : TableS} (inv : IdxInv B t) (h : SameIdx t t') : IdxInv B t' where
  pOk := by rw [h.primary]; exact inv.pOk
  idLen := by rw [h.primary]; exact inv.idLen
  tag := by rw [h.primary, h.tagIdx]; exact inv.tag
  u := by rw [h.primary, h.uIdx, h.full]; exact inv.u
  lpm := by rw [h.primary, h.lpm, h.full]; exact inv.lpm
  ulpm := by rw [h.primary, h.ulpm, h.full]; exact inv.ulpm

theorem IdxInv.empty (B : Nat) (t : TableS) (hp : t.primary = []) (ht : t.tagIdx = []) (hu : t.uIdx = [])
    (hl : t.lpm = {}) (hul : t.ulpm = {}) : IdxInv B t where
  pOk := by rw [hp]; exact POk.nil
  idLen := by rw [hp]; exact IdLen.nil B
  tag := by rw [hp, ht]; exact TagInv.nil
  u _ := by rw [hp, hu]; exact UInv.nil
  lpm _ := by rw [hp, hl]; exact LInv.empty _ _
  ulpm _ := by rw [hp, hul]; exact LInv.empty _ _

theorem IdxInv.write {B : Nat} {t t' : TableS} (inv : IdxInv B t) (id : Key) (new : Option Obj)
    (hn : ∀ n, new = some n → n.id = id ∧ ObjOk B n) (hu : t.full = true → ∀ n, new = some n → UniqOk t n)
    (hp : POk t'.primary) (hP : Updated t.primary id new t'.primary)
    (hfull : t'.full = t.full) (hi : Reindexed t id (t.primary.get id) new t') : IdxInv B t' where
  pOk := hp
  idLen := by
    refine inv.idLen.write id new (fun h => ?_) hP
    obtain ⟨n, rfl⟩ := Option.ne_none_iff_exists'.mp h
    rw [← (hn n rfl).1]; exact (hn n rfl).2.idLen
  tag := by rw [hi.tagIdx]; exact inv.tag.write id new (fun n h => (hn n h).1) hP
  u hf := by
    rw [hfull] at hf
    rw [hi.uIdx, if_pos hf]
    exact (inv.u hf).write inv.pOk id new (fun n h => ⟨(hn n h).1, (hn n h).1 ▸ (hn n h).2.bytes⟩) hP
  lpm hf := by
    rw [hfull] at hf
    rw [hi.lpm, if_pos hf]
    exact (inv.lpm hf).write id new (fun n h => (hn n h).2.pfxOk) (fun h => nomatch h) hP
  ulpm hf := by
    rw [hfull] at hf
    rw [hi.ulpm, if_pos hf]
    refine (inv.ulpm hf).write id new (fun n _ => upKey_ok n) (fun _ pk x hx hne k hk1 hk2 => ?_) hP
    cases new with
    | none => exact nomatch hk2
    | some n =>
      -- `x` and `n` share a key of the unique LPM index: what `UniqOk` excludes
      obtain ⟨hxu, hnu, hord⟩ := (upKey_shared_iff x n).mp ⟨k, hk1, hk2⟩
      exact hu hf n rfl pk x hx ((hn n rfl).1 ▸ hne) hxu hnu hord

theorem ObjOk.newObj {B : Nat} {o : Obj} (ho : ObjOk B o) (t : TableS) (m : Bool) : ObjOk B (newObj t o m) :=
  ⟨by rw [newObj_id]; exact ho.bytes, by rw [newObj_id]; exact ho.idLen, by rw [newObj_pfxs]; exact ho.pfxOk⟩

theorem UniqOk.newObj {t : TableS} {o : Obj} (hu : UniqOk t o) (m : Bool) : UniqOk t (newObj t o m) := by
  unfold UniqOk
  rw [newObj_id, newObj_up, newObj_ord]
  exact hu

/-- `modify` serves Insert / Modify / CompareAndSwap; the refused calls are covered too -/
theorem IdxInv.modify_preserves {B : Nat} {t : TableS} (inv : IdxInv B t) (g : Nat) (o : Obj) (m : Bool)
    (ho : ObjOk B o) (hu : t.full = true → UniqOk t o) : IdxInv B (modify t g o m).1 := by
  match modify_outcome t g o m with
  | .notLocked (eq := h) .. | .notFound (eq := h) .. | .revNotEqual (eq := h) .. => rw [h]; exact inv
  | .ok (locked := hl) (guard := hg) (eq := h) (wrote := hm) .. =>
    have hi := modify_ok_idx t g o m hl hg
    rw [h] at hi ⊢
    refine inv.write o.id _ (fun n e => Option.some.inj e ▸ ⟨newObj_id t o m, ho.newObj t m⟩)
      (fun hf n e => Option.some.inj e ▸ (hu hf).newObj m) ?_ hm.updated hm.full hi
    rw [hm.primary, ← newObj_id t o m]; exact inv.pOk.insert _

theorem IdxInv.modify_ok {B : Nat} {t : TableS} (inv : IdxInv B t) (g : Nat) (o : Obj) (m : Bool) (ho : ObjOk B o)
    (hu : t.full = true → UniqOk t o) (hl : t.locked = true) (hg : GuardOk g (t.primary.get o.id)) :
    ∃ t', modify t g o m = (t', t.primary.get o.id, .ok) ∧ ModOk t o m t' ∧ IdxInv B t' := by
  obtain ⟨t', h, hm⟩ := Tbl.modify_ok t g o m hl hg
  have inv' := inv.modify_preserves g o m ho hu
  rw [h] at inv'
  exact ⟨t', h, hm, inv'⟩

/-- `delete` serves Delete / CompareAndDelete; the refused calls are covered too -/
theorem IdxInv.delete_preserves {B : Nat} {t : TableS} (inv : IdxInv B t) (g : Nat) (id : Key) :
    IdxInv B (delete t g id).1 := by
  match delete_outcome t g id with
  | .notLocked (eq := h) .. | .absent (eq := h) .. | .revNotEqual (eq := h) .. => rw [h]; exact inv
  | .ok (locked := hl) (old := old) (present := hs) (guard := hg) (eq := h) (wrote := hd) .. =>
    have hi := delete_ok_idx t g id hl old hs hg
    rw [h, ← hs] at hi
    rw [h]
    refine inv.write id none (fun _ e => nomatch e) (fun _ _ e => nomatch e) ?_ (hd.updated inv.pOk.sorted)
      hd.full hi
    rw [hd.primary]; exact inv.pOk.erase _

theorem IdxInv.delFold_preserves {B : Nat} {t : TableS} (inv : IdxInv B t) (l : List (Key × Obj)) :
    IdxInv B (delFold l t) := by
  induction l generalizing t with
  | nil => exact inv
  | cons x l ih => rw [delFold_cons]; exact ih (inv.delete_preserves 0 x.1)

theorem IdxInv.deleteAll_preserves {B : Nat} {t : TableS} (inv : IdxInv B t) : IdxInv B (deleteAll t).1 := by
  rw [deleteAll_eq]
  cases t.locked
  · exact inv
  · exact inv.delFold_preserves _

/-- admissible table-level operations (`Tbl.Op`, Lemmas/Table.lean): a written object satisfies `ObjOk`
    and, on a table with a unique LPM index, the uniqueness precondition in the current state -/
def Op.Ok (B : Nat) (t : TableS) : Op → Prop
  | .modify _ o _ => ObjOk B o ∧ (t.full = true → UniqOk t o)
  | .delete _ _ => True

/-- every operation of the sequence is admissible in the state it is applied to -/
def RunOk (B : Nat) (t : TableS) : List Op → Prop
  | [] => True
  | op :: ops => op.Ok B t ∧ RunOk B (op.apply t).1 ops

def DB.tables (db : DB) : List TableS := db.root ++ db.wtxn.getD []

/-- `Op.Ok` in the current state of the addressed table of the write transaction -/
def DbOp.Ok (B : Nat) (db : DB) : DbOp → Prop
  | .modify ti _ o _ => ObjOk B o ∧
      match db.wtxn with
      | some es => (DB.wTable es ti).full = true → UniqOk (DB.wTable es ti) o
      | none => True
  | _ => True

def DIdx (B : Nat) (db : DB) : Prop := ∀ t ∈ db.tables, IdxInv B t

theorem DIdx.newDB (B : Nat) : DIdx B newDB := by
  intro t ht
  simp only [DB.tables, Tbl.newDB, Option.getD_none, List.append_nil, List.mem_cons, List.not_mem_nil,
    or_false] at ht
  rcases ht with rfl | rfl <;> exact IdxInv.empty B _ rfl rfl rfl rfl rfl

theorem DIdx.root {B : Nat} {db : DB} (h : DIdx B db) : ∀ t ∈ db.root, IdxInv B t :=
  fun t ht => h t (List.mem_append_left _ ht)

theorem DIdx.txn {B : Nat} {db : DB} (h : DIdx B db) (es : List TableS) (hes : db.wtxn = some es) :
    ∀ t ∈ es, IdxInv B t :=
  fun t ht => h t (List.mem_append_right _ (by rw [hes]; exact ht))

theorem DIdx.of_root_txn {B : Nat} {db : DB} (hr : ∀ t ∈ db.root, IdxInv B t)
    (hw : ∀ es, db.wtxn = some es → ∀ t ∈ es, IdxInv B t) : DIdx B db := by
  intro t ht
  rcases List.mem_append.mp ht with h | h
  · exact hr t h
  · cases hes : db.wtxn with
    | none => rw [hes] at h; simp at h
    | some es => rw [hes] at h; exact hw es hes t h

theorem DIdx.setW {B : Nat} {db : DB} (inv : DIdx B db) {es : List TableS} (hes : db.wtxn = some es) (ti : Nat)
    (t' : TableS) (h : IdxInv B (DB.wTable es ti) → IdxInv B t') :
    DIdx B { db with wtxn := some (es.set ti t') } := by
  refine DIdx.of_root_txn inv.root fun es' hes' t ht => ?_
  obtain rfl : es.set ti t' = es' := Option.some.inj hes'
  rcases mem_set_cases ht with h' | ⟨rfl, h'⟩
  · exact inv.txn es hes t h'
  · exact h (inv.txn es hes _ h')

theorem DIdx.step {B : Nat} {db : DB} (inv : DIdx B db) (op : DbOp) (hop : op.Ok B db) : DIdx B (db.step op) := by
  cases op with
  | beginW lm la =>
    simp only [DB.step]
    split
    · exact inv
    · refine DIdx.of_root_txn inv.root fun es hes t ht => ?_
      obtain rfl := Option.some.inj hes
      obtain ⟨i, hi, rfl⟩ := List.mem_mapIdx.mp ht
      exact (inv.root _ (List.getElem_mem hi)).congr ⟨rfl, rfl, rfl, rfl, rfl, rfl⟩
  | modify ti g o m =>
    simp only [DB.step, DB.wModify]
    cases hes : db.wtxn with
    | none => exact inv
    | some es =>
      have hu := hop.2
      rw [hes] at hu
      exact inv.setW hes ti _ fun h => h.modify_preserves g o m hop.1 hu
  | delete ti g id =>
    simp only [DB.step, DB.wDelete]
    cases hes : db.wtxn with
    | none => exact inv
    | some es => exact inv.setW hes ti _ fun h => h.delete_preserves g id
  | deleteAll ti =>
    simp only [DB.step, DB.wDeleteAll]
    cases hes : db.wtxn with
    | none => exact inv
    | some es => exact inv.setW hes ti _ fun h => h.deleteAll_preserves
  | track ti id =>
    simp only [DB.step, DB.wTrack]
    cases hes : db.wtxn with
    | none => exact inv
    | some es =>
      simp only
      split
      · exact inv.setW hes ti _ fun h => h.congr ⟨rfl, rfl, rfl, rfl, rfl, rfl⟩
      · exact inv
  | commit =>
    simp only [DB.step, DB.commit]
    cases hes : db.wtxn with
    | none => exact inv
    | some es =>
      refine DIdx.of_root_txn (fun t ht => ?_) (fun es' h => nomatch h)
      obtain ⟨⟨e, cur⟩, hz, rfl⟩ := List.mem_map.mp ht
      have ⟨he, hc⟩ := List.of_mem_zip hz
      simp only
      split
      · exact (inv.txn es hes e he).congr ⟨rfl, rfl, rfl, rfl, rfl, rfl⟩
      · exact inv.root cur hc
  | abort => exact DIdx.of_root_txn inv.root (fun es h => nomatch h)
  | gc =>
    simp only [DB.step]
    split
    · exact inv
    · rename_i hw
      refine DIdx.of_root_txn (fun t ht => ?_) (fun es hes => ?_)
      · simp only [gcApply] at ht
        obtain ⟨i, hi, rfl⟩ := List.mem_mapIdx.mp ht
        have hr := inv.root _ (List.getElem_mem hi)
        split
        · exact hr
        next ks _ =>
          obtain ⟨gr, g, h⟩ := gcFold_eq ks db.root[i]
          exact hr.congr ⟨congrArg (·.primary) h, congrArg (·.tagIdx) h, congrArg (·.uIdx) h,
            congrArg (·.lpm) h, congrArg (·.ulpm) h, congrArg (·.full) h⟩
      · have : db.wtxn = some es := hes
        rw [this] at hw; simp at hw

/-- states reachable from the fresh database by admissible operations (any interleaving of write
    transactions, writes, delete trackers, commits, aborts, graveyard collections), the revision
    counters staying inside `uint64` -/
inductive IReach (B : Nat) : DB → Prop where
  | init : IReach B newDB
  | step {db : DB} (op : DbOp) : IReach B db → (db.step op).Bounded → op.Ok B db → IReach B (db.step op)

theorem IReach.reach {B : Nat} {db : DB} (h : IReach B db) : Reach db := by
  induction h with
  | init => exact Reach.init
  | step op _ hb _ ih => exact Reach.step op ih hb

theorem IReach.inv {B : Nat} {db : DB} (h : IReach B db) : DIdx B db := by
  induction h with
  | init => exact DIdx.newDB B
  | step op _ _ hop ih => exact ih.step op hop

end Sdb.Tbl
