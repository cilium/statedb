import SdbModel.Lemmas.ArtWF

/-! `insNode` keeps `WFNode` and acts on `entries` as the insertion of one binding. -/
namespace Sdb.Art

theorem commonPrefix_nil_right (a : List Nat) : commonPrefix a [] = [] := by
  cases a <;> rfl

theorem commonPrefix_append (p t : List Nat) : commonPrefix (p ++ t) p = p := by
  induction p with
  | nil => cases t <;> rfl
  | cons x xs ih => simp [commonPrefix, ih]

def mergedVal (mod : Option (Nat → Nat → Nat)) (old : Option Nat) (val : Nat) : Nat :=
  match old, mod with
  | some o, some f => f o val
  | _, _ => val

theorem mergedVal_none (old : Option Nat) (v : Nat) : mergedVal none old v = v := by
  cases old <;> rfl

/-- what `insAt` / `insNode` return at a node `n` well-formed for `acc`, for the key `full = acc ++ key`;
    `pfx` is there for the parent: the new child still starts with the byte it is stored under -/
structure InsOK (acc : List Nat) (n : Node) (key full : List Nat) (val : Nat)
    (mod : Option (Nat → Nat → Nat)) (r : InsRes) : Prop where
  wf : WFNode acc r.node
  pfx : r.node.pfx = commonPrefix key n.pfx
  old : r.old = look (entries n) full
  nv : r.newVal = mergedVal mod r.old val
  mem : ∀ e, e ∈ entries r.node ↔ e = (full, r.newVal) ∨ (e.1 ≠ full ∧ e ∈ entries n)

theorem insAt_at_leaf (P : ArtParams) (st : St) (p : List Nat) (d : LeafD) (full : List Nat) (val : Nat)
    (mod : Option (Nat → Nat → Nat)) :
    ∃ st' w, insAt P st (.leaf p d) p full val mod =
      { st := st', node := .leaf p { d with watch := w, val := mergedVal mod (some d.val) val },
        old := some d.val, newVal := mergedVal mod (some d.val) val, watch := w } := by
  obtain ⟨st', w, e⟩ := cloneNode_leaf st p d
  unfold insAt
  simp only [Node.pfx, commonPrefix_self, and_self, if_true, e]
  cases mod <;> exact ⟨_, _, rfl⟩

theorem insAt_at_inner (P : ArtParams) (st : St) (k : Nat) (p : List Nat) (lf : Option LeafD) (kids : Kids)
    (w t : Nat) (full : List Nat) (val : Nat) (mod : Option (Nat → Nat → Nat)) :
    ∃ st' d' w' t', insAt P st (.inner k p lf kids w t) p full val mod =
      { st := st', node := .inner k p (some d') kids w' t', old := lf.map (·.val), newVal := d'.val,
        watch := d'.watch } ∧
      d'.key = (lf.map (·.key)).getD full ∧ d'.val = mergedVal mod (lf.map (·.val)) val := by
  obtain ⟨st', w', t', e⟩ := cloneNode_inner st k p lf kids w t
  unfold insAt
  simp only [Node.pfx, commonPrefix_self, and_self, if_true, e]
  cases lf with
  | some d =>
    obtain ⟨st'', w'', e'⟩ := cloneLeafD_eq st' d
    simp only [e']
    cases mod <;> exact ⟨_, _, _, _, rfl, rfl, rfl⟩
  | none => exact ⟨_, _, _, _, rfl, rfl, rfl⟩

theorem insAt_exact (P : ArtParams) (st : St) (acc : List Nat) (n : Node) (key full : List Nat) (val : Nat)
    (mod : Option (Nat → Nat → Nat)) (hwf : WFNode acc n) (hfull : full = acc ++ key) (hk : key = n.pfx) :
    InsOK acc n key full val mod (insAt P st n key full val mod) := by
  cases n with
  | leaf p d =>
    obtain rfl : p = key := hk.symm
    obtain ⟨st', w, e⟩ := insAt_at_leaf P st p d full val mod
    have hkey : d.key = full := hfull ▸ hwf
    rw [e]
    refine ⟨hwf, (commonPrefix_self p).symm, ?_, rfl, ?_⟩
    · exact ((look_cons ..).trans (if_pos hkey)).symm
    · exact hkey ▸ mem_ins_head (A := [(d.key, d.val)]) (B := []) (fun e he => List.mem_singleton.mp he ▸ rfl)
        (fun _ h => nomatch h)
  | inner k p lf kids w t =>
    obtain rfl : p = key := hk.symm
    obtain ⟨st', d', w', t', e, hd, hv⟩ := insAt_at_inner P st k p lf kids w t full val mod
    obtain ⟨hlf, hkids⟩ := hwf
    have hA := lfList_key hlf
    have hB := entriesK_ne_self acc p kids hkids
    rw [← hfull] at hA hB
    have hd' : d'.key = full := by
      cases lf with
      | none => exact hd
      | some d => exact hd.trans (hfull ▸ hlf d rfl)
    have hold : look (entries (.inner k p lf kids w t)) full = lf.map (·.val) := by
      rw [entries_inner]
      cases lf with
      | none => exact (look_eq_none_iff _ _).mpr hB
      | some d => exact (look_cons ..).trans (if_pos (hA _ (List.mem_singleton_self _)))
    rw [e]
    refine ⟨⟨fun _ h => Option.some.inj h ▸ hd'.trans hfull, hkids⟩, (commonPrefix_self p).symm, hold.symm,
      hv.trans (hold ▸ rfl), fun e => ?_⟩
    rw [entries_inner, entries_inner, lfList, hd']
    exact mem_ins_head hA hB e

/-- `hin`: at an inner node `insNode` reaches the partial-match branch only when the key leaves the node's prefix. -/
theorem leaf_of_pfx_used (n : Node) (key : List Nat) (hin : n.isLeaf = false → hasPrefix key n.pfx = false)
    (hnil : n.pfx.drop (commonPrefix key n.pfx).length = []) : n.isLeaf = true := by
  obtain ⟨e1, e2, _⟩ := commonPrefix_split key n.pfx
  rw [hnil, List.append_nil] at e2
  rw [← e2] at e1
  cases hl : n.isLeaf with
  | true => rfl
  | false => exact absurd e1 (hasPrefix_false_ne key n.pfx (hin hl) _)

theorem insAt_partial_eq (P : ArtParams) (st : St) (n : Node) (key full : List Nat) (val : Nat)
    (mod : Option (Nat → Nat → Nat)) (hne : key ≠ n.pfx)
    (hin : n.isLeaf = false → hasPrefix key n.pfx = false) :
    ∃ (st' : St) (n0 : Node) (dw w tx wt : Nat),
      insAt P st n key full val mod =
        { st := st',
          node := forkNode (P.caps.headD 4) (commonPrefix key n.pfx)
            (n0.setPfx (n.pfx.drop (commonPrefix key n.pfx).length))
            (key.drop (commonPrefix key n.pfx).length) { key := full, val := val, watch := dw } w tx,
          old := none, newVal := val, watch := wt } ∧
      n0.pfx = n.pfx ∧ entries n0 = entries n ∧ (∀ acc, WFNode acc n → WFNode acc n0) ∧
      (n.pfx.drop (commonPrefix key n.pfx).length = [] → ∀ p, (n0.setPfx p).isLeaf = true) ∧
      (n0 = n ∨ ∃ k p lf kids w t w' t', n = .inner k p lf kids w t ∧ n0 = .inner k p lf kids w' t') := by
  unfold insAt
  rw [if_neg (by rw [insAt_cond]; exact hne)]
  cases n with
  | leaf p d =>
    exact ⟨_, .leaf p d, _, _, _, _, rfl, rfl, rfl, fun _ h => h, fun _ _ => rfl, Or.inl rfl⟩
  | inner k p lf kids w t =>
    obtain ⟨st', w', t', e⟩ := cloneNode_inner st k p lf kids w t
    simp only [e]
    exact ⟨_, .inner k p lf kids w' t', _, _, _, _, rfl, rfl, by simp [entries],
      fun _ h => by simpa [WFNode] using h, fun hnil => (nomatch leaf_of_pfx_used _ key hin hnil),
      Or.inr ⟨_, _, _, _, _, _, _, _, rfl, rfl⟩⟩

theorem leaf_of_isLeaf (n : Node) (h : n.isLeaf = true) : ∃ p d, n = .leaf p d := by
  cases n with
  | leaf p d => exact ⟨p, d, rfl⟩
  | inner => simp [Node.isLeaf] at h

theorem mem_entriesK_insert (b : Nat) (child : Node) (e : List Nat × Nat) : (kids : Kids) →
    (e ∈ entriesK (kids.insert b child) ↔ e ∈ entries child ∨ e ∈ entriesK kids)
  | .nil => by simp [Kids.insert, entriesK]
  | .cons c m r => by
    simp only [Kids.insert]
    split
    · rw [entriesK, List.mem_append]
    · rw [entriesK, entriesK, List.mem_append, List.mem_append, mem_entriesK_insert b child e r, or_left_comm]

theorem mem_keys_insert (b : Nat) (child : Node) (c : Nat) : (kids : Kids) →
    (c ∈ (kids.insert b child).keys ↔ c = b ∨ c ∈ kids.keys)
  | .nil => by simp [Kids.insert, Kids.keys]
  | .cons c' m r => by
    simp only [Kids.insert]
    split
    · rw [Kids.keys, List.mem_cons]
    · rw [Kids.keys, Kids.keys, List.mem_cons, List.mem_cons, mem_keys_insert b child c r, or_left_comm]

theorem WFKids_insert (acc : List Nat) (b : Nat) (child : Node) (hp : ∃ t, child.pfx = b :: t)
    (hc : WFNode acc child) : (kids : Kids) → WFKids acc kids → b ∉ kids.keys →
    WFKids acc (kids.insert b child)
  | .nil, _, _ => by simp only [Kids.insert, WFKids, Kids.keys]; exact ⟨hp, hc, by simp, trivial⟩
  | .cons c m r, h, hb => by
    obtain ⟨h1, h2, h3, h4⟩ := h
    have hbc : b ≠ c := fun e => hb (by rw [e]; exact List.mem_cons_self ..)
    have hbr : b ∉ r.keys := fun e => hb (List.mem_cons_of_mem _ e)
    simp only [Kids.insert]
    split
    · rename_i hlt
      refine ⟨hp, hc, fun x hx => ?_, h1, h2, h3, h4⟩
      rcases List.mem_cons.mp hx with rfl | hx
      · exact hlt
      · exact Nat.lt_trans hlt (h3 x hx)
    · rename_i hlt
      refine ⟨h1, h2, fun x hx => ?_, WFKids_insert acc b child hp hc r h4 hbr⟩
      rcases (mem_keys_insert b child x r).mp hx with rfl | hx
      · exact Nat.lt_of_le_of_ne (Nat.not_lt.mp hlt) (Ne.symm hbc)
      · exact h3 x hx

/-- the last case of `forkNode` is a `Kids.insert` into a singleton, the form `WFKids_insert` and
    `mem_entriesK_insert` speak of -/
theorem forkNode_two (k4 : Nat) (c : List Nat) (this : Node) (x : Nat) (t : List Nat) (d : LeafD) (w tx y : Nat)
    (s : List Nat) (hb : this.pfx = y :: s) (hxy : x ≠ y) :
    forkNode k4 c this (x :: t) d w tx =
      .inner k4 c none ((Kids.cons y this .nil).insert x (.leaf (x :: t) d)) w tx := by
  unfold forkNode
  rw [hb]
  simp only [Kids.insert]
  by_cases hlt : y < x
  · rw [if_pos hlt, if_neg (Nat.lt_asymm hlt)]
  · rw [if_neg hlt, if_pos (Nat.lt_of_le_of_ne (Nat.not_lt.mp hlt) hxy)]

theorem forkNode_ok (k4 : Nat) (acc c : List Nat) (this : Node) (a' : List Nat) (d : LeafD) (w tx : Nat)
    (hwf : WFNode (acc ++ c) this) (hd : d.key = acc ++ c ++ a')
    (hnil : this.pfx = [] → this.isLeaf = true ∧ a' ≠ [])
    (hdiff : ∀ x t y s, a' = x :: t → this.pfx = y :: s → x ≠ y) :
    WFNode acc (forkNode k4 c this a' d w tx) ∧ (forkNode k4 c this a' d w tx).pfx = c ∧
    ∀ e, e ∈ entries (forkNode k4 c this a' d w tx) ↔ e = (d.key, d.val) ∨ e ∈ entries this := by
  cases hb : this.pfx with
  | nil =>
    obtain ⟨hl, ha⟩ := hnil hb
    obtain ⟨p0, d0, rfl⟩ := leaf_of_isLeaf this hl
    cases hb
    cases a' with
    | nil => exact absurd rfl ha
    | cons x t =>
      simp only [WFNode, List.append_nil] at hwf
      refine ⟨?_, rfl, fun e => ?_⟩
      · simp only [forkNode, WFNode, WFKids, Node.getLeaf, Option.some.injEq, List.headD_cons, Node.pfx, Kids.keys]
        exact ⟨by intro d' h; rw [← h]; exact hwf, ⟨t, rfl⟩, hd, by simp, trivial⟩
      · simp only [forkNode, Node.pfx, entries, entriesK, Node.getLeaf, List.mem_append, List.mem_singleton,
          List.append_nil]
        exact Or.comm
  | cons y s =>
    cases a' with
    | nil =>
      unfold forkNode
      rw [hb]
      refine ⟨?_, rfl, fun e => ?_⟩
      · simp only [WFNode, WFKids, Option.some.injEq, Kids.keys]
        exact ⟨by intro d' h; rw [← h]; simpa using hd, ⟨s, hb⟩, hwf, by simp, trivial⟩
      · simp only [entries, entriesK, List.mem_append, List.mem_singleton, List.append_nil]
    | cons x t =>
      have hxy := hdiff x t y s rfl hb
      have hk : WFKids (acc ++ c) (.cons y this .nil) := ⟨⟨s, hb⟩, hwf, fun _ h => (nomatch h), trivial⟩
      rw [forkNode_two k4 c this x t d w tx y s hb hxy]
      refine ⟨⟨fun _ h => (nomatch h), WFKids_insert (acc ++ c) x (.leaf (x :: t) d) ⟨t, rfl⟩ hd _ hk fun h => hxy (List.mem_singleton.mp h)⟩,
        rfl, fun e => ?_⟩
      rw [entries_inner, lfList, List.nil_append, mem_entriesK_insert, entriesK, entriesK, List.append_nil, entries_leaf,
        List.mem_singleton]

theorem look_none_of_partial (acc : List Nat) (n : Node) (key : List Nat) (hwf : WFNode acc n) (hne : key ≠ n.pfx)
    (hin : n.isLeaf = false → hasPrefix key n.pfx = false) : look (entries n) (acc ++ key) = none := by
  cases n with
  | leaf p d =>
    simp only [WFNode] at hwf
    simp only [Node.pfx] at hne
    simp [entries, look_cons, hwf, Ne.symm hne]
  | inner k p lf kids w t =>
    exact lookN_none acc _ hwf key (hasPrefix_false_ne key p (hin rfl))

theorem insAt_partial (P : ArtParams) (st : St) (acc : List Nat) (n : Node) (key full : List Nat) (val : Nat)
    (mod : Option (Nat → Nat → Nat)) (hwf : WFNode acc n) (hfull : full = acc ++ key) (hne : key ≠ n.pfx)
    (hin : n.isLeaf = false → hasPrefix key n.pfx = false) :
    InsOK acc n key full val mod (insAt P st n key full val mod) := by
  have habs := look_none_of_partial acc n key hwf hne hin
  rw [← hfull] at habs
  have hno := (look_eq_none_iff _ _).mp habs
  obtain ⟨st', n0, dw, w, tx, wt, heq, hp0, he0, hwf0, hleaf, _⟩ := insAt_partial_eq P st n key full val mod hne hin
  rw [heq]
  obtain ⟨e1, e2, hdiff⟩ := commonPrefix_split key n.pfx
  obtain ⟨c, hc⟩ : ∃ c, commonPrefix key n.pfx = c := ⟨_, rfl⟩
  rw [hc] at e1 e2 hdiff ⊢
  have hwf1 : WFNode (acc ++ c) (n0.setPfx (n.pfx.drop c.length)) :=
    WFNode_setPfx acc (acc ++ c) _ n0 (by rw [hp0, List.append_assoc, ← e2]) (hwf0 acc hwf)
  have hfork := forkNode_ok (P.caps.headD 4) acc c (n0.setPfx (n.pfx.drop c.length)) (key.drop c.length)
    { key := full, val := val, watch := dw } w tx hwf1
    (by simp only [hfull, List.append_assoc]; rw [← e1]) ?_ ?_
  · obtain ⟨h1, h2, h3⟩ := hfork
    refine ⟨h1, h2.trans hc.symm, habs.symm, by cases mod <;> rfl, ?_⟩
    exact mem_ins_of_absent hno fun e => by rw [h3, entries_setPfx, he0]
  · intro hnil
    rw [Node.pfx_setPfx] at hnil
    refine ⟨hleaf (hc ▸ hnil) _, fun ha => ?_⟩
    rw [hnil, List.append_nil] at e2
    rw [ha, List.append_nil] at e1
    exact hne (e1.trans e2.symm)
  · intro x t y s ha hb
    rw [Node.pfx_setPfx] at hb
    exact hdiff x t y s ha hb

theorem insKids_none_notin (P : ArtParams) (acc : List Nat) (b : Nat) (key full : List Nat) (val : Nat)
    (mod : Option (Nat → Nat → Nat)) : (kids : Kids) → (st : St) → WFKids acc kids →
    insKids P st kids b key full val mod = none → b ∉ kids.keys
  | .nil, _, _, _ => by simp [Kids.keys]
  | .cons c m r, st, h, hn => by
    simp only [WFKids] at h
    obtain ⟨_, _, h3, h4⟩ := h
    unfold insKids at hn
    split at hn
    · simp at hn
    · rename_i hcb
      simp only [Kids.keys, List.mem_cons, not_or]
      refine ⟨fun e => hcb e.symm, ?_⟩
      split at hn
      · split at hn
        · simp at hn
        · rename_i hnone
          exact insKids_none_notin P acc b key full val mod r st h4 hnone
      · intro hb; have := h3 b hb; omega

theorem insNode_inner_stop (P : ArtParams) (st : St) (kind : Nat) (pfx : List Nat) (lf : Option LeafD) (kids : Kids)
    (w t : Nat) (key full : List Nat) (val : Nat) (mod : Option (Nat → Nat → Nat))
    (h : hasPrefix key pfx = false ∨ key = pfx) :
    insNode P st (.inner kind pfx lf kids w t) key full val mod =
      insAt P st (.inner kind pfx lf kids w t) key full val mod := by
  unfold insNode
  rw [if_neg]
  rintro ⟨_, h2, h3⟩
  rcases h with h | rfl
  · rw [h] at h2; exact nomatch h2
  · exact h3 rfl

theorem insNode_inner_below (P : ArtParams) (st : St) (kind : Nat) (pfx : List Nat) (lf : Option LeafD) (kids : Kids)
    (w t b : Nat) (rest full : List Nat) (val : Nat) (mod : Option (Nat → Nat → Nat)) :
    (∃ r kids' st' w' t', insKids P st kids b (b :: rest) full val mod = some (r, kids') ∧
      insNode P st (.inner kind pfx lf kids w t) (pfx ++ b :: rest) full val mod =
        { r with st := st', node := .inner kind pfx lf kids' w' t' }) ∨
    (insKids P st kids b (b :: rest) full val mod = none ∧ ∃ st' dw w' t',
      insNode P st (.inner kind pfx lf kids w t) (pfx ++ b :: rest) full val mod =
        { st := st',
          node := .inner (if kids.size + 1 > kind then nextKind P kind else kind) pfx lf
            (kids.insert b (.leaf (b :: rest) { key := full, val := val, watch := dw })) w' t',
          old := none, newVal := val, watch := dw }) := by
  have hcond : (pfx ++ b :: rest) ≠ [] ∧ hasPrefix (pfx ++ b :: rest) pfx = true ∧
      (pfx ++ b :: rest).length ≠ pfx.length :=
    ⟨fun e => (nomatch (List.append_eq_nil_iff.mp e).2), hasPrefix_append_self pfx _, by simp⟩
  unfold insNode
  rw [if_pos hcond]
  simp only [List.drop_left, List.headD_cons]
  cases hins : insKids P st kids b (b :: rest) full val mod with
  | some x =>
    obtain ⟨r, kids'⟩ := x
    obtain ⟨st', w', t', e⟩ := cloneNode_inner r.st kind pfx lf kids' w t
    refine .inl ⟨r, kids', st', w', t', rfl, ?_⟩
    simp only [e]
  | none =>
    obtain ⟨st1, w1, e1⟩ := newLeafD_eq st full val
    refine .inr ⟨rfl, ?_⟩
    simp only [e1]
    split
    · exact ⟨_, _, _, _, rfl⟩
    · obtain ⟨st', w', t', e⟩ := cloneNode_inner st1 kind pfx lf
        (Kids.insert b (Node.leaf (b :: rest) { key := full, val := val, watch := w1 }) kids) w t
      simp only [e]
      exact ⟨_, _, _, _, rfl⟩

theorem insOK_inner_below {acc pfx : List Nat} {lf : Option LeafD} {kids kids' : Kids} {b : Nat} {rest full : List Nat}
    {val : Nat} {mod : Option (Nat → Nat → Nat)} {kind w t kind' w' t' : Nat} {st' : St} {old : Option Nat}
    {newVal watch : Nat}
    (hlf : ∀ d, lf = some d → d.key = acc ++ pfx) (hk' : WFKids (acc ++ pfx) kids')
    (hfull : full = acc ++ pfx ++ b :: rest) (hold : old = look (entriesK kids) full)
    (hnv : newVal = mergedVal mod old val)
    (hmem : ∀ e, e ∈ entriesK kids' ↔ e = (full, newVal) ∨ (e.1 ≠ full ∧ e ∈ entriesK kids)) :
    InsOK acc (.inner kind pfx lf kids w t) (pfx ++ b :: rest) full val mod
      { st := st', node := .inner kind' pfx lf kids' w' t', old := old, newVal := newVal, watch := watch } := by
  have hl := lf_ne acc pfx lf hlf b rest
  rw [← hfull] at hl
  refine ⟨⟨hlf, hk'⟩, (commonPrefix_append pfx _).symm, ?_, hnv, fun e => ?_⟩
  · rw [entries_inner, look_append_of_none _ _ _ ((look_eq_none_iff _ _).mpr hl)]
    exact hold
  · rw [entries_inner, entries_inner]
    exact mem_ins_append_right hl hmem e

mutual
theorem insNode_ok (P : ArtParams) (acc : List Nat) (n : Node) (st : St) (key full : List Nat) (val : Nat)
    (mod : Option (Nat → Nat → Nat)) (hwf : WFNode acc n) (hfull : full = acc ++ key) :
    InsOK acc n key full val mod (insNode P st n key full val mod) := by
  cases n with
  | leaf p d =>
    unfold insNode
    by_cases hk : key = p
    · exact insAt_exact P st acc _ key full val mod hwf hfull hk
    · exact insAt_partial P st acc _ key full val mod hwf hfull hk (fun h => nomatch h)
  | inner kind pfx lf kids w t =>
    rcases pfx_cases key pfx with hp | rfl | ⟨b, rest, rfl⟩
    · rw [insNode_inner_stop P st kind pfx lf kids w t key full val mod (.inl hp)]
      refine insAt_partial P st acc _ key full val mod hwf hfull (fun e => ?_) fun _ => hp
      rw [show key = pfx from e, hasPrefix_self] at hp; exact nomatch hp
    · rw [insNode_inner_stop P st kind key lf kids w t key full val mod (.inr rfl)]
      exact insAt_exact P st acc _ key full val mod hwf hfull rfl
    · obtain ⟨hlf, hkids⟩ := hwf
      have hfull' : full = acc ++ pfx ++ b :: rest := by rw [hfull, List.append_assoc]
      rcases insNode_inner_below P st kind pfx lf kids w t b rest full val mod with
        ⟨r, kids', st', w', t', hins, e⟩ | ⟨hins, st', dw, w', t', e⟩
      · rw [e]
        obtain ⟨hkids', _, hold, hnv, hmem⟩ := insKids_ok P (acc ++ pfx) kids st b (b :: rest) rest full val mod r kids'
          hkids rfl hfull' hins
        exact insOK_inner_below hlf hkids' hfull' hold hnv hmem
      · rw [e]
        have hnotin := insKids_none_notin P (acc ++ pfx) b (b :: rest) full val mod kids st hkids hins
        have hnone : look (entriesK kids) full = none := by
          rw [hfull']; exact lookK_none (acc ++ pfx) kids hkids b rest hnotin
        refine insOK_inner_below hlf
          (WFKids_insert (acc ++ pfx) b _ ⟨rest, rfl⟩ (by exact hfull') kids hkids hnotin) hfull' hnone.symm rfl
          (mem_ins_of_absent ((look_eq_none_iff _ _).mp hnone) fun e => ?_)
        rw [mem_entriesK_insert, entries_leaf, List.mem_singleton]
theorem insKids_ok (P : ArtParams) (acc : List Nat) : (kids : Kids) → ∀ (st : St) (b : Nat) (key rest full : List Nat)
    (val : Nat) (mod : Option (Nat → Nat → Nat)) (r : InsRes) (kids' : Kids),
    WFKids acc kids → key = b :: rest → full = acc ++ key →
    insKids P st kids b key full val mod = some (r, kids') →
    WFKids acc kids' ∧ kids'.keys = kids.keys ∧ r.old = look (entriesK kids) full ∧
    r.newVal = mergedVal mod r.old val ∧
    (∀ e, e ∈ entriesK kids' ↔ e = (full, r.newVal) ∨ (e.1 ≠ full ∧ e ∈ entriesK kids))
  | .nil => by
    intro st b key rest full val mod r kids' _ _ _ h
    simp [insKids] at h
  | .cons c n rs => by
    intro st b key rest full val mod r kids' hwf hkey hfull h
    simp only [WFKids] at hwf
    obtain ⟨⟨tl, hpf⟩, hn, hlt, hrs⟩ := hwf
    have hfull' : full = acc ++ b :: rest := by rw [hfull, hkey]
    unfold insKids at h
    split at h
    · -- the child under `b`: nothing with this key lies in the later children
      rename_i hcb
      subst hcb
      obtain ⟨rfl, rfl⟩ := Prod.mk.inj (Option.some.inj h)
      have hok := insNode_ok P acc n st key full val mod hn hfull
      have hrs0 : look (entriesK rs) full = none :=
        hfull' ▸ lookK_none acc rs hrs c rest (not_mem_keys_of_le hlt (Nat.le_refl c))
      refine ⟨⟨?_, hok.wf, hlt, hrs⟩, rfl, ?_, hok.nv, mem_ins_append_left hok.mem ((look_eq_none_iff _ _).mp hrs0)⟩
      · rw [hok.pfx, hkey, hpf, commonPrefix, if_pos rfl]; exact ⟨_, rfl⟩
      · rw [entriesK, look_append_of_none_right _ _ _ hrs0]; exact hok.old
    · -- another child: it holds nothing with this key
      rename_i hcb
      split at h
      · split at h
        · rename_i r' rest' hins
          obtain ⟨rfl, rfl⟩ := Prod.mk.inj (Option.some.inj h)
          obtain ⟨hrest', hkeys, hold, hnv, hmem⟩ :=
            insKids_ok P acc rs st b key rest full val mod r' rest' hrs hkey hfull hins
          have hn0 : look (entries n) full = none := hfull' ▸ look_sibling_none acc n hn hpf hcb rest
          refine ⟨⟨⟨tl, hpf⟩, hn, hkeys ▸ hlt, hrest'⟩, congrArg (c :: ·) hkeys, ?_, hnv,
            mem_ins_append_right ((look_eq_none_iff _ _).mp hn0) hmem⟩
          rw [entriesK, look_append_of_none _ _ _ hn0]; exact hold
        · exact nomatch h
      · exact nomatch h
end

end Sdb.Art
