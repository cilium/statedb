import SdbModel.Lemmas.IndexLpm
/-!
  C04, LPM part, queries: what `qGet` / `qList` / `qPrefix` / `qLowerBound` on the two LPM indexes
  return, in terms of the live objects and their normalised index keys, given `LInv` and `POk`: C13's
  theorems about the trie's queries (`C13_lookup_longest_prefix`, `C13_lookup_stored_prefix`,
  `C13_prefix_yields_covered`, `C13_lowerBound_is_suffix`, `C13_iteration_ascending`) carried from buckets
  to the objects in them.
-/
namespace Sdb.Tbl
open OMap Lpm

section buckets
variable {unique : Bool} {keys : Obj → List (Key × Nat)} {primary : OMap Obj} {ix : LpmIdx}

theorem LInv.bucket_live (inv : LInv unique keys primary ix) (hp : POk primary) {d : Key} {p : Nat} {e : LpmEntry}
    (he : (d, p, e) ∈ preorder ix.t) {pk : Key} {x : Obj} (hm : (pk, x) ∈ e) :
    pk = x.id ∧ primary.get x.id = some x ∧ (d, p) ∈ (keys x).map normKey := by
  have h := (inv.char d p pk x).mp ⟨e, he, hm⟩
  have hid := hp.idOk pk x h.1
  subst hid
  exact ⟨rfl, h.1, h.2⟩

theorem LInv.bucket_mem (inv : LInv unique keys primary ix) (hp : POk primary) {d : Key} {p : Nat} {e : LpmEntry}
    (he : (d, p, e) ∈ preorder ix.t) (x : Obj) :
    x ∈ e.map (·.2) ↔ primary.get x.id = some x ∧ (d, p) ∈ (keys x).map normKey := by
  constructor
  · intro hx
    obtain ⟨kv, hkv, rfl⟩ := List.mem_map.mp hx
    exact (inv.bucket_live hp he (pk := kv.1) (x := kv.2) hkv).2
  · rintro ⟨hl, hk⟩
    obtain ⟨e', he', hm⟩ := (inv.char d p x.id x).mpr ⟨hl, hk⟩
    have : e' = e := (C13_stored_keys_canonical_unique ix.t inv.wf d p e he).2 e' he'
    subst this
    exact List.mem_map.mpr ⟨(x.id, x), hm, rfl⟩

theorem LInv.bucket_ascending (inv : LInv unique keys primary ix) (hp : POk primary) {d : Key} {p : Nat}
    {e : LpmEntry} (he : (d, p, e) ∈ preorder ix.t) :
    (e.map (·.2)).Pairwise (fun a b => cmpL a.id b.id = .lt) :=
  (inv.sortedE d p e he).values_ordered Obj.id fun _ _ ha => (inv.bucket_live hp he ha).1

theorem LInv.bucket_single (inv : LInv unique keys primary ix) (hp : POk primary) (hu : unique = true)
    {d : Key} {p : Nat} {e : LpmEntry} (he : (d, p, e) ∈ preorder ix.t) : ∃ x, e = [(x.id, x)] := by
  have hne := inv.nonempty d p e he
  have hs := inv.sortedE d p e he
  match e, hne with
  | [(pk, x)], _ =>
    have := (inv.bucket_live hp he (pk := pk) (x := x) (by simp)).1
    subst this
    exact ⟨x, rfl⟩
  | (pk1, x1) :: (pk2, x2) :: r, _ =>
    exfalso
    obtain ⟨hid1, hlive1, hkey1⟩ := inv.bucket_live hp he (pk := pk1) (x := x1) (by simp)
    obtain ⟨hid2, hlive2, hkey2⟩ := inv.bucket_live hp he (pk := pk2) (x := x2) (by simp)
    -- two live objects under one key of a unique index are one object, yet the bucket is strictly sorted
    have heq : x1.id = x2.id := inv.uniq hu x1.id x1 x2.id x2 hlive1 hlive2 ⟨(d, p), hkey1, hkey2⟩
    have hlt := (sorted_cons.mp hs).1 (pk2, x2) (by simp)
    simp only at hlt
    rw [hid1, hid2, heq] at hlt
    exact cmpL_lt_irrefl _ hlt

end buckets

/-- the objects `lpmIndex.list` yields: the bucket found by `Lookup` -/
def lpmLookupObjs (ix : LpmIdx) (key : Key) (plen : Nat) : List Obj :=
  ((lookup (maskData key plen) plen ix.t 0 none).getD []).map (·.2)

theorem qList_lpm (t : TableS) (key : Key) (plen : Nat) : qList t .lpm key plen = lpmLookupObjs t.lpm key plen := rfl
theorem qList_ulpm (t : TableS) (key : Key) (plen : Nat) : qList t .ulpm key plen = lpmLookupObjs t.ulpm key plen := rfl

theorem lookup_bind_head (r : Option LpmEntry) :
    (r >>= fun e => e.head?.map (·.2)) = ((r.getD []).map (·.2)).head? := by
  cases r with
  | none => rfl
  | some e => simp [List.head?_map]

theorem qGet_lpm (t : TableS) (key : Key) (plen : Nat) : qGet t .lpm key plen = (qList t .lpm key plen).head? :=
  lookup_bind_head _
theorem qGet_ulpm (t : TableS) (key : Key) (plen : Nat) : qGet t .ulpm key plen = (qList t .ulpm key plen).head? :=
  lookup_bind_head _

theorem head_least {α : Type} {R : α → α → Prop} (l : List α) (hne : l ≠ []) (hpw : l.Pairwise R) :
    ∃ x, l.head? = some x ∧ x ∈ l ∧ ∀ y ∈ l, y = x ∨ R x y := by
  match l, hne with
  | x :: r, _ =>
    exact ⟨x, rfl, List.mem_cons_self ..,
      fun y hy => (List.mem_cons.mp hy).imp_right ((List.pairwise_cons.mp hpw).1 y)⟩

section lookup
variable {unique : Bool} {keys : Obj → List (Key × Nat)} {primary : OMap Obj} {ix : LpmIdx}

/-- the full-length hypothesis of C13 over the trie follows from the one over the live objects -/
theorem LInv.full (inv : LInv unique keys primary ix) (plen : Nat)
    (hfull : ∀ pk x, primary.get pk = some x → ∀ k ∈ keys x, k.2 ≤ plen) :
    ∀ e ∈ preorder ix.t, e.2.1 ≤ plen := by
  rintro ⟨d, p, e⟩ he
  have hne := inv.nonempty d p e he
  obtain ⟨⟨pk, x⟩, hm⟩ := List.exists_mem_of_ne_nil e hne
  obtain ⟨hl, hk⟩ := (inv.char d p pk x).mp ⟨e, he, hm⟩
  obtain ⟨k0, hk0, hk0e⟩ := List.mem_map.mp hk
  have := hfull pk x hl k0 hk0
  have h2 : k0.2 = p := by
    have := congrArg Prod.snd hk0e
    simpa [normKey] using this
  simp only
  omega

/-- a hit of `list` / `get`: the bucket under `(d, p)`, the longest key of a live object that covers the query -/
structure LpmMatch (unique : Bool) (keys : Obj → List (Key × Nat)) (primary : OMap Obj) (ix : LpmIdx)
    (key : Key) (plen : Nat) (d : Key) (p : Nat) : Prop where
  covers : Covers d p (maskData key plen) plen
  longest : ∀ pk x, primary.get pk = some x → ∀ k ∈ (keys x).map normKey,
    Covers k.1 k.2 (maskData key plen) plen → k.2 ≤ p
  mem : ∀ x, x ∈ lpmLookupObjs ix key plen ↔ primary.get x.id = some x ∧ (d, p) ∈ (keys x).map normKey
  ascending : (lpmLookupObjs ix key plen).Pairwise (fun a b => cmpL a.id b.id = .lt)
  ne_nil : lpmLookupObjs ix key plen ≠ []
  single : unique = true → ∃ x, lpmLookupObjs ix key plen = [x]

/-- Longest-prefix match over the live objects (`list`, and `get` as its head).  `hfull`, the query being
    at least as long as every key of a live object, is the hypothesis of `C13_lookup_longest_prefix`. -/
theorem LInv.lookup_spec (inv : LInv unique keys primary ix) (hp : POk primary) (key : Key) (plen : Nat)
    (hq : LKeyOk (key, plen))
    (hfull : ∀ pk x, primary.get pk = some x → ∀ k ∈ keys x, k.2 ≤ plen) :
    ((∀ pk x, primary.get pk = some x → ∀ k ∈ (keys x).map normKey, ¬ Covers k.1 k.2 (maskData key plen) plen) ∧
      lpmLookupObjs ix key plen = []) ∨
    ∃ d p, LpmMatch unique keys primary ix key plen d p := by
  have hc : Canon (maskData key plen) plen := hq.canon
  have hspec := C13_lookup_longest_prefix ix.t inv.wf (maskData key plen) plen hc (inv.full plen hfull)
  cases hl : lookup (maskData key plen) plen ix.t 0 none with
  | none =>
    rw [hl] at hspec
    simp only at hspec
    refine Or.inl ⟨fun pk x hx k hk => ?_, by unfold lpmLookupObjs; rw [hl]; rfl⟩
    obtain ⟨e, he, _⟩ := (inv.char k.1 k.2 pk x).mpr ⟨hx, hk⟩
    exact hspec (k.1, k.2, e) he
  | some e =>
    rw [hl] at hspec
    simp only at hspec
    obtain ⟨d, p, he, hcov, hlong⟩ := hspec
    have hobjs : lpmLookupObjs ix key plen = e.map (·.2) := by unfold lpmLookupObjs; rw [hl]; rfl
    refine Or.inr ⟨d, p, { covers := hcov, longest := ?_, mem := ?_, ascending := ?_, ne_nil := ?_, single := ?_ }⟩
    · intro pk x hx k hk hkc
      obtain ⟨e', he', _⟩ := (inv.char k.1 k.2 pk x).mpr ⟨hx, hk⟩
      exact hlong (k.1, k.2, e') he' hkc
    · rw [hobjs]; exact inv.bucket_mem hp he
    · rw [hobjs]; exact inv.bucket_ascending hp he
    · rw [hobjs]; simpa using inv.nonempty d p e he
    · intro hu
      obtain ⟨x, rfl⟩ := inv.bucket_single hp hu he
      exact ⟨x, hobjs⟩

end lookup

/-- what the LPM iterators yield, with the index key: one (key, object) pair per stored object -/
def lpmPairs (es : List (Key × Nat × LpmEntry)) : List (Key × Nat × Obj) :=
  es.flatMap fun e => e.2.2.map fun kv => (e.1, e.2.1, kv.2)

theorem lpmObjs_eq_pairs (es : List (Key × Nat × LpmEntry)) : lpmObjs es = (lpmPairs es).map (·.2.2) := by
  unfold lpmObjs lpmPairs
  rw [List.map_flatMap]
  congr 1
  funext e
  obtain ⟨d, p, e⟩ := e
  simp [List.map_map, Function.comp_def]

/-- the iteration order: by index key (`keyLt`: prefix bits, then prefix length), then by primary key -/
def pairLt (a b : Key × Nat × Obj) : Prop :=
  keyLt a.1 a.2.1 b.1 b.2.1 ∨ (a.1 = b.1 ∧ a.2.1 = b.2.1 ∧ cmpL a.2.2.id b.2.2.id = .lt)

theorem mem_lpmPairs (es : List (Key × Nat × LpmEntry)) (d : Key) (p : Nat) (x : Obj) :
    (d, p, x) ∈ lpmPairs es ↔ ∃ e, (d, p, e) ∈ es ∧ x ∈ e.map (·.2) := by
  unfold lpmPairs
  simp only [List.mem_flatMap, List.mem_map, Prod.mk.injEq]
  constructor
  · rintro ⟨⟨d', p', e⟩, he, kv, hkv, rfl, rfl, rfl⟩
    exact ⟨e, he, kv, hkv, rfl⟩
  · rintro ⟨e, he, kv, hkv, rfl⟩
    exact ⟨(d, p, e), he, kv, hkv, rfl, rfl, rfl⟩

theorem lpmPairs_filter (q : Key → Nat → Bool) (es : List (Key × Nat × LpmEntry)) :
    lpmPairs (es.filter fun e => q e.1 e.2.1) = (lpmPairs es).filter fun a => q a.1 a.2.1 := by
  induction es with
  | nil => rfl
  | cons e es ih =>
    unfold lpmPairs at ih ⊢
    -- the pairs of one bucket all carry the bucket's key
    have he : (e.2.2.map fun kv => (e.1, e.2.1, kv.2)).filter (fun a : Key × Nat × Obj => q a.1 a.2.1) =
        if q e.1 e.2.1 then e.2.2.map fun kv => (e.1, e.2.1, kv.2) else [] := by
      split
      · rename_i hq
        exact List.filter_eq_self.mpr fun a ha => by obtain ⟨kv, _, rfl⟩ := List.mem_map.mp ha; exact hq
      · rename_i hq
        exact List.filter_eq_nil_iff.mpr fun a ha => by obtain ⟨kv, _, rfl⟩ := List.mem_map.mp ha; exact hq
    rw [List.filter_cons, List.flatMap_cons, List.filter_append, he, ← ih]
    split <;> rfl

theorem lpmPairs_append (a b : List (Key × Nat × LpmEntry)) : lpmPairs (a ++ b) = lpmPairs a ++ lpmPairs b :=
  List.flatMap_append

section iteration
variable {unique : Bool} {keys : Obj → List (Key × Nat)} {primary : OMap Obj} {ix : LpmIdx}

theorem LInv.mem_pairs (inv : LInv unique keys primary ix) (hp : POk primary) (d : Key) (p : Nat) (x : Obj) :
    (d, p, x) ∈ lpmPairs (preorder ix.t) ↔ primary.get x.id = some x ∧ (d, p) ∈ (keys x).map normKey := by
  rw [mem_lpmPairs]
  constructor
  · rintro ⟨e, he, hx⟩
    exact (inv.bucket_mem hp he x).mp hx
  · rintro ⟨hl, hk⟩
    obtain ⟨e, he, hm⟩ := (inv.char d p x.id x).mpr ⟨hl, hk⟩
    exact ⟨e, he, List.mem_map.mpr ⟨(x.id, x), hm, rfl⟩⟩

theorem LInv.pairs_ascending (inv : LInv unique keys primary ix) (hp : POk primary) :
    (lpmPairs (preorder ix.t)).Pairwise pairLt := by
  unfold lpmPairs
  rw [List.pairwise_flatMap]
  constructor
  · rintro ⟨d, p, e⟩ he
    have h := inv.bucket_ascending hp he
    rw [List.pairwise_map] at h ⊢
    exact h.imp fun hab => Or.inr ⟨rfl, rfl, hab⟩
  · refine (C13_iteration_ascending ix.t inv.wf).imp ?_
    intro e1 e2 hlt a ha b hb
    obtain ⟨kv1, _, rfl⟩ := List.mem_map.mp ha
    obtain ⟨kv2, _, rfl⟩ := List.mem_map.mp hb
    exact Or.inl hlt

/-- `l`: the (key, live object) pairs behind the objects `prefix` yields -/
theorem LInv.prefix_spec (inv : LInv unique keys primary ix) (hp : POk primary) (key : Key) (plen : Nat)
    (hq : LKeyOk (key, plen)) :
    ∃ l : List (Key × Nat × Obj),
      lpmObjs (preorder (prefixNode (maskData key plen) plen ix.t 0)) = l.map (·.2.2) ∧ l.Pairwise pairLt ∧
      (∀ d p x, (d, p, x) ∈ l ↔
        primary.get x.id = some x ∧ (d, p) ∈ (keys x).map normKey ∧ Covers (maskData key plen) plen d p) ∧
      ∀ x, x ∈ lpmObjs (preorder (prefixNode (maskData key plen) plen ix.t 0)) ↔
        primary.get x.id = some x ∧ ∃ k ∈ (keys x).map normKey, Covers (maskData key plen) plen k.1 k.2 := by
  have hc : Canon (maskData key plen) plen := hq.canon
  have heq : lpmPairs (preorder (prefixNode (maskData key plen) plen ix.t 0)) =
      (lpmPairs (preorder ix.t)).filter fun a => decide (Covers (maskData key plen) plen a.1 a.2.1) := by
    rw [C13_prefix_yields_covered ix.t inv.wf _ _ hc]
    exact lpmPairs_filter (fun d p => decide (Covers (maskData key plen) plen d p)) _
  have hmem : ∀ d p x, (d, p, x) ∈ lpmPairs (preorder (prefixNode (maskData key plen) plen ix.t 0)) ↔
      primary.get x.id = some x ∧ (d, p) ∈ (keys x).map normKey ∧ Covers (maskData key plen) plen d p := by
    intro d p x
    rw [heq, List.mem_filter, inv.mem_pairs hp]
    simp only [decide_eq_true_eq, and_assoc]
  refine ⟨_, lpmObjs_eq_pairs _, ?_, hmem, fun x => ?_⟩
  · rw [heq]; exact (inv.pairs_ascending hp).filter _
  · rw [lpmObjs_eq_pairs]
    constructor
    · intro hx
      obtain ⟨⟨d, p, y⟩, hm, rfl⟩ := List.mem_map.mp hx
      obtain ⟨h1, h2, h3⟩ := (hmem d p y).mp hm
      exact ⟨h1, (d, p), h2, h3⟩
    · rintro ⟨h1, ⟨d, p⟩, h2, h3⟩
      exact List.mem_map.mpr ⟨(d, p, x), (hmem d p x).mpr ⟨h1, h2, h3⟩, rfl⟩

/-- the full iteration splits into the pairs with an index key below the query and the pairs `lowerBound`
    yields: it starts at the first index key not below the query, all objects of that key's bucket included -/
theorem LInv.lowerBound_spec (inv : LInv unique keys primary ix) (hp : POk primary) (key : Key) (plen : Nat)
    (hq : LKeyOk (key, plen)) :
    ∃ pre l : List (Key × Nat × Obj),
      lpmObjs (lowerBound (maskData key plen) plen ix.t 0 []) = l.map (·.2.2) ∧
      (pre ++ l).Pairwise pairLt ∧
      (∀ d p x, (d, p, x) ∈ pre ++ l ↔ primary.get x.id = some x ∧ (d, p) ∈ (keys x).map normKey) ∧
      (∀ a ∈ pre, keyLt a.1 a.2.1 (maskData key plen) plen) ∧
      (∀ a ∈ l, ¬ keyLt a.1 a.2.1 (maskData key plen) plen) := by
  have hc : Canon (maskData key plen) plen := hq.canon
  obtain ⟨pre, h1, h2, h3⟩ := C13_lowerBound_is_suffix ix.t inv.wf _ _ hc
  have h1' := congrArg lpmPairs h1
  rw [lpmPairs_append] at h1'
  refine ⟨lpmPairs pre, _, lpmObjs_eq_pairs _, ?_, ?_, ?_, ?_⟩
  · rw [← h1']; exact inv.pairs_ascending hp
  · intro d p x; rw [← h1']; exact inv.mem_pairs hp d p x
  · rintro ⟨d, p, x⟩ ha
    obtain ⟨e, he, _⟩ := (mem_lpmPairs pre d p x).mp ha
    exact h2 (d, p, e) he
  · rintro ⟨d, p, x⟩ ha
    obtain ⟨e, he, _⟩ := (mem_lpmPairs _ d p x).mp ha
    exact h3 (d, p, e) he

end iteration

section ownkey
variable {unique : Bool} {keys : Obj → List (Key × Nat)} {primary : OMap Obj} {ix : LpmIdx}

/-- A key of a live object always finds its own bucket: no full-length hypothesis as in
    `LInv.lookup_spec`. -/
theorem LInv.lookup_own_key (inv : LInv unique keys primary ix) (hp : POk primary) (pk : Key) (x : Obj)
    (hx : primary.get pk = some x) (k : Key × Nat) (hk : k ∈ keys x) :
    (∀ y, y ∈ lpmLookupObjs ix k.1 k.2 ↔ primary.get y.id = some y ∧ normKey k ∈ (keys y).map normKey) ∧
    (lpmLookupObjs ix k.1 k.2).Pairwise (fun a b => cmpL a.id b.id = .lt) ∧
    x ∈ lpmLookupObjs ix k.1 k.2 ∧
    (unique = true → lpmLookupObjs ix k.1 k.2 = [x]) := by
  have hid := hp.idOk pk x hx
  subst hid
  have hkn : normKey k ∈ (keys x).map normKey := List.mem_map.mpr ⟨k, hk, rfl⟩
  have hc : Canon (normKey k).1 (normKey k).2 := (inv.keysOk x.id x hx k hk).canon
  obtain ⟨e, he, hm⟩ := (inv.char (normKey k).1 (normKey k).2 x.id x).mpr ⟨hx, hkn⟩
  have hl := C13_lookup_stored_prefix ix.t inv.wf _ _ hc e he
  have hobjs : lpmLookupObjs ix k.1 k.2 = e.map (·.2) := by
    unfold lpmLookupObjs
    unfold normKey at hl
    simp only at hl
    rw [hl]; rfl
  rw [hobjs]
  have hxm : x ∈ e.map (·.2) := List.mem_map.mpr ⟨(x.id, x), hm, rfl⟩
  refine ⟨inv.bucket_mem hp he, inv.bucket_ascending hp he, hxm, ?_⟩
  intro hu
  obtain ⟨y, rfl⟩ := inv.bucket_single hp hu he
  simp only [List.map_cons, List.map_nil, List.mem_singleton] at hxm ⊢
  rw [hxm]

end ownkey

/-! ### non-vacuity: a concrete run (duplicate keys after normalisation, shrinking key set, shared bucket) -/

private def exA : Obj :=
  { id := [1], val := 0, uvar := 0, tags := [], up := false, ord := 0, rev := 1,
    pfxs := [([10, 1], 16), ([10, 1, 255], 16), ([10, 77], 8)] }
private def exB : Obj := { exA with id := [2], pfxs := [([10, 1], 16)], rev := 2 }
private def exA' : Obj := { exA with pfxs := [([10], 8)], rev := 3 }
private def exIx1 : LpmIdx := reindexLpm false {} [1] none (some exA) (·.pfxs)
private def exIx2 : LpmIdx := reindexLpm false exIx1 [2] none (some exB) (·.pfxs)
private def exIx3 : LpmIdx := reindexLpm false exIx2 [1] (some exA) (some exA') (·.pfxs)
private def exIx4 : LpmIdx := reindexLpm false exIx3 [2] (some exB) none (·.pfxs)
private def exIx5 : LpmIdx := reindexLpm false exIx4 [1] (some exA') none (·.pfxs)

example :
    lpmPairs (preorder exIx2.t) = [([10], 8, exA), ([10, 1], 16, exA), ([10, 1], 16, exB)] ∧
    lpmPairs (preorder exIx3.t) = [([10], 8, exA'), ([10, 1], 16, exB)] ∧
    lpmLookupObjs exIx2 [10, 1, 9] 24 = [exA, exB] ∧
    lpmLookupObjs exIx3 [10, 2, 9] 24 = [exA'] ∧
    lpmPairs (preorder exIx4.t) = [([10], 8, exA')] ∧
    (match exIx5.t with | .nil => true | _ => false) = true := by decide +kernel

/-- the uniqueness obligation `hu` of `LInv.write` is needed: when a second live object is
    written with a key of a unique index that another live object has, `insertKey` overwrites the
    bucket and the first object is no longer found under its key (Go: `entry.head = ...`) -/
example :
    let u1 : Obj := { exA with pfxs := [], up := true, ord := 5 }
    let u2 : Obj := { u1 with id := [2] }
    let ix := reindexLpm true (reindexLpm true {} [1] none (some u1) (·.upKey)) [2] none (some u2) (·.upKey)
    lpmPairs (preorder ix.t) = [([0, 5], 16, u2)] := by decide +kernel

end Sdb.Tbl
