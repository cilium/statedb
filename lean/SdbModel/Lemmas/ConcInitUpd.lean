import SdbModel.Lemmas.ConcInitInv

/-!
  Re-establishing `CI` after a micro step of thread `tid`: all clauses about the OTHER threads follow from
  three inclusions (new root channels / closed channels / private channels of `tid` come from old root
  channels, old private channels of `tid`, or are newly allocated) and a frame condition on `Loc`; what
  remains are the clauses about the root, the closed list and thread `tid` itself (`CI_update`; `CI_quiet`
  for a step that changes no shared field).
-/
namespace Sdb.Conc

theorem install_lookup (st st' : State) (tid : Nat) (th th' : Thread) (htid : tid < st.threads.length)
    (hthreads : st'.threads = st.threads) (j : Nat) (T : Thread) (hj : (install st' tid th').threads[j]? = some T) :
    (j = tid ∧ T = th') ∨ (j ≠ tid ∧ (install st tid th).threads[j]? = some T ∧ st.threads[j]? = some T) := by
  by_cases hjt : j = tid
  · subst hjt
    rw [install_own _ _ _ (hthreads ▸ htid)] at hj
    exact Or.inl ⟨rfl, (Option.some.inj hj).symm⟩
  · rw [install_other _ _ _ (hthreads ▸ htid) hjt, hthreads] at hj
    exact Or.inr ⟨hjt, (install_other st tid th htid hjt).trans hj, hj⟩

/-- what no micro step changes in the thread record -/
structure EffFrame (th th' : Thread) (c : Bool) : Prop where
  tables : th'.tables = th.tables
  regInit : th'.regInit = th.regInit
  markInit : th'.markInit = th.markInit
  sub : ∀ m, m ∈ th'.prog → m ∈ th.prog
  written : Micro.userWrites ∉ th.prog → th'.oldRoot = th.oldRoot ∧ th'.entries = th.entries
  stored : c = true → Micro.act .storeRoot ∉ th.prog → th'.toNotify = th.toNotify ∧ th'.initToClose = th.initToClose

theorem EffFrame.same {th th' : Thread} {c : Bool} (hsub : ∀ m, m ∈ th'.prog → m ∈ th.prog)
    (htables : th'.tables = th.tables := by rfl) (hreg : th'.regInit = th.regInit := by rfl)
    (hmark : th'.markInit = th.markInit := by rfl) (hold : th'.oldRoot = th.oldRoot := by rfl)
    (hentries : th'.entries = th.entries := by rfl) (hnotify : th'.toNotify = th.toNotify := by rfl)
    (hclose : th'.initToClose = th.initToClose := by rfl) : EffFrame th th' c :=
  ⟨htables, hreg, hmark, hsub, fun _ => ⟨hold, hentries⟩, fun _ _ => ⟨hnotify, hclose⟩⟩

theorem CI_update (st st' : State) (cs : List Bool) (tid : Nat) (th th' : Thread) (c : Bool)
    (hCI : CI (install st tid th) cs (some tid)) (htid : tid < st.threads.length) (hc : cs[tid]? = some c)
    (hthreads : st'.threads = st.threads) (hnc : st.nextChan ≤ st'.nextChan)
    (hlen : st.root.length ≤ st'.root.length)
    (i1 : ∀ w, rootChan st'.root w → rootChan st.root w ∨ priv th c w ∨ (st.nextChan ≤ w ∧ w < st'.nextChan))
    (i2 : ∀ w, w ∈ st'.closed → w ∈ st.closed ∨ priv th c w)
    (i3 : ∀ w, priv th' c w → rootChan st.root w ∨ priv th c w ∨ (st.nextChan ≤ w ∧ w < st'.nextChan))
    (d1 : ∀ w, rootChan st'.root w → w ∉ st'.closed)
    (d2 : ∀ w, priv th' c w → w ∉ st'.closed)
    (d3 : ∀ w, priv th' c w → ¬ rootChan st'.root w)
    (hroot : RootOK st'.root)
    (hFI : FI th' c)
    (hCOnew : ∀ w, w ∈ st'.closed → w ∉ st.closed → c = true ∧ Micro.act .storeRoot ∉ th'.prog ∧
      ((Micro.act .notify ∉ th'.prog ∧ w ∈ th'.toNotify) ∨ (Micro.act .closeInit ∉ th'.prog ∧ w ∈ th'.initToClose)))
    (hfr : EffFrame th th' c)
    (hown : ThreadOK st'.root st'.nextChan th' c)
    (hframe : ∀ j thj cj p, j ≠ tid → st.threads[j]? = some thj → cs[j]? = some cj →
      strip2 thj.prog = code2 (lockList thj) cj p → Loc st.root st.nextChan thj cj p →
      Loc st'.root st'.nextChan thj cj p) :
    CI (install st' tid th') cs (some tid) := by
  have htid' : tid < st'.threads.length := by rw [hthreads]; exact htid
  have hown_old := install_own st tid th htid
  have lookT := install_lookup st st' tid th th' htid hthreads
  have look : ∀ j thj cj, (install st' tid th').threads[j]? = some thj → cs[j]? = some cj →
      (j = tid ∧ thj = th' ∧ c = cj) ∨ (j ≠ tid ∧ (install st tid th).threads[j]? = some thj) := fun j thj cj hj hcj =>
    (lookT j thj hj).imp (fun ⟨e, e'⟩ => ⟨e, e', Option.some.inj (hc.symm.trans (e ▸ hcj))⟩) (fun g => ⟨g.1, g.2.1⟩)
  -- a private channel of another thread is old and belongs to nothing else
  have other : ∀ j thj cj w, j ≠ tid → (install st tid th).threads[j]? = some thj → cs[j]? = some cj → priv thj cj w →
      w < st.nextChan ∧ w ∉ st.closed ∧ ¬ rootChan st.root w ∧ ¬ priv th c w := by
    intro j thj cj w hj hthj hcj hp
    exact ⟨hCI.bP j thj cj w hthj hcj hp, hCI.PC j thj cj w hthj hcj hp, hCI.PR j thj cj w hthj hcj hp,
      fun hp' => hCI.PP j tid thj th cj c w hj hthj hown_old hcj hc hp hp'⟩
  -- … in particular to the stepping thread afterwards
  have cross : ∀ j thj cj w, j ≠ tid → (install st tid th).threads[j]? = some thj → cs[j]? = some cj → priv thj cj w →
      priv th' c w → False := by
    intro j thj cj w hjt hold hcj hp hp'
    obtain ⟨o1, _, o3, o4⟩ := other j thj cj w hjt hold hcj hp
    rcases i3 w hp' with h | h | h
    · exact o3 h
    · exact o4 h
    · exact Nat.not_le.2 o1 h.1
  constructor
  · have := hCI.len
    rw [install_length] at this ⊢
    rw [hthreads]; exact this
  · exact Nat.le_trans hCI.nc hnc
  · intro w hw
    show w < st'.nextChan
    rcases i1 w hw with h | h | h
    · exact Nat.lt_of_lt_of_le (hCI.bR w h) hnc
    · exact Nat.lt_of_lt_of_le (hCI.bP tid th c w hown_old hc h) hnc
    · exact h.2
  · intro w hw
    show w < st'.nextChan
    rcases i2 w hw with h | h
    · exact Nat.lt_of_lt_of_le (hCI.bC w h) hnc
    · exact Nat.lt_of_lt_of_le (hCI.bP tid th c w hown_old hc h) hnc
  · intro j thj cj w hj hcj hp
    show w < st'.nextChan
    rcases look j thj cj hj hcj with ⟨rfl, rfl, rfl⟩ | ⟨hjt, hold⟩
    · rcases i3 w hp with h | h | h
      · exact Nat.lt_of_lt_of_le (hCI.bR w h) hnc
      · exact Nat.lt_of_lt_of_le (hCI.bP j th c w hown_old hc h) hnc
      · exact h.2
    · exact Nat.lt_of_lt_of_le (other j thj cj w hjt hold hcj hp).1 hnc
  · exact d1
  · intro j thj cj w hj hcj hp
    show w ∉ st'.closed
    rcases look j thj cj hj hcj with ⟨rfl, rfl, rfl⟩ | ⟨hjt, hold⟩
    · exact d2 w hp
    · obtain ⟨_, o2, _, o4⟩ := other j thj cj w hjt hold hcj hp
      intro hm
      rcases i2 w hm with h | h
      · exact o2 h
      · exact o4 h
  · intro j thj cj w hj hcj hp
    show ¬ rootChan st'.root w
    rcases look j thj cj hj hcj with ⟨rfl, rfl, rfl⟩ | ⟨hjt, hold⟩
    · exact d3 w hp
    · obtain ⟨o1, _, o3, o4⟩ := other j thj cj w hjt hold hcj hp
      intro hm
      rcases i1 w hm with h | h | h
      · exact o3 h
      · exact o4 h
      · exact Nat.not_le.2 o1 h.1
  · intro j j' thj thj' cj cj' w hne hj hj' hcj hcj' hp hp'
    rcases look j thj cj hj hcj with ⟨rfl, rfl, rfl⟩ | ⟨hjt, hold⟩
    · rcases look j' thj' cj' hj' hcj' with ⟨rfl, rfl, rfl⟩ | ⟨hjt', hold'⟩
      · exact hne rfl
      · exact cross j' thj' cj' w hjt' hold' hcj' hp' hp
    · rcases look j' thj' cj' hj' hcj' with ⟨rfl, rfl, rfl⟩ | ⟨hjt', hold'⟩
      · exact cross j thj cj w hjt hold hcj hp hp'
      · exact hCI.PP j j' thj thj' cj cj' w hne hold hold' hcj hcj' hp hp'
  · exact hroot.RI
  · exact hroot.RW
  · intro j thj cj hj hcj
    rcases look j thj cj hj hcj with ⟨rfl, rfl, rfl⟩ | ⟨hjt, hold⟩
    · exact hFI
    · exact hCI.FIc j thj cj hold hcj
  · exact hroot.IP
  · exact hroot.RV
  · intro w hw
    show ∃ (j : Nat) (thj : Thread), (install st' tid th').threads[j]? = some thj ∧ _
    by_cases hwo : w ∈ st.closed
    · obtain ⟨j, thj, hj, hcj, hsr, hor⟩ := hCI.CO w hwo
      by_cases hjt : j = tid
      · subst hjt
        rw [hown_old] at hj; simp only [Option.some.injEq] at hj; subst hj
        have hct : c = true := by rw [hc] at hcj; simpa using hcj
        obtain ⟨g4, g5⟩ := hfr.stored hct hsr
        refine ⟨j, th', install_own _ _ _ htid', hcj, fun h => hsr (hfr.sub _ h), ?_⟩
        rcases hor with ⟨a, b⟩ | ⟨a, b⟩
        · exact Or.inl ⟨fun h => a (hfr.sub _ h), by rw [g4]; exact b⟩
        · exact Or.inr ⟨fun h => a (hfr.sub _ h), by rw [g5]; exact b⟩
      · refine ⟨j, thj, ?_, hcj, hsr, hor⟩
        rw [install_other _ _ _ htid' hjt, hthreads, ← install_other st tid th htid hjt]
        exact hj
    · obtain ⟨g1, g2, g3⟩ := hCOnew w hw hwo
      exact ⟨tid, th', install_own _ _ _ htid', by rw [hc, g1], g2, g3⟩
  · intro j thj hj
    rcases lookT j thj hj with ⟨rfl, rfl⟩ | ⟨hjt, hold, hst⟩
    · exact ⟨c, hc, hown⟩
    · obtain ⟨cj, hcj, hb, hadj, p, hp, hl⟩ := hCI.TH j thj hold
      refine ⟨cj, hcj, fun x hx => Nat.lt_of_lt_of_le (hb x hx) hlen, hadj, p, hp, ?_⟩
      exact hframe j thj cj p hjt hst hcj hp hl
  · intro j thj hj hne
    rcases lookT j thj hj with ⟨rfl, rfl⟩ | ⟨hjt, hold, _⟩
    · exact absurd rfl hne
    · exact hCI.RS j thj hold hne

theorem CI_quiet (st st' : State) (cs : List Bool) (tid : Nat) (th th' : Thread) (c : Bool)
    (hCI : CI (install st tid th) cs (some tid)) (htid : tid < st.threads.length) (hc : cs[tid]? = some c)
    (hthreads : st'.threads = st.threads) (hroot : st'.root = st.root) (hclosed : st'.closed = st.closed)
    (hnc : st'.nextChan = st.nextChan)
    (hpriv : ∀ w, priv th' c w → priv th c w)
    (hFI : FI th' c)
    (hfr : EffFrame th th' c)
    (hown : ThreadOK st.root st.nextChan th' c) :
    CI (install st' tid th') cs (some tid) := by
  have hown_old := install_own st tid th htid
  refine CI_update st st' cs tid th th' c hCI htid hc hthreads (by rw [hnc]; exact Nat.le_refl _)
    (by rw [hroot]; exact Nat.le_refl _) ?_ ?_ ?_ ?_ ?_ ?_ (by rw [hroot]; exact hCI.rootOK) hFI ?_ hfr (by rw [hroot, hnc]; exact hown) ?_
  · intro w hw; rw [hroot] at hw; exact Or.inl hw
  · intro w hw; rw [hclosed] at hw; exact Or.inl hw
  · intro w hw; exact Or.inr (Or.inl (hpriv w hw))
  · intro w hw; rw [hroot] at hw; rw [hclosed]; exact hCI.RC w hw
  · intro w hw; rw [hclosed]; exact hCI.PC tid th c w hown_old hc (hpriv w hw)
  · intro w hw; rw [hroot]; exact hCI.PR tid th c w hown_old hc (hpriv w hw)
  · intro w hw hn; rw [hclosed] at hw; exact absurd hw hn
  · intro j thj cj p _ _ _ _ hl; rw [hroot, hnc]; exact hl

end Sdb.Conc
