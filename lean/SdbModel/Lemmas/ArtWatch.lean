import SdbModel.Lemmas.ArtDelete

/-! Watch channels of the radix tree model (Model.Art).  A write clones each node on its path that the
    transaction does not own: the old watch goes to `St.pending` (closed by Notify) and the copy gets the
    transaction's id and a nil or fresh channel.  This is said once, as the relation `W` ("a write is a walk
    down the `Kids.find` path of its key"; `WR` for a tree given by its root), which `insNode` and `delNode` satisfy;
    that the state only grows (`W.le`) and that a predicate on the (stamp, watch) pairs of a tree which admits such
    copies is kept (`W.marks`, for `Marks` under `QOk`) are inductions over it, as are the counting, frame, closure,
    InsertWatch and root-only facts of the modules above this one. -/
namespace Sdb.ArtW
open Sdb.Art


/-- `st'` is a later state of the same transaction -/
structure StLe (st st' : St) : Prop where
  id : st'.txnID = st.txnID
  ro : st'.rootOnly = st.rootOnly
  nw : st.nextW ≤ st'.nextW
  sub : ∀ c ∈ st.pending, c ∈ st'.pending

theorem StLe.refl (st : St) : StLe st st := ⟨rfl, rfl, Nat.le_refl _, fun _ h => h⟩
theorem StLe.trans {a b c : St} (h1 : StLe a b) (h2 : StLe b c) : StLe a c :=
  ⟨h2.id.trans h1.id, h2.ro.trans h1.ro, Nat.le_trans h1.nw h2.nw, fun x hx => h2.sub x (h1.sub x hx)⟩

theorem record_le (st : St) (w : Nat) : StLe st (st.record w) := by
  unfold St.record
  split
  · exact StLe.refl _
  · exact ⟨rfl, rfl, Nat.le_refl _, fun c h => List.mem_cons_of_mem _ h⟩

theorem record_mem (st : St) (w : Nat) : w = 0 ∨ w ∈ (st.record w).pending := by
  unfold St.record
  split
  · rename_i h; exact h
  · right; exact List.mem_cons_self

theorem record_nextW (st : St) (w : Nat) : (st.record w).nextW = st.nextW := by
  unfold St.record; split <;> rfl

theorem record_pending {st : St} {w c : Nat} (h : c ∈ (st.record w).pending) : c = w ∨ c ∈ st.pending := by
  unfold St.record at h
  split at h
  · exact Or.inr h
  · exact List.mem_cons.mp h

theorem record_idem (st : St) (w : Nat) : (st.record w).record w = st.record w := by
  rcases record_mem st w with h | h
  · unfold St.record; simp [h]
  · generalize st.record w = s at h ⊢
    unfold St.record; simp [h]

theorem fresh_le (st : St) : StLe st st.fresh.1 := by
  unfold St.fresh
  split
  · exact StLe.refl _
  · exact ⟨rfl, rfl, Nat.le_succ _, fun _ h => h⟩

theorem freshIf_le (st : St) (w : Nat) : StLe st (st.freshIf w).1 := by
  unfold St.freshIf
  split
  · exact StLe.refl _
  · exact ⟨rfl, rfl, Nat.le_succ _, fun _ h => h⟩

theorem fresh_val (st : St) : st.fresh.2 = 0 ∨ st.fresh.2 = st.nextW := by
  unfold St.fresh; split <;> simp

theorem freshIf_val (st : St) (w : Nat) : (st.freshIf w).2 = 0 ∨ (st.freshIf w).2 = st.nextW := by
  unfold St.freshIf; split <;> simp


theorem drop_cons_of_longer {key pfx : List Nat} (hp : hasPrefix key pfx = true) (hl : key.length ≠ pfx.length) :
    ∃ b r, key.drop pfx.length = b :: r := by
  have := hasPrefix_length _ _ hp
  cases hk : key.drop pfx.length with
  | nil =>
    have e : (key.drop pfx.length).length = 0 := by rw [hk]; rfl
    rw [List.length_drop] at e; omega
  | cons b r => exact ⟨b, r, rfl⟩


/-! `insKids` and `delKids` walk the sorted child list exactly as `Kids.find` does, so the inductions about
`insNode` / `delNode` go along `Kids.find`, and `set`, `erase` and `insert` are described by what `find` sees after them. -/

mutual
theorem find_induct {motive : Node → Prop} (leaf : ∀ p d, motive (.leaf p d))
    (inner : ∀ kind p lf kids w t, (∀ b n, kids.find b = some n → motive n) → motive (.inner kind p lf kids w t)) :
    (n : Node) → motive n
  | .leaf p d => leaf p d
  | .inner kind p lf kids w t => inner kind p lf kids w t (find_inductK leaf inner kids)
theorem find_inductK {motive : Node → Prop} (leaf : ∀ p d, motive (.leaf p d))
    (inner : ∀ kind p lf kids w t, (∀ b n, kids.find b = some n → motive n) → motive (.inner kind p lf kids w t)) :
    (kids : Kids) → ∀ b n, kids.find b = some n → motive n
  | .nil, b, n, h => by simp [Kids.find] at h
  | .cons c m r, b, n, h => by
    simp only [Kids.find] at h
    split at h
    · cases h; exact find_induct leaf inner m
    · split at h
      · exact find_inductK leaf inner r b n h
      · cases h
end

theorem find_set_self (b : Nat) (n' : Node) : (kids : Kids) → (n : Node) → kids.find b = some n →
    (kids.set b n').find b = some n'
  | .nil, _, h => by simp [Kids.find] at h
  | .cons c m r, n, h => by
    simp only [Kids.find, Kids.set] at h ⊢
    by_cases hcb : c = b
    · simp only [if_pos hcb, Kids.find]
    · rw [if_neg hcb] at h ⊢
      simp only [Kids.find, if_neg hcb]
      split at h
      · rename_i hlt; rw [if_pos hlt]; exact find_set_self b n' r n h
      · cases h

theorem find_set_ne {b b2 : Nat} (hne : b ≠ b2) (n' : Node) : (kids : Kids) → (kids.set b n').find b2 = kids.find b2
  | .nil => rfl
  | .cons c m r => by
    simp only [Kids.set]
    split
    · rename_i hcb; simp only [Kids.find, if_neg (hcb ▸ hne)]
    · simp only [Kids.find, find_set_ne hne n' r]

theorem find_erase {b b2 : Nat} (hne : b2 ≠ b) {m : Node} : (kids : Kids) → kids.find b2 = some m →
    (kids.erase b).find b2 = some m
  | .nil, h => by simp [Kids.find] at h
  | .cons c x r, h => by
    simp only [Kids.find] at h
    simp only [Kids.erase]
    split at h
    · rename_i hc; rw [if_neg (hc ▸ hne)]; simp only [Kids.find, if_pos hc]; exact h
    · rename_i hc
      split at h
      · rename_i hlt
        split
        · exact h
        · simp only [Kids.find, if_neg hc, if_pos hlt]; exact find_erase hne r h
      · cases h

theorem find_insert {b b2 : Nat} (n : Node) {m : Node} : (kids : Kids) → kids.find b = none → kids.find b2 = some m →
    (kids.insert b n).find b2 = some m
  | .nil, _, h => by simp [Kids.find] at h
  | .cons c x r, hb, h => by
    rw [Kids.find] at hb h
    rw [Kids.insert]
    by_cases hcb : c = b
    · rw [if_pos hcb] at hb; cases hb
    · rw [if_neg hcb] at hb
      by_cases hlt : b < c
      · -- `b` goes in front of `c`, and `b2` is `c` or beyond
        have hbb : b < b2 := by
          by_cases h1 : c = b2
          · exact h1 ▸ hlt
          · rw [if_neg h1] at h
            by_cases h2 : c < b2
            · exact Nat.lt_trans hlt h2
            · rw [if_neg h2] at h; cases h
        rw [if_pos hlt, Kids.find, if_neg (Nat.ne_of_lt hbb), if_pos hbb, Kids.find]; exact h
      · rw [if_neg hlt, Kids.find]
        rw [if_pos (Nat.lt_of_le_of_ne (Nat.le_of_not_lt hlt) hcb)] at hb
        by_cases h1 : c = b2
        · rw [if_pos h1] at h ⊢; exact h
        · rw [if_neg h1] at h ⊢
          by_cases h2 : c < b2
          · rw [if_pos h2] at h ⊢; exact find_insert n r hb h
          · rw [if_neg h2] at h; cases h

theorem find_insert_self (b : Nat) (n : Node) : (kids : Kids) → kids.find b = none → (kids.insert b n).find b = some n
  | .nil, _ => by simp only [Kids.insert, Kids.find, if_true]
  | .cons c m r, h => by
    simp only [Kids.find] at h
    simp only [Kids.insert]
    split at h
    · cases h
    · rename_i hcb
      split
      · simp only [Kids.find, if_true]
      · rename_i hbc
        have hlt : c < b := by omega
        rw [if_pos hlt] at h
        simp only [Kids.find, if_neg hcb, if_pos hlt]
        exact find_insert_self b n r h

theorem erase_size {b : Nat} {n : Node} : (kids : Kids) → kids.find b = some n → (kids.erase b).size + 1 = kids.size
  | .nil, h => by simp [Kids.find] at h
  | .cons c m r, h => by
    simp only [Kids.find] at h
    simp only [Kids.erase]
    split
    · rfl
    · rename_i hc
      rw [if_neg hc] at h
      split at h
      · simp only [Kids.size, erase_size r h]
      · cases h


mutual
/-- every stamp in the subtree (inner nodes' `txn`, and `0` for every leaf,
    which is what `header.txnID()` reports for a leaf) satisfies `p` -/
def Stamps (p : Nat → Prop) : Node → Prop
  | .leaf _ _ => p 0
  | .inner _ _ lf kids _ t => p t ∧ (lf.isSome → p 0) ∧ StampsK p kids
def StampsK (p : Nat → Prop) : Kids → Prop
  | .nil => True
  | .cons _ n r => Stamps p n ∧ StampsK p r
end

theorem Stamps.txn {p : Nat → Prop} : (n : Node) → Stamps p n → p n.txn
  | .leaf _ _, h => by simpa only [Stamps, Node.txn] using h
  | .inner .., h => by simp only [Stamps] at h; exact h.1

mutual
/-- `q` holds of the (stamp, watch) of every inner node of the subtree, and `l` if the
    subtree has a leaf.  `Stamps p` is `Marks (fun t _ => p t) (p 0)`. -/
def Marks (q : Nat → Nat → Prop) (l : Prop) : Node → Prop
  | .leaf _ _ => l
  | .inner _ _ lf kids w t => q t w ∧ (lf.isSome → l) ∧ MarksK q l kids
def MarksK (q : Nat → Nat → Prop) (l : Prop) : Kids → Prop
  | .nil => True
  | .cons _ n r => Marks q l n ∧ MarksK q l r
end

section
variable {q : Nat → Nat → Prop} {l : Prop} {kind : Nat} {p : List Nat} {lf : Option LeafD} {ks : Kids} {w t : Nat}

theorem Marks.mk_leaf {d : LeafD} (h : l) : Marks q l (.leaf p d) := by
  simp only [Marks]; exact h

theorem Marks.mk_inner (hdr : q t w) (entry : lf.isSome → l) (hkids : MarksK q l ks) :
    Marks q l (.inner kind p lf ks w t) := by
  simp only [Marks]; exact ⟨hdr, entry, hkids⟩

theorem Marks.hdr (h : Marks q l (.inner kind p lf ks w t)) : q t w := by
  simp only [Marks] at h; exact h.1

theorem Marks.entry (h : Marks q l (.inner kind p lf ks w t)) : lf.isSome → l := by
  simp only [Marks] at h; exact h.2.1

theorem Marks.kids (h : Marks q l (.inner kind p lf ks w t)) : MarksK q l ks := by
  simp only [Marks] at h; exact h.2.2

end

mutual
theorem Marks.mono {q q' : Nat → Nat → Prop} {l l' : Prop} (hq : ∀ t w, q t w → q' t w) (hl : l → l') :
    (n : Node) → Marks q l n → Marks q' l' n
  | .leaf _ _, h => by simp only [Marks] at h ⊢; exact hl h
  | .inner _ _ _ kids _ _, h => .mk_inner (hq _ _ h.hdr) (fun x => hl (h.entry x)) (MarksK.mono hq hl kids h.kids)
theorem MarksK.mono {q q' : Nat → Nat → Prop} {l l' : Prop} (hq : ∀ t w, q t w → q' t w) (hl : l → l') :
    (k : Kids) → MarksK q l k → MarksK q' l' k
  | .nil, _ => by simp only [MarksK]
  | .cons _ n r, h => by
    simp only [MarksK] at h ⊢
    exact ⟨Marks.mono hq hl n h.1, MarksK.mono hq hl r h.2⟩
end

mutual
theorem marks_stamps {p : Nat → Prop} : (n : Node) → (Marks (fun t _ => p t) (p 0) n ↔ Stamps p n)
  | .leaf _ _ => by simp only [Marks, Stamps]
  | .inner _ _ _ kids _ _ => by simp only [Marks, Stamps, marksK_stamps kids]
theorem marksK_stamps {p : Nat → Prop} : (k : Kids) → (MarksK (fun t _ => p t) (p 0) k ↔ StampsK p k)
  | .nil => by simp only [MarksK, StampsK]
  | .cons _ n r => by simp only [MarksK, StampsK, marks_stamps n, marksK_stamps r]
end

theorem Stamps.mono {p q : Nat → Prop} (h : ∀ x, p x → q x) (n : Node) (hs : Stamps p n) : Stamps q n :=
  (marks_stamps n).1 (Marks.mono (fun t _ => h t) (h 0) n ((marks_stamps n).2 hs))

theorem StampsK.mono {p q : Nat → Prop} (h : ∀ x, p x → q x) : (k : Kids) → StampsK p k → StampsK q k :=
  fun k hs => (marksK_stamps k).1 (MarksK.mono (fun t _ => h t) (h 0) k ((marksK_stamps k).2 hs))

theorem MarksK.find {q : Nat → Nat → Prop} {l : Prop} {b : Nat} {n : Node} : (kids : Kids) → MarksK q l kids →
    kids.find b = some n → Marks q l n
  | .nil, _, h => by simp [Kids.find] at h
  | .cons c m r, hs, h => by
    simp only [MarksK] at hs
    simp only [Kids.find] at h
    split at h
    · cases h; exact hs.1
    · split at h
      · exact MarksK.find r hs.2 h
      · cases h

theorem Marks.kid {q : Nat → Nat → Prop} {l : Prop} {kind : Nat} {p : List Nat} {lf : Option LeafD} {kids : Kids}
    {w t b : Nat} {n : Node} (h : Marks q l (.inner kind p lf kids w t)) (hfind : kids.find b = some n) : Marks q l n :=
  MarksK.find kids h.kids hfind

theorem MarksK.set {q : Nat → Nat → Prop} {l : Prop} (b : Nat) {n' : Node} (hn : Marks q l n') :
    (k : Kids) → MarksK q l k → MarksK q l (k.set b n')
  | .nil, _ => by simp only [Kids.set, MarksK]
  | .cons c m r, h => by
    simp only [MarksK] at h
    simp only [Kids.set]
    split
    · simp only [MarksK]; exact ⟨hn, h.2⟩
    · simp only [MarksK]; exact ⟨h.1, MarksK.set b hn r h.2⟩

theorem MarksK.insert {q : Nat → Nat → Prop} {l : Prop} (b : Nat) (n : Node) (hn : Marks q l n) :
    (k : Kids) → MarksK q l k → MarksK q l (k.insert b n)
  | .nil, _ => by simp only [Kids.insert, MarksK]; exact ⟨hn, trivial⟩
  | .cons c m r, h => by
    simp only [MarksK] at h
    unfold Kids.insert
    split
    · simp only [MarksK]; exact ⟨hn, h.1, h.2⟩
    · simp only [MarksK]; exact ⟨h.1, MarksK.insert b n hn r h.2⟩

theorem MarksK.erase {q : Nat → Nat → Prop} {l : Prop} (b : Nat) : (k : Kids) → MarksK q l k → MarksK q l (k.erase b)
  | .nil, _ => by simp only [Kids.erase, MarksK]
  | .cons c m r, h => by
    simp only [MarksK] at h
    unfold Kids.erase
    split
    · exact h.2
    · simp only [MarksK]; exact ⟨h.1, MarksK.erase b r h.2⟩

theorem Marks.setPfx {q : Nat → Nat → Prop} {l : Prop} (p : List Nat) : (n : Node) → Marks q l n → Marks q l (n.setPfx p)
  | .leaf _ _, h => by simpa only [Node.setPfx, Marks] using h
  | .inner .., h => by simpa only [Node.setPfx, Marks] using h

theorem Marks.leaf {q : Nat → Nat → Prop} {l : Prop} : (n : Node) → Marks q l n → n.getLeaf.isSome → l
  | .leaf _ _, h, _ => by simpa only [Marks] using h
  | .inner .., h, hl => h.entry hl

theorem Stamps.leaf0 {p : Nat → Prop} : (n : Node) → Stamps p n → n.getLeaf.isSome → p 0 :=
  fun n h => Marks.leaf n ((marks_stamps n).2 h)

theorem StampsK.insert {p : Nat → Prop} (b : Nat) (n : Node) (hn : Stamps p n) :
    (k : Kids) → StampsK p k → StampsK p (k.insert b n) :=
  fun k h => (marksK_stamps _).1 (MarksK.insert b n ((marks_stamps n).2 hn) k ((marksK_stamps k).2 h))

/-- what preservation asks of `q`: it admits the transaction's own id with a nil or not-yet-allocated channel -/
def QOk (q : Nat → Nat → Prop) (st : St) : Prop := ∀ w', w' = 0 ∨ st.nextW ≤ w' → q st.txnID w'

theorem insKids_eq_find (P : ArtParams) (st : St) (b : Nat) (key full : List Nat) (val : Nat)
    (mod : Option (Nat → Nat → Nat)) : (kids : Kids) →
    insKids P st kids b key full val mod =
      (kids.find b).map fun n => (insNode P st n key full val mod, kids.set b (insNode P st n key full val mod).node)
  | .nil => by simp [insKids, Kids.find]
  | .cons c n rest => by
    unfold insKids
    simp only [Kids.find, Kids.set]
    split
    · rfl
    · split
      · rw [insKids_eq_find P st b key full val mod rest]
        cases rest.find b <;> rfl
      · rfl

theorem insKids_some {P : ArtParams} {st : St} {kids : Kids} {b : Nat} {key full : List Nat} {val : Nat}
    {mod : Option (Nat → Nat → Nat)} {r : InsRes} {kids' : Kids}
    (h : insKids P st kids b key full val mod = some (r, kids')) :
    ∃ n, kids.find b = some n ∧ r = insNode P st n key full val mod ∧ kids' = kids.set b r.node := by
  rw [insKids_eq_find] at h
  cases hfind : kids.find b with
  | none => rw [hfind] at h; cases h
  | some n => rw [hfind] at h; cases h; exact ⟨n, rfl, rfl, rfl⟩

theorem insNode_stop (P : ArtParams) (st : St) (kind : Nat) (pfx : List Nat) (lf : Option LeafD) (kids : Kids)
    (w t : Nat) (key full : List Nat) (val : Nat) (mod : Option (Nat → Nat → Nat))
    (hno : ¬ (key ≠ [] ∧ hasPrefix key pfx = true ∧ key.length ≠ pfx.length)) :
    insNode P st (.inner kind pfx lf kids w t) key full val mod =
      insAt P st (.inner kind pfx lf kids w t) key full val mod := by
  unfold insNode; rw [if_neg hno]


theorem forkNode_marks {q : Nat → Nat → Prop} {l : Prop} (k4 : Nat) (common : List Nat) (this : Node) (key : List Nat)
    (d : LeafD) (w id : Nat) (hq : q id w) (hl : l) (h : Marks q l this) :
    Marks q l (forkNode k4 common this key d w id) := by
  have hd : Marks q l (.leaf key d) := .mk_leaf hl
  unfold forkNode
  split
  · exact .mk_inner hq (Marks.leaf _ h) ⟨hd, trivial⟩
  · exact .mk_inner hq (fun _ => hl) ⟨h, trivial⟩
  · split
    · exact .mk_inner hq nofun ⟨h, hd, trivial⟩
    · exact .mk_inner hq nofun ⟨hd, h, trivial⟩

/-! ## a write as a walk

A write of `key` goes down the `Kids.find` path of `key`.  The header (watch, stamp) of every inner node it visits, and
the entry at the end, is brought into the transaction (`Rw`, `Re`): the transaction owns it already and it stays in place,
or its channel is recorded and it gets the transaction's id with a nil or new channel.  `W` lists what is left behind.
The write operations of the model are opened below, for `insNode_W` and `delNode_W`; nothing after this module unfolds them. -/

/-- `cloneNode` on the header `(w, t)`: in place if the transaction owns it, else record and allocate -/
def reclone (st : St) (w t : Nat) : St × Nat := if t = st.txnID then (st, w) else (st.record w).fresh

/-- How a write brings the header (watch `w`, stamp `t`) of an inner node into the transaction, giving it
    watch `w'` (and the transaction's id): `cloneNode`, promotion, demotion, or a header made anew. -/
inductive Rw : St → Nat → Nat → St → Nat → Prop
  | re (st w t) : Rw st w t (reclone st w t).1 (reclone st w t).2
  | promote (st w t) : Rw st w t ((st.record w).freshIf w).1 ((st.record w).freshIf w).2
  | demote (st w t) : Rw st w t ((st.freshIf w).1.record w) (st.freshIf w).2
  | new (st t) : Rw st 0 t st.fresh.1 st.fresh.2

/-- The same for the entry at the end of the key (stamp 0): an existing one is cloned, a missing one made. -/
inductive Re : St → Option LeafD → St → Nat → Prop
  | clone (st d) : Re st (some d) (reclone st d.watch 0).1 (reclone st d.watch 0).2
  | new (st) : Re st none st.fresh.1 st.fresh.2

def lfWatch (lf : Option LeafD) : Nat := (lf.map (·.watch)).getD 0

theorem Re.toRw {st st' : St} {lf : Option LeafD} {w' : Nat} (h : Re st lf st' w') : Rw st (lfWatch lf) 0 st' w' := by
  cases h with
  | clone => exact Rw.re ..
  | new => exact Rw.new ..

/-- the node `insAt` puts under a fork: a leaf as it is, an inner node with its header brought in -/
inductive Into (id : Nat) (st : St) : Node → St → Node → Prop
  | leaf (p d) : Into id st (.leaf p d) st (.leaf p d)
  | inner {st1 kind p lf kids w t w'} : Rw st w t st1 w' →
      Into id st (.inner kind p lf kids w t) st1 (.inner kind p lf kids w' id)

/-- `W id st n key st' res rw`: a write of `key` below `n` by the transaction `id` in state `st` ends in state
    `st'` and leaves `res` (`none`: the node is gone); `rw` is the channel an insert returns (`none` for a delete).
    Values and kinds are left out: this is what the write does to prefixes, children, watches and stamps. -/
inductive W (id : Nat) (st : St) : Node → List Nat → St → Option Node → Option Nat → Prop
  /-- below the child under the next byte, which stays; then the header is brought in (insert, delete) -/
  | kid {st1 st2 kind pfx lf kids w t key b r n n1 w' rw} :
      hasPrefix key pfx = true → key.drop pfx.length = b :: r → kids.find b = some n →
      W id st n (b :: r) st1 (some n1) rw → Rw st1 w t st2 w' →
      W id st (.inner kind pfx lf kids w t) key st2 (some (.inner kind pfx lf (kids.set b n1) w' id)) rw
  /-- insert: a new leaf in the free slot under the next byte -/
  | slot {st1 st2 kind kind' pfx lf kids w t key b r d w'} :
      hasPrefix key pfx = true → key.drop pfx.length = b :: r → kids.find b = none →
      Re st none st1 d.watch → Rw st1 w t st2 w' →
      W id st (.inner kind pfx lf kids w t) key st2
        (some (.inner kind' pfx lf (kids.insert b (.leaf (b :: r) d)) w' id)) (some d.watch)
  /-- insert at the inner node whose prefix is the key -/
  | atInner {st1 st2 kind pfx lf kids w t w' d'} :
      Rw st w t st1 w' → Re st1 lf st2 d'.watch →
      W id st (.inner kind pfx lf kids w t) pfx st2 (some (.inner kind pfx (some d') kids w' id)) (some d'.watch)
  /-- insert at the leaf whose prefix is the key -/
  | atLeaf {st' p d d'} : Re st (some d) st' d'.watch →
      W id st (.leaf p d) p st' (some (.leaf p d')) (some d'.watch)
  /-- insert: the key leaves the prefix of the node, which goes under a new node next to a new leaf -/
  | fork {st1 st2 st3 n this key k4 d w4} :
      key ≠ n.pfx →
      (n.isLeaf = false → ¬ (key ≠ [] ∧ hasPrefix key n.pfx = true ∧ key.length ≠ n.pfx.length)) →
      Into id st n st1 this → Re st1 none st2 d.watch → Rw st2 0 0 st3 w4 →
      W id st n key st3
        (some (forkNode k4 (commonPrefix key n.pfx) (this.setPfx (n.pfx.drop (commonPrefix key n.pfx).length))
          (key.drop (commonPrefix key n.pfx).length) d w4 id)) (some d.watch)
  /-- delete: the child under the next byte is gone, the node stays (demoted or cloned) -/
  | kidGone {st1 st2 kind kind' pfx lf kids w t key b r n w'} :
      hasPrefix key pfx = true → key.drop pfx.length = b :: r → kids.find b = some n →
      W id st n (b :: r) st1 none none → Rw st1 w t st2 w' →
      W id st (.inner kind pfx lf kids w t) key st2 (some (.inner kind' pfx lf (kids.erase b) w' id)) none
  /-- delete: the child under the next byte is gone and the one child left takes the node's place -/
  | kidGoneMerge {st1 kind pfx kids w t key b r n a child} :
      hasPrefix key pfx = true → key.drop pfx.length = b :: r → kids.find b = some n →
      W id st n (b :: r) st1 none none → kids.erase b = .cons a child .nil →
      W id st (.inner kind pfx none kids w t) key (st1.record w) (some (mergeUp pfx child)) none
  /-- delete at the leaf whose prefix is the key: the leaf goes -/
  | delLeaf (p d) : W id st (.leaf p d) p (st.record d.watch) none none
  /-- delete at the inner node whose prefix is the key: it loses its entry and its only child takes its place -/
  | delMerge (kind pfx d a child w t) :
      W id st (.inner kind pfx (some d) (.cons a child .nil) w t) pfx ((st.record d.watch).record w)
        (some (mergeUp pfx child)) none
  /-- … it loses its entry and stays, having several children -/
  | delClone {st2 kind pfx d kids w t w'} : Rw (st.record d.watch) w t st2 w' →
      W id st (.inner kind pfx (some d) kids w t) pfx st2 (some (.inner kind pfx none kids w' id)) none
  /-- … it has no child and goes with its entry -/
  | delGone (kind pfx d w t) :
      W id st (.inner kind pfx (some d) .nil w t) pfx ((st.record d.watch).record w) none none

/-- a write of `key` on the tree with root `root`: `W` below the root, or the first leaf of an empty tree -/
inductive WR (id : Nat) (st : St) : Option Node → List Nat → St → Option Node → Option Nat → Prop
  | node {r key st' res rw} : W id st r key st' res rw → WR id st (some r) key st' res rw
  | first {key st' d} : Re st none st' d.watch → WR id st none key st' (some (.leaf key d)) (some d.watch)

theorem Rw.le {st st' : St} {w t w' : Nat} (h : Rw st w t st' w') : StLe st st' := by
  cases h with
  | re => unfold reclone; split; exact StLe.refl _; exact (record_le _ _).trans (fresh_le _)
  | promote => exact (record_le _ _).trans (freshIf_le _ _)
  | demote => exact (freshIf_le _ _).trans (record_le _ _)
  | new => exact fresh_le _

theorem Rw.out {st st' : St} {w t w' : Nat} (h : Rw st w t st' w') :
    (t = st.txnID ∧ w' = w) ∨ ((w = 0 ∨ w ∈ st'.pending) ∧ (w' = 0 ∨ st.nextW ≤ w')) := by
  cases h with
  | re =>
    unfold reclone
    split
    · rename_i h; exact Or.inl ⟨h, rfl⟩
    · exact Or.inr ⟨(record_mem st w).imp_right ((fresh_le _).sub _),
        (fresh_val _).imp_right fun h => by rw [h, record_nextW]; exact Nat.le_refl _⟩
  | promote =>
    exact Or.inr ⟨(record_mem st w).imp_right ((freshIf_le _ _).sub _),
      (freshIf_val _ w).imp_right fun h => by rw [h, record_nextW]; exact Nat.le_refl _⟩
  | demote => exact Or.inr ⟨record_mem _ w, (freshIf_val st w).imp_right fun h => by rw [h]; exact Nat.le_refl _⟩
  | new => exact Or.inr ⟨Or.inl rfl, (fresh_val st).imp_right fun h => by rw [h]; exact Nat.le_refl _⟩

theorem Rw.out0 {st st' : St} {t w' : Nat} (h : Rw st 0 t st' w') : w' = 0 ∨ st.nextW ≤ w' :=
  h.out.elim (fun h => Or.inl h.2) And.right

theorem Re.le {st st' : St} {lf : Option LeafD} {w' : Nat} (h : Re st lf st' w') : StLe st st' := h.toRw.le

theorem Into.le {id : Nat} {st st1 : St} {n this : Node} (h : Into id st n st1 this) : StLe st st1 := by
  cases h with
  | leaf => exact StLe.refl _
  | inner hrw => exact hrw.le

theorem W.le {id : Nat} {st st' : St} {n : Node} {key : List Nat} {res : Option Node} {rw : Option Nat}
    (h : W id st n key st' res rw) : StLe st st' := by
  induction h with
  | kid _ _ _ _ hrw ih => exact ih.trans hrw.le
  | slot _ _ _ hre hrw => exact hre.le.trans hrw.le
  | atInner hrw hre => exact hrw.le.trans hre.le
  | atLeaf hre => exact hre.le
  | fork _ _ hin hre hrw => exact hin.le.trans (hre.le.trans hrw.le)
  | kidGone _ _ _ _ hrw ih => exact ih.trans hrw.le
  | kidGoneMerge _ _ _ _ _ ih => exact ih.trans (record_le _ _)
  | delLeaf => exact record_le _ _
  | delMerge => exact (record_le _ _).trans (record_le _ _)
  | delClone hrw => exact (record_le _ _).trans hrw.le
  | delGone => exact (record_le _ _).trans (record_le _ _)

theorem WR.le {id : Nat} {st st' : St} {root root' : Option Node} {key : List Nat} {rw : Option Nat}
    (h : WR id st root key st' root' rw) : StLe st st' := by
  cases h with
  | node h => exact h.le
  | first hre => exact hre.le

theorem Rw.q {q : Nat → Nat → Prop} {st0 st st' : St} {w t w' : Nat} (hq : QOk q st0) (hle : StLe st0 st)
    (h : Rw st w t st' w') (h0 : q t w) : q st0.txnID w' := by
  rcases h.out with ⟨ht, hw⟩ | ⟨_, hw⟩
  · rw [hw, ← hle.id, ← ht]; exact h0
  · exact hq w' (hw.imp_right fun h => Nat.le_trans hle.nw h)

theorem W.marks {q : Nat → Nat → Prop} {l : Prop} {id : Nat} {st st' : St} {n : Node} {key : List Nat}
    {res : Option Node} {rw : Option Nat} (h : W id st n key st' res rw) :
    st.txnID = id → QOk q st → (rw.isSome → l) → Marks q l n → ∀ n', res = some n' → Marks q l n' := by
  induction h with
  | kid _ _ hfind hw hrw ih =>
    rintro rfl hq hl hs _ ⟨⟩
    exact .mk_inner (hrw.q hq hw.le hs.hdr) hs.entry (MarksK.set _ (ih rfl hq hl (hs.kid hfind) _ rfl) _ hs.kids)
  | slot _ _ _ hre hrw =>
    rintro rfl hq hl hs _ ⟨⟩
    exact .mk_inner (hrw.q hq hre.le hs.hdr) hs.entry (MarksK.insert _ _ (.mk_leaf (hl rfl)) _ hs.kids)
  | atInner hrw _ =>
    rintro rfl hq hl hs _ ⟨⟩
    exact .mk_inner (hrw.q hq (StLe.refl _) hs.hdr) (fun _ => hl rfl) hs.kids
  | atLeaf _ => rintro rfl _ hl _ _ ⟨⟩; exact .mk_leaf (hl rfl)
  | fork _ _ hin hre hrw =>
    rintro rfl hq hl hs _ ⟨⟩
    refine forkNode_marks _ _ _ _ _ _ _ (hq _ (hrw.out0.imp_right fun h =>
      Nat.le_trans (hin.le.trans hre.le).nw h)) (hl rfl) (Marks.setPfx _ _ ?_)
    cases hin with
    | leaf => exact hs
    | inner hrw1 => exact .mk_inner (hrw1.q hq (StLe.refl _) hs.hdr) hs.entry hs.kids
  | kidGone _ _ _ hw hrw _ =>
    rintro rfl hq _ hs _ ⟨⟩
    exact .mk_inner (hrw.q hq hw.le hs.hdr) hs.entry (MarksK.erase _ _ hs.kids)
  | kidGoneMerge _ _ _ _ hkk _ =>
    rintro rfl _ _ hs _ ⟨⟩
    have hone : MarksK q l (.cons _ _ .nil) := hkk ▸ MarksK.erase _ _ hs.kids
    exact Marks.setPfx _ _ hone.1
  | delLeaf => rintro _ _ _ _ _ ⟨⟩
  | delMerge kind pfx d a child w t =>
    rintro rfl _ _ hs _ ⟨⟩
    exact Marks.setPfx _ _ (hs.kid (b := a) (by rw [Kids.find, if_pos rfl]))
  | delClone hrw =>
    rintro rfl hq _ hs _ ⟨⟩
    exact .mk_inner (hrw.q hq (record_le _ _) hs.hdr) nofun hs.kids
  | delGone => rintro _ _ _ _ _ ⟨⟩

theorem WR.marks {q : Nat → Nat → Prop} {l : Prop} {id : Nat} {st st' : St} {root root' : Option Node}
    {key : List Nat} {rw : Option Nat} (h : WR id st root key st' root' rw) (hid : st.txnID = id) (hq : QOk q st)
    (hl : rw.isSome → l) (hs : ∀ r, root = some r → Marks q l r) : ∀ r', root' = some r' → Marks q l r' := by
  cases h with
  | node h => exact h.marks hid hq hl (hs _ rfl)
  | first _ => rintro _ ⟨⟩; exact .mk_leaf (hl rfl)

/-! ### the model's writes are such walks -/

theorem reclone_id (st : St) (w t : Nat) : (reclone st w t).1.txnID = st.txnID := by
  unfold reclone; split
  · rfl
  · exact ((record_le _ _).trans (fresh_le _)).id

theorem cloneNode_inner_reclone (st : St) (k : Nat) (p : List Nat) (lf : Option LeafD) (kids : Kids) (w t : Nat) :
    cloneNode st (.inner k p lf kids w t) = ((reclone st w t).1, .inner k p lf kids (reclone st w t).2 st.txnID) := by
  by_cases h : t = st.txnID
  · subst h; simp only [cloneNode, reclone, Node.txn, if_true]
  · have e : (st.record w).fresh.1.txnID = st.txnID := ((record_le _ _).trans (fresh_le _)).id
    simp only [cloneNode, reclone, Node.txn, Node.watch, if_neg h, e]

theorem cloneNode_leaf_reclone (st : St) (p : List Nat) (d : LeafD) :
    cloneNode st (.leaf p d) = ((reclone st d.watch 0).1, .leaf p { d with watch := (reclone st d.watch 0).2 }) := by
  unfold cloneNode
  split
  · rename_i h; have h' : 0 = st.txnID := h; rw [reclone, if_pos h']
  · rename_i h; have h' : ¬ 0 = st.txnID := h; rw [reclone, if_neg h']; rfl

theorem cloneLeafD_reclone (st : St) (d : LeafD) :
    cloneLeafD st d = ((reclone st d.watch 0).1, { d with watch := (reclone st d.watch 0).2 }) := by
  unfold cloneLeafD reclone
  split <;> rfl

theorem fresh_id (st : St) : st.fresh.1.txnID = st.txnID := (fresh_le st).id
theorem newLeafD_id (st : St) (full : List Nat) (v : Nat) : (newLeafD st full v).1.txnID = st.txnID := by
  unfold newLeafD; exact fresh_id st

theorem insAt_W (P : ArtParams) (st : St) (n : Node) (key full : List Nat) (val : Nat) (mod : Option (Nat → Nat → Nat))
    (hno : n.isLeaf = false → ¬ (key ≠ [] ∧ hasPrefix key n.pfx = true ∧ key.length ≠ n.pfx.length)) :
    W st.txnID st n key (insAt P st n key full val mod).st (some (insAt P st n key full val mod).node)
      (some (insAt P st n key full val mod).watch) := by
  by_cases hkp : key = n.pfx
  · unfold insAt
    simp only
    rw [if_pos ((insAt_cond key n.pfx).2 hkp)]
    cases n with
    | leaf p d =>
      cases hkp
      rw [cloneNode_leaf_reclone]
      exact W.atLeaf (d' := { d with watch := _, val := _ }) (Re.clone st d)
    | inner kind p lf kids w t =>
      cases hkp
      rw [cloneNode_inner_reclone]
      cases lf with
      | some d =>
        simp only [cloneLeafD_reclone]
        exact W.atInner (d' := { d with watch := _, val := _ }) (Rw.re st w t) (Re.clone _ d)
      | none =>
        simp only [newLeafD]
        exact W.atInner (d' := { key := full, val := val, watch := _ }) (Rw.re st w t) (Re.new _)
  · unfold insAt
    simp only
    rw [if_neg (mt (insAt_cond key n.pfx).1 hkp)]
    cases n with
    | leaf p d =>
      simp only [fresh_id, newLeafD_id]
      exact W.fork (d := (newLeafD st full val).2) hkp hno (Into.leaf p d) (Re.new _) (Rw.new _ 0)
    | inner kind p lf kids w t =>
      simp only [cloneNode_inner_reclone, fresh_id, newLeafD_id, reclone_id]
      exact W.fork (d := (newLeafD (reclone st w t).1 full val).2) hkp hno (Into.inner (Rw.re st w t)) (Re.new _) (Rw.new _ 0)

theorem insNode_W (P : ArtParams) (st : St) (n : Node) : ∀ (key full : List Nat) (val : Nat)
    (mod : Option (Nat → Nat → Nat)),
    W st.txnID st n key (insNode P st n key full val mod).st (some (insNode P st n key full val mod).node)
      (some (insNode P st n key full val mod).watch) := by
  induction n using find_induct with
  | leaf p d =>
    intro key full val mod
    unfold insNode; exact insAt_W P st _ key full val mod (fun h => by cases h)
  | inner kind pfx lf kids w t ih =>
    intro key full val mod
    by_cases hcond : key ≠ [] ∧ hasPrefix key pfx = true ∧ key.length ≠ pfx.length
    · obtain ⟨b, r, hk⟩ := drop_cons_of_longer hcond.2.1 hcond.2.2
      rw [insNode, if_pos hcond]
      simp only [hk, List.headD_cons, insKids_eq_find]
      cases hfind : kids.find b with
      | some n =>
        simp only [Option.map_some, cloneNode_inner_reclone, (ih b n hfind (b :: r) full val mod).le.id]
        exact W.kid hcond.2.1 hk hfind (ih b n hfind ..) (Rw.re ..)
      | none =>
        simp only [Option.map_none]
        split
        · simp only [(freshIf_le _ _).id, (record_le _ _).id, newLeafD_id]
          exact W.slot (d := (newLeafD st full val).2) hcond.2.1 hk hfind (Re.new st) (Rw.promote _ w t)
        · simp only [cloneNode_inner_reclone, newLeafD_id]
          exact W.slot (d := (newLeafD st full val).2) hcond.2.1 hk hfind (Re.new st) (Rw.re _ w t)
    · rw [insNode_stop _ _ _ _ _ _ _ _ _ _ _ _ hcond]
      exact insAt_W P st _ key full val mod (fun _ => hcond)

theorem insKids_marks {q : Nat → Nat → Prop} {l : Prop} (P : ArtParams) (st : St) (hq : QOk q st) (hl : l)
    (kids : Kids) (b : Nat) (key full : List Nat) (val : Nat) (mod : Option (Nat → Nat → Nat)) (r : InsRes) (kids' : Kids)
    (hs : MarksK q l kids) (h : insKids P st kids b key full val mod = some (r, kids')) : MarksK q l kids' := by
  obtain ⟨n, hfind, rfl, rfl⟩ := insKids_some h
  exact MarksK.set _ ((insNode_W P st n key full val mod).marks rfl hq (fun _ => hl) (MarksK.find _ hs hfind) _ rfl) _ hs

theorem insKids_stamps {p : Nat → Prop} (P : ArtParams) (st : St) (hid : p st.txnID) (h0 : p 0) :
    (kids : Kids) → (b : Nat) → (key full : List Nat) → (val : Nat) → (mod : Option (Nat → Nat → Nat)) →
    (r : InsRes) → (kids' : Kids) → StampsK p kids →
    insKids P st kids b key full val mod = some (r, kids') → StampsK p kids' :=
  fun kids b key full val mod r kids' hs h =>
    (marksK_stamps _).1 (insKids_marks P st (fun _ _ => hid) h0 kids b key full val mod r kids' ((marksK_stamps kids).2 hs) h)


/-- the transaction state a deletion ends in (none when the key was absent) -/
def delSt : DelRes → Option St
  | .notFound => none
  | .replaced st _ _ => some st
  | .removed st _ => some st

theorem delKids_eq_find (P : ArtParams) (st : St) (b : Nat) (key : List Nat) : (kids : Kids) →
    delKids P st kids b key =
      (kids.find b).map fun n => (delNode P st n key,
        match delNode P st n key with
        | .replaced _ n' _ => kids.set b n'
        | _ => kids)
  | .nil => by simp [delKids, Kids.find]
  | .cons c n rest => by
    rw [delKids]
    simp only [Kids.find, Kids.set]
    split
    · simp only [Option.map_some]; cases delNode P st n key <;> rfl
    · split
      · rw [delKids_eq_find P st b key rest]
        cases rest.find b with
        | none => rfl
        | some m => simp only [Option.map_some]; cases delNode P st m key <;> rfl
      · rfl

theorem delKids_some {P : ArtParams} {st : St} {b : Nat} {key : List Nat} {r : DelRes} {kids kids' : Kids} :
    delKids P st kids b key = some (r, kids') →
    ∃ n, kids.find b = some n ∧ delNode P st n key = r ∧
      kids' = match r with
        | .replaced _ n' _ => kids.set b n'
        | _ => kids := by
  intro h
  rw [delKids_eq_find] at h
  cases hfind : kids.find b with
  | none => rw [hfind] at h; cases h
  | some n => rw [hfind] at h; cases h; exact ⟨n, rfl, rfl, rfl⟩

def delOut : DelRes → Option Node
  | .replaced _ n _ => some n
  | _ => none

theorem delAt_W (st : St) (n : Node) (st' : St) (h : delSt (delAt st n) = some st') :
    W st.txnID st n n.pfx st' (delOut (delAt st n)) none := by
  unfold delAt at h ⊢
  cases n with
  | leaf p d =>
    simp only [Node.getLeaf, Node.watch, delSt, Option.some.injEq] at h ⊢
    rw [record_idem] at h
    subst h
    exact W.delLeaf p d
  | inner kind pfx lf kids w t =>
    cases lf with
    | none => cases h
    | some d =>
      simp only [Node.getLeaf] at h ⊢
      by_cases hs1 : kids.size = 1
      · obtain ⟨a, child, rfl⟩ := kids_size_one kids hs1
        simp only [Kids.size, Kids.first, if_true] at h ⊢
        cases h
        exact W.delMerge kind pfx d a child w t
      · rw [if_neg hs1] at h ⊢
        by_cases hs0 : kids.size > 0
        · rw [if_pos hs0] at h ⊢
          cases h
          simp only [cloneNode_inner_reclone, delOut, (record_le _ _).id]
          exact W.delClone (Rw.re ..)
        · rw [if_neg hs0] at h ⊢
          cases h
          cases kids with
          | nil => exact W.delGone kind pfx d w t
          | cons _ _ _ => simp [Kids.size] at hs0

theorem delNode_W (P : ArtParams) (st : St) (n : Node) : ∀ (key : List Nat) (st' : St),
    delSt (delNode P st n key) = some st' → W st.txnID st n key st' (delOut (delNode P st n key)) none := by
  induction n using find_induct with
  | leaf p d =>
    intro key st' h
    rcases pfx_cases key p with hp | rfl | ⟨b, r, rfl⟩
    · rw [delNode_miss P st (.leaf p d) key hp] at h; cases h
    · have e : delNode P st (.leaf key d) key = delAt st (.leaf key d) := delNode_at P st (.leaf key d)
      rw [e] at h ⊢
      exact delAt_W st _ st' h
    · rw [delNode_leaf_below] at h; cases h
  | inner kind pfx lf kids w t ih =>
    intro key st' h
    rcases pfx_cases key pfx with hp | rfl | ⟨b, r, rfl⟩
    · rw [delNode_miss P st (.inner kind pfx lf kids w t) key hp] at h; cases h
    · have e : delNode P st (.inner kind key lf kids w t) key = delAt st _ := delNode_at P st (.inner kind key lf kids w t)
      rw [e] at h ⊢
      exact delAt_W st _ st' h
    · have hp := hasPrefix_append_self pfx (b :: r)
      have hk : (pfx ++ b :: r).drop pfx.length = b :: r := List.drop_left
      rw [delNode_inner_below, delKids_eq_find] at h ⊢
      cases hfind : kids.find b with
      | none => rw [hfind] at h; cases h
      | some n =>
        rw [hfind] at h
        simp only [Option.map_some] at h ⊢
        have ih1 := ih b n hfind (b :: r)
        cases hdn : delNode P st n (b :: r) with
        | notFound => rw [hdn] at h; cases h
        | replaced st1 n1 old =>
          rw [hdn] at h ih1
          dsimp only at h ⊢
          cases h
          have ih1 := ih1 st1 rfl
          simp only [cloneNode_inner_reclone, delOut, ih1.le.id]
          exact W.kid hp hk hfind ih1 (Rw.re ..)
        | removed st1 old =>
          rw [hdn] at h ih1
          dsimp only at h ⊢
          cases h
          have ih1 := ih1 st1 rfl
          have hid := ih1.le.id
          unfold removeChild
          simp only
          split
          · rename_i hm
            obtain ⟨a, child, hkk⟩ := kids_size_one (kids.erase b) (Nat.succ.inj ((erase_size kids hfind).trans hm.1))
            cases Option.isNone_iff_eq_none.mp hm.2
            rw [hkk]
            exact W.kidGoneMerge hp hk hfind ih1 hkk
          · split
            · simp only [delOut, (record_le _ _).id, (freshIf_le _ _).id, hid]
              exact W.kidGone hp hk hfind ih1 (Rw.demote ..)
            · simp only [cloneNode_inner_reclone, delOut, hid]
              exact W.kidGone hp hk hfind ih1 (Rw.re ..)

theorem delKids_marks {q : Nat → Nat → Prop} {l : Prop} (P : ArtParams) (st : St) (hq : QOk q st) (kids : Kids) (b : Nat)
    (key : List Nat) (hs : MarksK q l kids) (r : DelRes) (kids' : Kids) (h : delKids P st kids b key = some (r, kids')) :
    MarksK q l kids' := by
  obtain ⟨n, hfind, hdn, rfl⟩ := delKids_some h
  cases r with
  | replaced s n' o =>
    have hw := delNode_W P st n key s (by rw [hdn]; rfl)
    rw [hdn] at hw
    exact MarksK.set _ (hw.marks rfl hq nofun (MarksK.find _ hs hfind) n' rfl) _ hs
  | notFound => exact hs
  | removed s o => exact hs

theorem delKids_stamps {p : Nat → Prop} (P : ArtParams) (st : St) (hid : p st.txnID) :
    (kids : Kids) → (b : Nat) → (key : List Nat) → StampsK p kids → (r : DelRes) → (kids' : Kids) →
    delKids P st kids b key = some (r, kids') → StampsK p kids' :=
  fun kids b key hs r kids' h =>
    (marksK_stamps _).1 (delKids_marks P st (fun _ _ => hid) kids b key ((marksK_stamps kids).2 hs) r kids' h)

end Sdb.ArtW
