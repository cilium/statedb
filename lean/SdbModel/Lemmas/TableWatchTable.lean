import SdbModel.Lemmas.TableWatchIdx
import SdbModel.Lemmas.IndexBase
/-!
  The C06 glue for ONE table.  Every write operation of Model.Table (`modify`, `delete`, `deleteAll`)
  changes each part-index map exactly as the tree operations of Model.TableWatch (`modifyOps`,
  `deleteOps`, `deleteAllOps`), read through `IOp.onMap`, change it (`Sim`); hence the tracking invariant
  of every index holds along any sequence of table operations.  `Reach`: the states of one table
  (Model.Table state × Model.TableWatch state) reachable by committed / aborted write transactions.
  `Core`: the fields of a Model.Table table that the index trees depend on (lock flag, `full`, revision
  counter, the three part-index maps, the two LPM maps).  Everything else Model.Table keeps in a table
  (revision index, graveyard, trackers, initializers, `gen`, `revDirty`) influences neither the core fields
  of the result of a write operation nor the tree operations of Model.TableWatch, so the driver may
  interleave `changes`, `reginit`, collector runs … with the operations of a transaction.
-/
namespace Sdb.TW
open Sdb.Art Sdb.Tbl Sdb.ArtW

/-- the index map of Model.Table behind each part index -/
def imap (t : TableS) : PIx → OMap Obj
  | .id => t.primary
  | .u => t.uIdx
  | .tags => t.tagIdx

def SortedAll (t : TableS) : Prop := ∀ i, OMap.Sorted (imap t i)

theorem onMap_sorted (m : OMap Obj) (hs : OMap.Sorted m) (op : IOp) : OMap.Sorted (op.onMap m) := by
  cases op with
  | ins k o => exact OMap.sorted_insert m hs k o
  | del k => exact OMap.sorted_erase m hs k
  | _ => exact hs

theorem foldl_onMap_sorted (ops : List IOp) (m : OMap Obj) (hs : OMap.Sorted m) : OMap.Sorted (ops.foldl IOp.onMap m) := by
  induction ops generalizing m with
  | nil => exact hs
  | cons op ops ih => exact ih _ (onMap_sorted m hs op)

theorem foldl_bumps (ops : List IOp) (h : ∀ op ∈ ops, op = IOp.bump) (m : OMap Obj) : ops.foldl IOp.onMap m = m := by
  induction ops with
  | nil => rfl
  | cons op ops ih =>
    rw [List.foldl_cons, h op List.mem_cons_self]
    exact ih fun o ho => h o (List.mem_cons_of_mem _ ho)

/-- `partIndexTxn.reindex` on the map: the two loops of Model.Table's `reindexUnique` / `reindexNonUnique`
    (`reindexUnique_loops`, `reindexNonUnique_loops`) -/
theorem reindexOps_onMap (f : Key → Key) (oldKeys newKeys : List Key) (n : Obj) (m : OMap Obj) :
    (reindexOps f oldKeys newKeys n).foldl IOp.onMap m = reindexLoops f m oldKeys newKeys n := by
  unfold reindexOps reindexLoops
  rw [List.foldl_append, List.foldl_map, List.foldl_map, foldl_skip]
  rfl

/-! Reverting a speculative primary-index call (a CompareAndSwap / CompareAndDelete rejected by its guard)
    restores the map. -/

theorem erase_insert_absent (m : OMap Obj) (hs : OMap.Sorted m) (k : Key) (o : Obj) (h : OMap.get m k = none) :
    OMap.erase (OMap.insert m k o) k = m := by
  have h1 := OMap.sorted_insert m hs k o
  refine OMap.ext_get _ _ (OMap.sorted_erase _ h1 k) hs fun k2 => ?_
  rw [OMap.get_erase _ h1, OMap.get_insert]
  split <;> simp [*]

theorem insert_insert_old (m : OMap Obj) (hs : OMap.Sorted m) (k : Key) (o old : Obj) (h : OMap.get m k = some old) :
    OMap.insert (OMap.insert m k o) k old = m := by
  refine OMap.ext_get _ _ (OMap.sorted_insert _ (OMap.sorted_insert m hs k o) k old) hs fun k2 => ?_
  rw [OMap.get_insert, OMap.get_insert]
  split <;> simp [*]

theorem insert_erase_old (m : OMap Obj) (hs : OMap.Sorted m) (k : Key) (old : Obj) (h : OMap.get m k = some old) :
    OMap.insert (OMap.erase m k) k old = m := by
  refine OMap.ext_get _ _ (OMap.sorted_insert _ (OMap.sorted_erase m hs k) k old) hs fun k2 => ?_
  rw [OMap.get_insert, OMap.get_erase _ hs]
  split <;> simp [*]

theorem newObjOf_eq (t : TableS) (o : Obj) (mg : Bool) : newObjOf t o mg = Tbl.newObj t o mg := rfl

theorem TOps.get_append (a b : TOps) (i : PIx) : (a.append b).get i = a.get i ++ b.get i := by
  cases i <;> rfl

/-- the tree operations `ops` say what a table operation that takes `t` to `t'` does: every part-index map changes as
    its calls say, and the LPM maps change only if the LPM transactions are created -/
structure Sim (t t' : TableS) (ops : TOps) : Prop where
  imap : ∀ i, imap t' i = (ops.get i).foldl IOp.onMap (imap t i)
  lpm : ops.lpm = false → t'.lpm = t.lpm ∧ t'.ulpm = t.ulpm

theorem Sim.sortedAll {t t' : TableS} {ops : TOps} (h : Sim t t' ops) (hs : SortedAll t) : SortedAll t' := by
  intro i; rw [h.imap i]; exact foldl_onMap_sorted _ _ (hs i)

theorem Sim.append {t t' t'' : TableS} {a b : TOps} (h1 : Sim t t' a) (h2 : Sim t' t'' b) : Sim t t'' (a.append b) := by
  refine ⟨fun i => ?_, fun h => ?_⟩
  · rw [TOps.get_append, List.foldl_append, ← h1.imap, h2.imap]
  · obtain ⟨ha, hb⟩ := Bool.or_eq_false_iff.mp h
    exact ⟨(h2.lpm hb).1.trans (h1.lpm ha).1, (h2.lpm hb).2.trans (h1.lpm ha).2⟩

/-- calls on the primary index without a net effect: none (the table is not locked), or the speculative call of a
    rejected write and its reverting call -/
theorem Sim.revert {t : TableS} {l : List IOp} (h : l.foldl IOp.onMap t.primary = t.primary) : Sim t t { id := l } :=
  ⟨fun i => by cases i <;> first | exact h.symm | rfl, fun _ => ⟨rfl, rfl⟩⟩

/-- the tree operations of a write that passes its guard: the call `p` on the primary index, then `reindex` of
    every secondary index from the keys of `old` to the keys of `new` (the shape shared by `modifyOps` and `deleteOps`) -/
def writeOps (full : Bool) (p : IOp) (id : Key) (old new : Option Obj) (n : Obj) : TOps :=
  { id := [.open, p]
    tags := .open :: reindexOps (P.composite id) (old.elim [] (·.tags)) (new.elim [] (·.tags)) n
    u := if full then .open :: reindexOps (fun k => k) (old.elim [] fun o => [o.ukey]) (new.elim [] fun o => [o.ukey]) n
         else []
    lpm := full }

/-- a write that passes its guard took `t` to `t'` (Model.Table's `reindexAll`) -/
structure Wrote (t t' : TableS) (p : IOp) (id : Key) (old new : Option Obj) : Prop where
  locked : t'.locked = t.locked
  full : t'.full = t.full
  rev : t'.rev = t.rev + 1
  primary : t'.primary = p.onMap t.primary
  uIdx : t'.uIdx = if t.full then reindexUnique t.uIdx old new (fun o => [o.ukey]) else t.uIdx
  tagIdx : t'.tagIdx = reindexNonUnique t.tagIdx id old new (·.tags)
  lpm : t'.lpm = if t.full then reindexLpm false t.lpm id old new (·.pfxs) else t.lpm
  ulpm : t'.ulpm = if t.full then reindexLpm true t.ulpm id old new (·.upKey) else t.ulpm

theorem modify_wrote {t : TableS} {g : Nat} {o : Obj} (mg : Bool) (hl : t.locked = true)
    (hok : GuardOk g (t.primary.get o.id)) :
    Wrote t (Tbl.modify t g o mg).1 (.ins o.id (Tbl.newObj t o mg)) o.id (t.primary.get o.id) (some (Tbl.newObj t o mg)) := by
  obtain ⟨r, he, hm⟩ := modify_ok t g o mg hl hok
  have hi := modify_ok_idx t g o mg hl hok
  rw [he] at hi ⊢
  exact ⟨hm.locked, hm.full, hm.rev, hm.primary, hi.uIdx, hi.tagIdx, hi.lpm, hi.ulpm⟩

theorem delete_wrote {t : TableS} {g : Nat} {id : Key} {old : Obj} (hl : t.locked = true)
    (ho : t.primary.get id = some old) (hg : g = 0 ∨ old.rev = g) :
    Wrote t (Tbl.delete t g id).1 (.del id) id (some old) none := by
  obtain ⟨r, he, hd⟩ := delete_ok t g id hl old ho hg
  have hi := delete_ok_idx t g id hl old ho hg
  rw [he] at hi ⊢
  exact ⟨hd.locked, hd.full, hd.rev, hd.primary, hi.uIdx, hi.tagIdx, hi.lpm, hi.ulpm⟩

theorem Wrote.sim {t t' : TableS} {p : IOp} {id : Key} {old new : Option Obj} (h : Wrote t t' p id old new) (n : Obj)
    (hn : new = none ∨ new = some n) : Sim t t' (writeOps t.full p id old new n) := by
  refine ⟨fun i => ?_, fun (hf : t.full = false) => by rw [h.lpm, h.ulpm, hf]; exact ⟨rfl, rfl⟩⟩
  cases i with
  | id => exact h.primary
  | u =>
    refine h.uIdx.trans ?_
    cases t.full
    · rfl
    · rw [reindexUnique_loops]
      refine Eq.trans ?_ (reindexOps_onMap _ _ _ n _).symm
      rcases hn with rfl | rfl <;> rfl
  | tags =>
    refine h.tagIdx.trans ((reindexNonUnique_loops ..).trans (Eq.trans ?_ (reindexOps_onMap _ _ _ n _).symm))
    rcases hn with rfl | rfl <;> rfl

theorem modifyOps_notLocked {t : TableS} (g : Nat) (o : Obj) (mg : Bool) (hl : t.locked = false) :
    modifyOps t g o mg = {} := by
  unfold modifyOps; simp [hl]

theorem modifyOps_notFound {t : TableS} {g : Nat} (o : Obj) (mg : Bool) (hl : t.locked = true) (hg : g > 0)
    (hn : t.primary.get o.id = none) :
    modifyOps t g o mg = { id := [.open, .ins o.id (newObjOf t o mg), .del o.id] } := by
  unfold modifyOps; simp [hl, hn, hg]

theorem modifyOps_revNotEqual {t : TableS} {g : Nat} (o : Obj) (mg : Bool) (hl : t.locked = true) (hg : g > 0)
    {oo : Obj} (ho : t.primary.get o.id = some oo) (hr : oo.rev ≠ g) :
    modifyOps t g o mg = { id := [.open, .ins o.id (newObjOf t o mg), .ins o.id oo] } := by
  unfold modifyOps; simp [hl, ho, hg, hr]

theorem modifyOps_ok {t : TableS} {g : Nat} {o : Obj} (mg : Bool) (hl : t.locked = true)
    (hok : GuardOk g (t.primary.get o.id)) :
    modifyOps t g o mg =
      writeOps t.full (.ins o.id (newObjOf t o mg)) o.id (t.primary.get o.id) (some (newObjOf t o mg)) (newObjOf t o mg) := by
  unfold modifyOps
  rw [hl, if_neg (by decide)]
  cases hold : t.primary.get o.id with
  | none =>
    refine if_neg fun hg => ?_
    rcases hok with h0 | ⟨oo, ho, _⟩
    · exact Nat.ne_of_gt hg h0
    · rw [hold] at ho; exact nomatch ho
  | some old =>
    refine if_neg fun hg => ?_
    rcases hok with h0 | ⟨oo, ho, hr⟩
    · exact Nat.ne_of_gt hg.1 h0
    · rw [hold] at ho; cases ho; exact hg.2 hr

theorem deleteOps_notLocked {t : TableS} (g : Nat) (id : Key) (hl : t.locked = false) : deleteOps t g id = {} := by
  unfold deleteOps; simp [hl]

theorem deleteOps_absent {t : TableS} (g : Nat) {id : Key} (hl : t.locked = true) (hn : t.primary.get id = none) :
    deleteOps t g id = { id := [.open, .del id] } := by
  unfold deleteOps; simp [hl, hn]

theorem deleteOps_revNotEqual {t : TableS} {g : Nat} {id : Key} (hl : t.locked = true) (hg : g > 0) {old : Obj}
    (ho : t.primary.get id = some old) (hr : old.rev ≠ g) :
    deleteOps t g id = { id := [.open, .del id, .ins id old] } := by
  unfold deleteOps; simp [hl, ho, hg, hr]

theorem deleteOps_ok {t : TableS} {g : Nat} {id : Key} {old : Obj} (hl : t.locked = true)
    (ho : t.primary.get id = some old) (hg : g = 0 ∨ old.rev = g) :
    deleteOps t g id = writeOps t.full (.del id) id (some old) none old := by
  unfold deleteOps
  rw [hl, if_neg (by decide), ho]
  exact if_neg fun h => hg.elim (Nat.ne_of_gt h.1) h.2

theorem modify_sim (t : TableS) (g : Nat) (o : Obj) (mg : Bool) (hs : OMap.Sorted t.primary) :
    Sim t (Tbl.modify t g o mg).1 (modifyOps t g o mg) := by
  rcases modify_cases t g o mg with ⟨hl, he⟩ | ⟨hl, hg, hn, he⟩ | ⟨hl, hg, oo, ho, hr, he⟩ | ⟨hl, hok, t', he, hm⟩
  · rw [he, modifyOps_notLocked g o mg hl]
    exact Sim.revert (l := []) rfl
  · rw [he, modifyOps_notFound o mg hl hg hn]
    exact Sim.revert (erase_insert_absent _ hs _ _ hn)
  · rw [he, modifyOps_revNotEqual o mg hl hg ho hr]
    exact Sim.revert (insert_insert_old _ hs _ _ _ ho)
  · rw [modifyOps_ok mg hl hok]
    exact (modify_wrote mg hl hok).sim _ (Or.inr rfl)

theorem delete_sim (t : TableS) (g : Nat) (id : Key) (hs : OMap.Sorted t.primary) :
    Sim t (Tbl.delete t g id).1 (deleteOps t g id) := by
  rcases delete_cases t g id with ⟨hl, he⟩ | ⟨hl, hn, he⟩ | ⟨hl, hg, old, ho, hr, he⟩ | ⟨hl, old, ho, hg, t', he, hd⟩
  · rw [he, deleteOps_notLocked g id hl]
    exact Sim.revert (l := []) rfl
  · rw [he, deleteOps_absent g hl hn]
    exact Sim.revert (OMap.erase_absent _ hs _ hn)
  · rw [he, deleteOps_revNotEqual hl hg ho hr]
    exact Sim.revert (insert_erase_old _ hs _ _ ho)
  · rw [deleteOps_ok hl ho hg]
    exact (delete_wrote hl ho hg).sim old (Or.inl rfl)

theorem modify_sortedAll (t : TableS) (g : Nat) (o : Obj) (mg : Bool) (hs : SortedAll t) :
    SortedAll (Tbl.modify t g o mg).1 := (modify_sim t g o mg (hs .id)).sortedAll hs

/-- the operations the loop of `deleteAllOps` adds to `a` while it deletes the entries of `l` from `t` -/
def delFoldOps (l : List (Key × Obj)) (t : TableS) (a : TOps) : TOps :=
  (l.foldl (fun (acc : TableS × TOps) (e : Key × Obj) =>
        ((Tbl.delete acc.1 0 e.1).1, acc.2.append (deleteOps acc.1 0 e.1))) (t, a)).2

theorem delFoldOps_cons (e : Key × Obj) (l : List (Key × Obj)) (t : TableS) (a : TOps) :
    delFoldOps (e :: l) t a = delFoldOps l (Tbl.delete t 0 e.1).1 (a.append (deleteOps t 0 e.1)) := rfl

theorem delFold_sim (l : List (Key × Obj)) {t0 t : TableS} {a : TOps} (hs : SortedAll t) (h : Sim t0 t a) :
    Sim t0 (delFold l t) (delFoldOps l t a) := by
  induction l generalizing t a with
  | nil => exact h
  | cons e l ih =>
    have hd := delete_sim t 0 e.1 (hs .id)
    exact ih (hd.sortedAll hs) (h.append hd)

theorem deleteAll_sim (t : TableS) (hs : SortedAll t) : Sim t (Tbl.deleteAll t).1 (deleteAllOps t) := by
  rw [deleteAll_eq]
  unfold deleteAllOps
  cases t.locked with
  | false => exact Sim.revert (l := []) rfl
  | true => exact delFold_sim t.primary hs (Sim.revert (l := [.bump]) rfl)

theorem partReadOps_bumps (u : Bool) (k : QKind) : ∀ op ∈ partReadOps u k, op = IOp.bump := by
  intro op h
  unfold partReadOps at h
  split at h
  · split at h
    · exact nomatch h
    · exact List.mem_singleton.mp h
  · exact List.mem_singleton.mp h

theorem readOps_get (ix : Idx) (k : QKind) (i : PIx) :
    (readOps ix k).get i = if pixOf ix = some i then partReadOps i.unique k else [] := by
  cases ix <;> cases i <;> rfl

theorem readOps_bumps (ix : Idx) (k : QKind) (i : PIx) : ∀ op ∈ (readOps ix k).get i, op = IOp.bump := by
  rw [readOps_get]
  split
  · exact partReadOps_bumps _ k
  · exact fun _ h => nomatch h

theorem readOps_lpm (ix : Idx) (k : QKind) : (readOps ix k).lpm = false := by
  cases ix <;> rfl

theorem onTable_sim (t : TableS) (op : TOp) (hs : SortedAll t) : Sim t (op.onTable t) (op.ops t) := by
  cases op with
  | modify g o mg => exact modify_sim t g o mg (hs .id)
  | delete g id => exact delete_sim t g id (hs .id)
  | deleteAll => exact deleteAll_sim t hs
  | read ix k => exact ⟨fun i => (foldl_bumps _ (readOps_bumps ix k i) _).symm, fun _ => ⟨rfl, rfl⟩⟩

/-- the tracking invariant of all three part indexes of a table inside a write transaction opened
    on the committed table `c` whose Model.Table state was `t0` -/
structure TTrack (c : CTab) (t0 : TableS) (s : TableS × WTab) : Prop where
  idx : ∀ i, Track (c.part.get i).wd (s.2.part.get i) (imap t0 i) (imap s.1 i)
  tree : ∀ i, (s.2.part.get i).tree = (c.part.get i).tree
  locked : s.2.locked = true

theorem TTrack.sortedAll {c : CTab} {t0 : TableS} {s : TableS × WTab} (h : TTrack c t0 s) : SortedAll s.1 :=
  fun i => (h.idx i).sorted

theorem applyOps_part (c : CTab) (w : WTab) (ops : TOps) (i : PIx) :
    ((w.applyOps c ops).part.get i) = (w.part.get i).run (c.part.get i).wd (ops.get i) := Tri.get_tab _ i

theorem TTrack.step {c : CTab} {t0 : TableS} {s : TableS × WTab} (h : TTrack c t0 s) (op : TOp) :
    TTrack c t0 (stepT c s op) := by
  refine ⟨fun i => ?_, fun i => ?_, h.locked⟩
  · show Track _ ((s.2.applyOps c (op.ops s.1)).part.get i) _ (imap (op.onTable s.1) i)
    rw [(onTable_sim s.1 op h.sortedAll).imap i, applyOps_part]
    exact (h.idx i).run _
  · show ((s.2.applyOps c (op.ops s.1)).part.get i).tree = _
    rw [applyOps_part, run_tree]; exact h.tree i

/-- inside a write transaction: the LPM indexes keep the committed channel, and their transactions
    exist as soon as an LPM map differs from the committed one -/
structure LTrack (c : CTab) (t0 : TableS) (s : TableS × WTab) : Prop where
  ch : s.2.lpm.ch = c.lpm.ch ∧ s.2.ulpm.ch = c.ulpm.ch
  opened : (s.1.lpm ≠ t0.lpm ∨ s.1.ulpm ≠ t0.ulpm) → s.2.lpm.opened = true ∧ s.2.ulpm.opened = true

theorem LTrack.step {c : CTab} {t0 : TableS} {s : TableS × WTab} (h : LTrack c t0 s) (hs : SortedAll s.1) (op : TOp) :
    LTrack c t0 (stepT c s op) := by
  refine ⟨h.ch, fun hne => ?_⟩
  show (s.2.lpm.opened || (op.ops s.1).lpm) = true ∧ (s.2.ulpm.opened || (op.ops s.1).lpm) = true
  cases hl : (op.ops s.1).lpm with
  | true => simp
  | false =>
    obtain ⟨e1, e2⟩ := (onTable_sim s.1 op hs).lpm hl
    obtain ⟨o1, o2⟩ := h.opened (by rwa [show (stepT c s op).1 = op.onTable s.1 from rfl, e1, e2] at hne)
    simp [o1, o2]

theorem tracks_run {c : CTab} {t0 : TableS} {s : TableS × WTab} (h : TTrack c t0 s) (hl : LTrack c t0 s)
    (ops : List TOp) : TTrack c t0 (runT c s ops) ∧ LTrack c t0 (runT c s ops) := by
  induction ops generalizing s with
  | nil => exact ⟨h, hl⟩
  | cons op ops ih => exact ih (h.step op) (hl.step h.sortedAll op)

/-- the transaction a writer runs on a table it holds: Model.Table's entry locked, the index trees copied -/
def beginT (t : TableS) (c : CTab) : TableS × WTab := ({ t with locked := true }, c.begin true)

/-- states (Model.Table's table, Model.TableWatch's table) reachable by write transactions that are
    committed or aborted; `frame`: anything else Model.Table does to a table (lock flag, graveyard,
    trackers, initializers, `gen`, collector) leaves the index maps alone -/
inductive Reach : TableS → CTab → Prop where
  | init (full : Bool) : Reach { full := full } (newCTab full)
  | commit (t : TableS) (c : CTab) (ops : List TOp) : Reach t c →
      Reach (runT c (beginT t c) ops).1 (c.commit (runT c (beginT t c) ops).2)
  | abort (t : TableS) (c : CTab) (ops : List TOp) : Reach t c → Reach t (c.abort (runT c (beginT t c) ops).2)
  | frame (t t' : TableS) (c : CTab) : Reach t c → (∀ i, imap t' i = imap t i) → t'.lpm = t.lpm → t'.ulpm = t.ulpm →
      Reach t' c

/-- the invariant of a committed table `c` of Model.TableWatch beside Model.Table's table `t` -/
structure TInvW (t : TableS) (c : CTab) : Prop where
  part : ∀ i, CInv (c.part.get i) (imap t i)
  lpm : LInv c.lpm
  ulpm : LInv c.ulpm

theorem TInvW.run {t : TableS} {c : CTab} (h : TInvW t c) (ops : List TOp) :
    TTrack c t (runT c (beginT t c) ops) ∧ LTrack c t (runT c (beginT t c) ops) := by
  refine tracks_run ⟨fun i => ?_, fun i => ?_, rfl⟩ ⟨⟨rfl, rfl⟩, fun hne => ?_⟩ ops
  · show Track _ ((c.begin true).part.get i) _ _
    rw [CTab.begin, Tri.get_tab]
    exact Track.init _ _ _ (h.part i).wf (h.part i).ent
  · exact congrArg WIdx.tree (Tri.get_tab _ i)
  · rcases hne with hne | hne <;> exact absurd rfl hne

theorem onTable_locked (t : TableS) (op : TOp) : (op.onTable t).locked = t.locked := by
  cases op with
  | modify g o mg => exact modify_locked t g o mg
  | delete g id => exact delete_locked t g id
  | deleteAll => exact deleteAll_locked t
  | read ix k => rfl

theorem runT_fst_locked (c : CTab) (s : TableS × WTab) (ops : List TOp) : (runT c s ops).1.locked = s.1.locked := by
  induction ops generalizing s with
  | nil => rfl
  | cons op ops ih =>
    rw [show runT c s (op :: ops) = runT c (stepT c s op) ops from rfl, ih]
    exact onTable_locked s.1 op

theorem runT_locked (c : CTab) (s : TableS × WTab) (ops : List TOp) : (runT c s ops).2.locked = s.2.locked := by
  induction ops generalizing s with
  | nil => rfl
  | cons op ops ih => exact ih (stepT c s op)

theorem CTab.commit_locked (c : CTab) {w : WTab} (hl : w.locked = true) :
    c.commit w = { c with part := Tri.tab fun i => (c.part.get i).commit (w.part.get i)
                          lpm := c.lpm.commit w.lpm, ulpm := c.ulpm.commit w.ulpm } := by
  unfold CTab.commit; rw [if_pos hl]

theorem CTab.commit_unlocked (c : CTab) (w : WTab) (h : w.locked = false) : c.commit w = c := by
  unfold CTab.commit; simp [h]

theorem CTab.commit_part (c : CTab) (w : WTab) (hl : w.locked = true) (i : PIx) :
    (c.commit w).part.get i = (c.part.get i).commit (w.part.get i) := by
  rw [c.commit_locked hl]; exact Tri.get_tab _ i

theorem CTab.abort_locked (c : CTab) {w : WTab} (hl : w.locked = true) :
    c.abort w = { c with part := Tri.tab fun i => (c.part.get i).abort (w.part.get i) } := by
  unfold CTab.abort; rw [if_pos hl]

theorem CTab.abort_unlocked (c : CTab) (w : WTab) (h : w.locked = false) : c.abort w = c := by
  unfold CTab.abort; simp [h]

theorem CTab.abort_view (c : CTab) (w : WTab) : (c.abort w).view = c.view := by
  cases hl : w.locked with
  | false => rw [c.abort_unlocked w hl]
  | true =>
    rw [c.abort_locked hl]
    simp only [CTab.view, Tri.get_tab, CIdx.abort_tree]

theorem TInvW.commit {t : TableS} {c : CTab} (h : TInvW t c) (ops : List TOp) :
    TInvW (runT c (beginT t c) ops).1 (c.commit (runT c (beginT t c) ops).2) := by
  have ht := (h.run ops).1
  rw [c.commit_locked ht.locked]
  exact ⟨fun i => (Tri.get_tab _ i).symm ▸ (h.part i).commit (ht.idx i) (ht.tree i), h.lpm.commit _, h.ulpm.commit _⟩

theorem TInvW.abort {t : TableS} {c : CTab} (h : TInvW t c) (ops : List TOp) :
    TInvW t (c.abort (runT c (beginT t c) ops).2) := by
  rw [c.abort_locked (h.run ops).1.locked]
  exact ⟨fun i => (Tri.get_tab _ i).symm ▸ (h.part i).abort _, h.lpm, h.ulpm⟩

theorem TInvW.init (full : Bool) : TInvW { full := full } (newCTab full) :=
  ⟨fun i => by rw [newCTab, Tri.get_tab]; cases i <;> exact CInv.new, LInv.new, LInv.new⟩

theorem Reach.inv {t : TableS} {c : CTab} (h : Reach t c) : TInvW t c := by
  induction h with
  | init full => exact TInvW.init full
  | commit t c ops _ ih => exact ih.commit ops
  | abort t c ops _ ih => exact ih.abort ops
  | frame t t' c _ hi _ _ ih => exact ⟨fun i => hi i ▸ ih.part i, ih.lpm, ih.ulpm⟩

/-! ### queries: an index is a part index or one of the two LPM indexes -/

theorem idx_cases (ix : Idx) (hrev : ix ≠ .rev) : (∃ i, pixOf ix = some i) ∨ ix = .lpm ∨ ix = .ulpm := by
  cases ix with
  | id => exact Or.inl ⟨.id, rfl⟩
  | u => exact Or.inl ⟨.u, rfl⟩
  | tags => exact Or.inl ⟨.tags, rfl⟩
  | lpm => exact Or.inr (Or.inl rfl)
  | ulpm => exact Or.inr (Or.inr rfl)
  | rev => exact absurd rfl hrev

theorem chan_part (v : View) {ix : Idx} {i : PIx} (hi : pixOf ix = some i) (k : QKind) (key : Key) :
    v.chan ix k key = (i.num, partChan i.unique (v.part.get i) k key) := by
  cases ix <;> cases hi <;> rfl

theorem isClosed_part (c : CTab) (i : PIx) (ch : Nat) : c.isClosed i.num ch = (c.part.get i).wd.closed.contains ch := by
  cases i <;> rfl

theorem view_part (c : CTab) (i : PIx) : c.view.part.get i = Tree.view (c.part.get i).tree := Tri.get_tab _ i

structure Idle (w : WTab) : Prop where
  part : ∀ i, (w.part.get i).txn = none
  lpm : w.lpm.opened = false
  ulpm : w.ulpm.opened = false

theorem Idle.begin (c : CTab) (locked : Bool) : Idle (c.begin locked) :=
  { part := fun i => congrArg WIdx.txn (Tri.get_tab (fun i => ({ tree := (c.part.get i).tree } : WIdx)) i)
    lpm := rfl
    ulpm := rfl }

theorem Idle.commit {w : WTab} (h : Idle w) (c : CTab) : c.commit w = c := by
  cases hl : w.locked with
  | false => exact c.commit_unlocked w hl
  | true =>
    rw [c.commit_locked hl]
    simp only [CIdx.commit_none (h.part _), LIdx.commit_unopened _ h.lpm, LIdx.commit_unopened _ h.ulpm]
    rfl

theorem Idle.reads {c : CTab} (qs : List (Idx × QKind)) {s : TableS × WTab} (h : Idle s.2) :
    Idle (runT c s (qs.map fun q => TOp.read q.1 q.2)).2 := by
  induction qs generalizing s with
  | nil => exact h
  | cons q qs ih =>
    refine ih (s := stepT c s (TOp.read q.1 q.2)) { part := fun i => ?_, lpm := ?_, ulpm := ?_ }
    · show ((s.2.applyOps c (readOps q.1 q.2)).part.get i).txn = none
      rw [applyOps_part, run_bumps_none _ _ _ (readOps_bumps q.1 q.2 i) (h.part i)]
      exact h.part i
    · show (s.2.lpm.opened || (readOps q.1 q.2).lpm) = false
      rw [h.lpm, readOps_lpm]; rfl
    · show (s.2.ulpm.opened || (readOps q.1 q.2).lpm) = false
      rw [h.ulpm, readOps_lpm]; rfl

structure Core (t t' : TableS) : Prop where
  locked : t'.locked = t.locked
  full : t'.full = t.full
  rev : t'.rev = t.rev
  primary : t'.primary = t.primary
  uIdx : t'.uIdx = t.uIdx
  tagIdx : t'.tagIdx = t.tagIdx
  lpm : t'.lpm = t.lpm
  ulpm : t'.ulpm = t.ulpm

theorem Core.refl (t : TableS) : Core t t := ⟨rfl, rfl, rfl, rfl, rfl, rfl, rfl, rfl⟩
theorem Core.setRevDirty (t : TableS) (b : Bool) : Core t { t with revDirty := b } := ⟨rfl, rfl, rfl, rfl, rfl, rfl, rfl, rfl⟩
theorem Core.symm {t t' : TableS} (h : Core t t') : Core t' t :=
  ⟨h.locked.symm, h.full.symm, h.rev.symm, h.primary.symm, h.uIdx.symm, h.tagIdx.symm, h.lpm.symm, h.ulpm.symm⟩
theorem Core.trans {a b c : TableS} (h1 : Core a b) (h2 : Core b c) : Core a c :=
  ⟨h2.locked.trans h1.locked, h2.full.trans h1.full, h2.rev.trans h1.rev, h2.primary.trans h1.primary,
   h2.uIdx.trans h1.uIdx, h2.tagIdx.trans h1.tagIdx, h2.lpm.trans h1.lpm, h2.ulpm.trans h1.ulpm⟩

theorem Core.imap {t t' : TableS} (h : Core t t') (i : PIx) : imap t' i = imap t i := by
  cases i
  · exact h.primary
  · exact h.uIdx
  · exact h.tagIdx

theorem newObj_core {t t' : TableS} (h : Core t t') (o : Obj) (m : Bool) : Tbl.newObj t' o m = Tbl.newObj t o m := by
  unfold Tbl.newObj; rw [h.primary, h.rev]

theorem Wrote.core {t s t' s' : TableS} {p : IOp} {id : Key} {old new : Option Obj} (h : Core t s)
    (ht : Wrote t t' p id old new) (hs : Wrote s s' p id old new) : Core t' s' :=
  { locked := by rw [hs.locked, ht.locked, h.locked]
    full := by rw [hs.full, ht.full, h.full]
    rev := by rw [hs.rev, ht.rev, h.rev]
    primary := by rw [hs.primary, ht.primary, h.primary]
    uIdx := by rw [hs.uIdx, ht.uIdx, h.full, h.uIdx]
    tagIdx := by rw [hs.tagIdx, ht.tagIdx, h.tagIdx]
    lpm := by rw [hs.lpm, ht.lpm, h.full, h.lpm]
    ulpm := by rw [hs.ulpm, ht.ulpm, h.full, h.ulpm] }

theorem modify_core {t t' : TableS} (h : Core t t') (g : Nat) (o : Obj) (m : Bool) :
    Core (Tbl.modify t g o m).1 (Tbl.modify t' g o m).1 := by
  rcases modify_cases t g o m with ⟨hl, he⟩ | ⟨hl, hg, hn, he⟩ | ⟨hl, hg, oo, ho, hr, he⟩ | ⟨hl, hok, _⟩
  · rw [he, modify_notLocked t' g o m (h.locked.trans hl)]; exact h
  · rw [he, modify_notFound t' g o m (h.locked.trans hl) hg (h.primary ▸ hn)]; exact h
  · rw [he, modify_revNotEqual t' g o m (h.locked.trans hl) hg oo (h.primary ▸ ho) hr]; exact h
  · have hw := modify_wrote (t := t') (o := o) m (h.locked.trans hl) (h.primary ▸ hok)
    rw [h.primary, newObj_core h] at hw
    exact Wrote.core h (modify_wrote m hl hok) hw

theorem delete_core {t t' : TableS} (h : Core t t') (g : Nat) (id : Key) :
    Core (Tbl.delete t g id).1 (Tbl.delete t' g id).1 := by
  rcases delete_cases t g id with ⟨hl, he⟩ | ⟨hl, hn, he⟩ | ⟨hl, hg, old, ho, hr, he⟩ | ⟨hl, old, ho, hg, _⟩
  · rw [he, delete_notLocked t' g id (h.locked.trans hl)]; exact h
  · rw [he, delete_absent t' g id (h.locked.trans hl) (h.primary ▸ hn)]; exact h
  · rw [he, delete_revNotEqual t' g id (h.locked.trans hl) old (h.primary ▸ ho) hg hr]; exact h
  · exact Wrote.core h (delete_wrote hl ho hg) (delete_wrote (h.locked.trans hl) (h.primary ▸ ho) hg)

theorem delFold_core (l : List (Key × Obj)) {t t' : TableS} (h : Core t t') : Core (delFold l t) (delFold l t') := by
  induction l generalizing t t' with
  | nil => exact h
  | cons e l ih => rw [delFold_cons, delFold_cons]; exact ih (delete_core h 0 e.1)

theorem deleteAll_core {t t' : TableS} (h : Core t t') : Core (Tbl.deleteAll t).1 (Tbl.deleteAll t').1 := by
  rw [deleteAll_eq, deleteAll_eq, h.locked, h.primary]
  cases t.locked
  · exact h
  · exact delFold_core _ h

theorem onTable_core {t t' : TableS} (h : Core t t') (op : TOp) : Core (op.onTable t) (op.onTable t') := by
  cases op with
  | modify g o mg => exact modify_core h g o mg
  | delete g id => exact delete_core h g id
  | deleteAll => exact deleteAll_core h
  | read ix k => exact h

theorem modifyOps_core {t t' : TableS} (h : Core t t') (g : Nat) (o : Obj) (mg : Bool) :
    modifyOps t' g o mg = modifyOps t g o mg := by
  unfold modifyOps newObjOf; rw [h.locked, h.primary, h.rev, h.full]

theorem deleteOps_core {t t' : TableS} (h : Core t t') (g : Nat) (id : Key) : deleteOps t' g id = deleteOps t g id := by
  unfold deleteOps; rw [h.locked, h.primary, h.full]

theorem delFoldOps_core (l : List (Key × Obj)) {t t' : TableS} (h : Core t t') (a : TOps) :
    delFoldOps l t' a = delFoldOps l t a := by
  induction l generalizing t t' a with
  | nil => rfl
  | cons e l ih =>
    rw [delFoldOps_cons, delFoldOps_cons, deleteOps_core h 0 e.1]
    exact ih (delete_core h 0 e.1) _

theorem deleteAllOps_core {t t' : TableS} (h : Core t t') : deleteAllOps t' = deleteAllOps t := by
  unfold deleteAllOps
  rw [h.locked, h.primary]
  cases t.locked
  · rfl
  · exact delFoldOps_core _ h _

theorem ops_core {t t' : TableS} (h : Core t t') (op : TOp) : op.ops t' = op.ops t := by
  cases op with
  | modify g o mg => exact modifyOps_core h g o mg
  | delete g id => exact deleteOps_core h g id
  | deleteAll => exact deleteAllOps_core h
  | read ix k => rfl

theorem Reach.core {t t' : TableS} {c : CTab} (h : Reach t c) (hc : Core t t') : Reach t' c :=
  Reach.frame t t' c h hc.imap hc.lpm hc.ulpm

end Sdb.TW
