import SdbModel.Lemmas.ReconcilerBatchOps

/-!
  The bookkeeping invariant through the batch variant of a round.  The batch loop moves the change
  iterator past ALL changes of the round before the first operation is called.  The proof replays
  the operations against a ghost iterator position that advances entry by entry, deletions first,
  so that the steps of the loop of `single()` apply unchanged.  It is stated once, for any
  invariant of that loop (`LoopInv`) that also survives the collecting (`Replay`): `InvL` here,
  `JInv` in `ReconcilerInjectBatch`, the measure in `ReconcilerBatchMeasure`.
-/
namespace Sdb.Rec
open LB

/-- dropping the retry of an id whose change is still to be delivered (`Stale`) loses nothing: the
    object with that id is waiting for the loop, not Error -/
theorem ObjOK.clear_stale {r : R} {rs : List Res} {o : RObj} (ht : TInv r) {id : Nat}
    (hst : Stale r.objs r.dels r.itRev r.itDelRev id) (ho : o ∈ r.objs) (h : ObjOK r.log r.items r.itRev rs o) :
    ObjOK r.log (r.items.filter (·.id ≠ id)) r.itRev rs o := by
  obtain ⟨a, b, c⟩ := h
  refine ⟨fun e => ⟨(a e).1, fun it hit => (a e).2 it (mem_filter_id_ne.1 hit).1⟩, fun e => ?_, c⟩
  rcases b e with ⟨it, hit, b1, b2⟩ | b
  · refine Or.inl ⟨it, mem_filter_id_ne.2 ⟨hit, fun hid => ?_⟩, b1, b2⟩
    rcases hst with ⟨o', ho', e1, _, e3⟩ | ⟨d, hd, e1, _⟩
    · have : o' = o := ht.obj_eq ho' ho (e1.trans (hid.symm.trans b1))
      subst this
      rw [e] at e3; rcases e3 with e3 | e3 <;> cases e3
    · exact ht.disj o ho d hd (b1.symm.trans (hid.trans e1.symm))
  · exact Or.inr b

theorem DelOK.clear_stale {r : R} {d : RObj × Nat} (ht : TInv r) {id : Nat}
    (hst : Stale r.objs r.dels r.itRev r.itDelRev id) (hd : d ∈ r.dels) (h : DelOK r.log r.items r.itDelRev d) :
    DelOK r.log (r.items.filter (·.id ≠ id)) r.itDelRev d := by
  rcases h with a | ⟨it, hit, b1, b2⟩ | ⟨c, c3⟩
  · exact Or.inl a
  · by_cases hid : it.id = id
    · rcases hst with ⟨o', ho', e1, _, _⟩ | ⟨d', hd', e1, e2⟩
      · exact absurd (e1.trans (hid.symm.trans b1)) (ht.disj o' ho' d hd)
      · have : d' = d := ht.del_eq hd' hd (e1.trans (hid.symm.trans b1))
        subst this
        exact Or.inl e2
    · exact Or.inr (Or.inl ⟨it, mem_filter_id_ne.2 ⟨hit, hid⟩, b1, b2⟩)
  · exact Or.inr (Or.inr ⟨c, fun it hit => c3 it (mem_filter_id_ne.1 hit).1⟩)

theorem InvL.clear_stale {r r' : R} {rs : List Res} (h : InvL r rs) (id : Nat)
    (hst : Stale r.objs r.dels r.itRev r.itDelRev id)
    (hobjs : r'.objs = r.objs) (hdels : r'.dels = r.dels) (htableRev : r'.tableRev = r.tableRev)
    (hitRev : r'.itRev = r.itRev) (hitDelRev : r'.itDelRev = r.itDelRev) (hrefreshedAt : r'.refreshedAt = r.refreshedAt)
    (hitems : r'.items = r.items.filter (·.id ≠ id)) (hlog : r'.log = r.log) (hinjects : r'.injects = r.injects) : InvL r' rs := by
  refine ⟨h.tinv.congr hobjs hdels htableRev hitRev hitDelRev hrefreshedAt, hinjects.trans h.noinj, ?_, ?_, ?_, ?_, ?_⟩
  · rw [hitems]; exact h.items_pw.filter _
  · rw [hobjs, hitems, hlog, hitRev]
    exact fun o ho => (h.objOK o ho).clear_stale h.tinv hst ho
  · rw [hdels, hitems, hlog, hitDelRev]
    exact fun d hd => (h.delOK d hd).clear_stale h.tinv hst hd
  · rw [hobjs, hdels, hitems, hitRev, hitDelRev]
    exact fun it hit => h.itemOK it (mem_filter_id_ne.1 hit).1
  · rw [hobjs, hitems, hlog, htableRev]
    intro res hres
    obtain ⟨a, a', b⟩ := h.resOK res hres
    refine ⟨a, a', fun cur hcur hcid => (b cur hcur hcid).imp_left fun ⟨b1, b2, b3⟩ => ?_⟩
    exact ⟨b1, b2, fun it hit hi => b3 it (mem_filter_id_ne.1 hit).1 hi⟩

/-- is the change processed (not merely passed)? -/
def Change.proc (c : Change) : Prop := c.deleted = true ∨ needs c.obj.kind

/-- the delete batch (`usOf`: the update batch) the collecting loop holds after reading `pre` -/
def dsOf (pre : List Change) : List BEntry := (pre.filter (·.deleted)).map (fun c => (c.obj, c.rev))
def usOf (pre : List Change) : List BEntry := (pre.filter (fun c => !c.deleted && decide (needs c.obj.kind))).map (fun c => (c.obj, c.rev))

theorem dsOf_cons (c : Change) (pre : List Change) :
    dsOf (c :: pre) = if c.deleted then (c.obj, c.rev) :: dsOf pre else dsOf pre := by
  unfold dsOf; simp only [List.filter_cons]; split <;> rfl

theorem usOf_cons (c : Change) (pre : List Change) :
    usOf (c :: pre) = if (!c.deleted && decide (needs c.obj.kind)) then (c.obj, c.rev) :: usOf pre else usOf pre := by
  unfold usOf; simp only [List.filter_cons]; split <;> rfl

theorem dsOf_filter (pre : List Change) : dsOf (pre.filter (·.deleted)) = dsOf pre := by
  unfold dsOf; rw [List.filter_filter]; simp

theorem usOf_filter (pre : List Change) : usOf (pre.filter (fun c => !c.deleted)) = usOf pre := by
  unfold usOf
  rw [List.filter_filter]
  congr 1
  apply List.filter_congr
  intro c _
  cases c.deleted <;> simp

theorem dsOf_snoc (pre : List Change) (c : Change) :
    dsOf (pre ++ [c]) = if c.deleted then dsOf pre ++ [(c.obj, c.rev)] else dsOf pre := by
  unfold dsOf; rw [List.filter_append, List.map_append]; cases h : c.deleted <;> simp [h]

theorem usOf_snoc (pre : List Change) (c : Change) :
    usOf (pre ++ [c]) = if (!c.deleted && decide (needs c.obj.kind)) then usOf pre ++ [(c.obj, c.rev)] else usOf pre := by
  unfold usOf; rw [List.filter_append, List.map_append]; cases h : (!c.deleted && decide (needs c.obj.kind)) <;> simp [h]

/-- the position of an iterator after it has passed the changes `l` -/
def posOf (l : List Change) (v : Nat) : Nat := l.foldl (fun _ c => c.rev) v

@[simp] theorem posOf_nil (v : Nat) : posOf [] v = v := rfl
@[simp] theorem posOf_cons (c : Change) (l : List Change) (v : Nat) : posOf (c :: l) v = posOf l c.rev := rfl

theorem posOf_filter_snoc (p : Change → Bool) (pre : List Change) (c : Change) (v : Nat) :
    posOf ((pre ++ [c]).filter p) v = if p c then c.rev else posOf (pre.filter p) v := by
  unfold posOf; rw [List.filter_append, List.foldl_append]; cases h : p c <;> simp [h]

/-- `posOf` for collected entries: the revision of the last entry of `l`, `v` if there is none -/
def lastRev (l : List BEntry) (v : Nat) : Nat := l.foldl (fun _ e => e.2) v

@[simp] theorem lastRev_nil (v : Nat) : lastRev [] v = v := rfl

theorem mem_filter_split (pre : List Change) (c : Change) :
    c ∈ pre.filter (·.deleted) ++ pre.filter (fun c => !c.deleted) ↔ c ∈ pre := by
  simp only [List.mem_append, List.mem_filter]
  constructor
  · rintro (⟨h, _⟩ | ⟨h, _⟩) <;> exact h
  · intro h
    by_cases hd : c.deleted = true
    · exact Or.inl ⟨h, hd⟩
    · exact Or.inr ⟨h, by simpa using hd⟩

theorem mem_reorder {pre rest : List Change} {c : Change} :
    c ∈ pre.filter (·.deleted) ++ (pre.filter (fun c => !c.deleted) ++ rest) ↔ c ∈ pre ++ rest := by
  rw [← List.append_assoc, List.mem_append, mem_filter_split, ← List.mem_append]

/-- the batch loop processes the deletions it has read before the objects.  Moving the deletions
    of a prefix `pre` to the front keeps a relation between earlier and later changes that does not
    depend on the order of a deletion and a live object -/
theorem pairwise_reorder {Rel : Change → Change → Prop} {pre rest : List Change} (h : (pre ++ rest).Pairwise Rel)
    (hx : ∀ a b, a.deleted = true → b.deleted = false → Rel b a → Rel a b) :
    (pre.filter (·.deleted) ++ (pre.filter (fun c => !c.deleted) ++ rest)).Pairwise Rel := by
  obtain ⟨h1, h2, h3⟩ := List.pairwise_append.1 h
  refine List.pairwise_append.2 ⟨h1.sublist List.filter_sublist,
    List.pairwise_append.2 ⟨h1.sublist List.filter_sublist, h2, fun a ha b hb => h3 a (List.mem_filter.1 ha).1 b hb⟩, fun a ha b hb => ?_⟩
  obtain ⟨ha, hda⟩ := List.mem_filter.1 ha
  rcases List.mem_append.1 hb with hb | hb
  · obtain ⟨hb, hdb⟩ := List.mem_filter.1 hb
    have hdb : b.deleted = false := by simpa using hdb
    rcases pairwise_mem h1 ha hb with e | e | e
    · rw [e, hdb] at hda; cases hda
    · exact e
    · exact hx a b hda hdb e
  · exact h3 a ha b hb

theorem sorted_reorder {pre rest : List Change} (h : (pre ++ rest).Pairwise (fun a b => a.deleted = b.deleted → a.rev < b.rev)) :
    (pre.filter (·.deleted) ++ (pre.filter (fun c => !c.deleted) ++ rest)).Pairwise (fun a b => a.deleted = b.deleted → a.rev < b.rev) :=
  pairwise_reorder h fun _ _ ha hb _ e => nomatch ha.symm.trans (e.trans hb)

theorem ChOK.ids {r : R} {rs : List Res} {cs : List Change} (h : ChOK r rs cs) (ht : TInv r) :
    cs.Pairwise (fun a b => a.obj.id ≠ b.obj.id) := by
  refine List.Pairwise.imp_of_mem (fun {a b} ha hb hab e => ?_) h.sorted
  cases hda : a.deleted <;> cases hdb : b.deleted
  · obtain ⟨a1, a2, _⟩ := h.upd a ha hda
    obtain ⟨b1, b2, _⟩ := h.upd b hb hdb
    have hlt := hab (hda.trans hdb.symm)
    rw [a2, b2, ht.obj_eq a1 b1 e] at hlt
    exact Nat.lt_irrefl _ hlt
  · exact ht.disj _ (h.upd a ha hda).1 _ (h.del b hb hdb).1 e
  · exact ht.disj _ (h.upd b hb hdb).1 _ (h.del a ha hda).1 e.symm
  · exact Nat.ne_of_lt (hab (hda.trans hdb.symm)) (congrArg Prod.snd (ht.del_eq (h.del a ha hda).1 (h.del b hb hdb).1 e))

theorem ChOK.reorder {r : R} {rs : List Res} {pre rest : List Change} (h : ChOK r rs (pre ++ rest)) :
    ChOK r rs (pre.filter (·.deleted) ++ (pre.filter (fun c => !c.deleted) ++ rest)) :=
  ⟨fun c hc => h.upd c (mem_reorder.1 hc), fun c hc => h.del c (mem_reorder.1 hc), sorted_reorder h.sorted,
    fun o ho => (h.covO o ho).imp_right fun ⟨c, hc, e⟩ => ⟨c, mem_reorder.2 hc, e⟩,
    fun d hd => (h.covD d hd).imp_right fun ⟨c, hc, e⟩ => ⟨c, mem_reorder.2 hc, e⟩, h.below⟩

/-- what replaying a batch round against the ghost iterator asks of an invariant of the loop of
    `single()` (`InvL` with `ChOK`, `JInv` with `JChOK`): that it survives what the collecting loop
    does ahead of the operations and the order in which the batches run -/
structure Replay (P : R → List Res → List Change → Prop) : Prop extends LoopInv P where
  clear : ∀ {r : R} {rs : List Res} {cs : List Change} (id : Nat), P r rs cs → Stale r.objs r.dels r.itRev r.itDelRev id →
    P (r.retryClear id) rs cs
  setPending : ∀ {r : R} {rs : List Res} {cs : List Change} (p : Option (List Change)), P r rs cs → P { r with pending := p } rs cs
  reorder : ∀ {r : R} {rs : List Res} {pre rest : List Change}, P r rs (pre ++ rest) →
    P r rs (pre.filter (·.deleted) ++ (pre.filter (fun c => !c.deleted) ++ rest))

theorem Replay.read {P : R → List Res → List Change → Prop} (hP : Replay P) {x : R} {a b : Nat} {rs : List Res}
    {cs : List Change} (h : P (ghost x a b) rs cs) (c : Change) (hst : Stale x.objs x.dels a b c.obj.id) :
    P (ghost (readD x c) a b) rs cs ∧ P (ghost (readU x c) a b) rs cs := by
  have h1 := hP.setNum (x.numReconciled + 1) (hP.clear c.obj.id h hst)
  rw [ghost_retryClear] at h1
  exact ⟨ghost_readD x c a b ▸ h1, ghost_readU x c a b ▸ h1⟩

/-- the collecting loop started in `n` on `cs` has read `pre`: state `x`, `rest` still to read, `ds` / `us` collected -/
structure Collected (n x : R) (cs pre rest : List Change) (ds us : List BEntry) : Prop where
  split : cs = pre ++ rest
  ds_eq : ds = dsOf pre
  us_eq : us = usOf pre
  objs : x.objs = n.objs
  dels : x.dels = n.dels
  itRev : x.itRev = posOf (pre.filter (fun c => !c.deleted)) n.itRev
  itDelRev : x.itDelRev = posOf (pre.filter (·.deleted)) n.itDelRev
  clr : ∀ c ∈ pre, c.proc → ∀ it ∈ x.items, it.id ≠ c.obj.id

theorem Collected.init (n : R) (cs : List Change) : Collected n n cs [] cs [] [] :=
  ⟨rfl, rfl, rfl, rfl, rfl, rfl, rfl, fun _ hc => nomatch hc⟩

theorem Collected.skip {n x : R} {cs pre rest : List Change} {c : Change} {ds us : List BEntry}
    (h : Collected n x cs pre (c :: rest) ds us) (hc : c.deleted = false) (hn : ¬ needs c.obj.kind) :
    Collected n { x with itRev := c.rev } cs (pre ++ [c]) rest ds us where
  split := by rw [h.split, List.append_assoc]; rfl
  ds_eq := by rw [dsOf_snoc, hc, h.ds_eq]; rfl
  us_eq := by rw [usOf_snoc, hc, h.us_eq]; simp [hn]
  objs := h.objs
  dels := h.dels
  itRev := by rw [posOf_filter_snoc, hc]; rfl
  itDelRev := by rw [posOf_filter_snoc, hc]; exact h.itDelRev
  clr c' hc' hp := by
    rcases List.mem_append.1 hc' with hc' | hc'
    · exact h.clr c' hc' hp
    · rw [List.mem_singleton.1 hc'] at hp
      exact absurd (hp.resolve_left (by rw [hc]; decide)) hn

theorem Collected.clr_read {n x x' : R} {cs pre rest : List Change} {c : Change} {ds us : List BEntry} {a b : Nat}
    (h : Collected n x cs pre (c :: rest) ds us) (f : FrameRead x x' c.obj.id a b) :
    ∀ c' ∈ pre ++ [c], c'.proc → ∀ it ∈ x'.items, it.id ≠ c'.obj.id := by
  intro c' hc' hp it hit
  rw [f.items] at hit
  obtain ⟨hit, hne⟩ := mem_filter_id_ne.1 hit
  rcases List.mem_append.1 hc' with hc' | hc'
  · exact h.clr c' hc' hp it hit
  · rw [List.mem_singleton.1 hc']; exact hne

theorem Collected.readD {n x : R} {cs pre rest : List Change} {c : Change} {ds us : List BEntry}
    (h : Collected n x cs pre (c :: rest) ds us) (hc : c.deleted = true) :
    Collected n (readD x c) cs (pre ++ [c]) rest (ds ++ [(c.obj, c.rev)]) us where
  split := by rw [h.split, List.append_assoc]; rfl
  ds_eq := by rw [dsOf_snoc, hc, h.ds_eq]; rfl
  us_eq := by rw [usOf_snoc, hc, h.us_eq]; rfl
  objs := (readD_frame x c).objs.trans h.objs
  dels := (readD_frame x c).dels.trans h.dels
  itRev := by rw [posOf_filter_snoc, hc, (readD_frame x c).itRev]; exact h.itRev
  itDelRev := by rw [posOf_filter_snoc, hc, (readD_frame x c).itDelRev]; rfl
  clr := h.clr_read (readD_frame x c)

theorem Collected.readU {n x : R} {cs pre rest : List Change} {c : Change} {ds us : List BEntry}
    (h : Collected n x cs pre (c :: rest) ds us) (hc : c.deleted = false) (hn : needs c.obj.kind) :
    Collected n (readU x c) cs (pre ++ [c]) rest ds (us ++ [(c.obj, c.rev)]) where
  split := by rw [h.split, List.append_assoc]; rfl
  ds_eq := by rw [dsOf_snoc, hc, h.ds_eq]; rfl
  us_eq := by rw [usOf_snoc, hc, h.us_eq]; simp [hn]
  objs := (readU_frame x c).objs.trans h.objs
  dels := (readU_frame x c).dels.trans h.dels
  itRev := by rw [posOf_filter_snoc, hc, (readU_frame x c).itRev]; rfl
  itDelRev := by rw [posOf_filter_snoc, hc, (readU_frame x c).itDelRev]; exact h.itDelRev
  clr := h.clr_read (readU_frame x c)

theorem Collected.consumeB (n : R) (cs : List Change) (last : Nat) :
    ∃ pre, Collected n (n.consumeB cs last [] []).1 cs pre (n.consumeB cs last [] []).2.1
      (n.consumeB cs last [] []).2.2.2.1 (n.consumeB cs last [] []).2.2.2.2 :=
  (consumeB_ind (P := fun x rest ds us => ∃ pre, Collected n x cs pre rest ds us)
    (fun _ _ _ _ _ ⟨_, h⟩ hc hn => ⟨_, h.skip hc hn⟩) (fun _ _ _ _ _ ⟨_, h⟩ hc => ⟨_, h.readD hc⟩)
    (fun _ _ _ _ _ ⟨_, h⟩ hc hn => ⟨_, h.readU hc hn⟩) cs n last [] [] ⟨[], .init n cs⟩).1

theorem Replay.consumeB {P : R → List Res → List Change → Prop} (hP : Replay P) {n : R} {cs cs0 : List Change} {rs : List Res}
    (h : P n rs cs0) (hch : ChOK n [] cs) (last : Nat) :
    (∃ pre, Collected n (n.consumeB cs last [] []).1 cs pre (n.consumeB cs last [] []).2.1
        (n.consumeB cs last [] []).2.2.2.1 (n.consumeB cs last [] []).2.2.2.2 ∧
      P (ghost (n.consumeB cs last [] []).1 n.itRev n.itDelRev) rs cs0) ∧
    ((n.consumeB cs last [] []).1.numReconciled < (n.consumeB cs last [] []).1.cfg.roundSize → (n.consumeB cs last [] []).2.1 = []) := by
  -- a change still to be read is waiting for the loop
  have hst : ∀ {x : R} {pre rest : List Change} {c : Change} {ds us : List BEntry}, Collected n x cs pre (c :: rest) ds us → c.proc →
      Stale x.objs x.dels n.itRev n.itDelRev c.obj.id := by
    intro x pre rest c ds us hx hp
    have hc : c ∈ cs := by rw [hx.split]; exact List.mem_append_right _ (List.mem_cons_self ..)
    rw [hx.objs, hx.dels]
    cases hd : c.deleted with
    | true => exact Or.inr ⟨_, (hch.del c hc hd).1, rfl, (hch.del c hc hd).2⟩
    | false =>
      obtain ⟨ho, hrev, hgt⟩ := hch.upd c hc hd
      exact Or.inl ⟨_, ho, rfl, hrev ▸ hgt, hp.resolve_left (by rw [hd]; decide)⟩
  exact consumeB_ind (P := fun x rest ds us => ∃ pre, Collected n x cs pre rest ds us ∧ P (ghost x n.itRev n.itDelRev) rs cs0)
    (fun _ _ _ _ _ ⟨_, hx, hI⟩ hc hn => ⟨_, hx.skip hc hn, hI⟩)
    (fun _ c _ _ _ ⟨_, hx, hI⟩ hc => ⟨_, hx.readD hc, (hP.read hI c (hst hx (Or.inl hc))).1⟩)
    (fun _ c _ _ _ ⟨_, hx, hI⟩ hc hn => ⟨_, hx.readU hc hn, (hP.read hI c (hst hx (Or.inr hn))).2⟩)
    cs n last [] [] ⟨[], .init n cs, h⟩

theorem Replay.deletes {P : R → List Res → List Change → Prop} (hP : Replay P) (pd tl : List Change) {x : R} {a v : Nat}
    (h : P (ghost x a v) x.results (pd ++ tl)) (hdel : ∀ c ∈ pd, c.deleted = true)
    (hids : pd.Pairwise (fun c c' => c.obj.id ≠ c'.obj.id)) (hclr : ∀ c ∈ pd, ∀ it ∈ x.items, it.id ≠ c.obj.id) :
    P (ghost ((dsOf pd).foldl (stepD x.failing) x) a (posOf pd v)) ((dsOf pd).foldl (stepD x.failing) x).results tl ∧
    (∀ it ∈ ((dsOf pd).foldl (stepD x.failing) x).items, it ∈ x.items ∨ ∃ c ∈ pd, it.id = c.obj.id) := by
  induction pd generalizing x v with
  | nil => exact ⟨h, fun it hit => Or.inl hit⟩
  | cons c pd ih =>
    have hc := hdel c (List.mem_cons_self ..)
    have hclrc := hclr c (List.mem_cons_self ..)
    rw [dsOf_cons, if_pos hc, List.foldl_cons, stepD_eq_processSingle x _ hclrc]
    -- one step of `single()` on the ghost state, where clearing the retry again does nothing
    have h1 := hP.del h hc
    have hcl : R.retryClear { ghost x a v with itDelRev := c.rev } c.obj.id = ghost x a c.rev := retryClear_of_no_item _ _ hclrc
    rw [hcl, ghost_processSingle] at h1
    have hit1 := processSingle_delete_items x c.obj c.rev
    rw [← processSingle_failing x c.obj c.rev true]
    generalize x.processSingle c.obj c.rev true = x1 at h1 hit1 ⊢
    obtain ⟨a1, a2⟩ := ih (x := x1) (v := c.rev) h1 (fun c' hc' => hdel c' (List.mem_cons_of_mem _ hc')) (List.pairwise_cons.1 hids).2
      (fun c' hc' it hit => (hit1 it hit).elim (hclr c' (List.mem_cons_of_mem _ hc') it)
        fun e => e ▸ (List.pairwise_cons.1 hids).1 c' hc')
    refine ⟨a1, fun it hit => ?_⟩
    rcases a2 it hit with h' | ⟨c', hc', h'⟩
    · exact (hit1 it h').imp_right fun e => ⟨c, List.mem_cons_self .., e⟩
    · exact Or.inr ⟨c', List.mem_cons_of_mem _ hc', h'⟩

theorem Replay.updates {P : R → List Res → List Change → Prop} (hP : Replay P) (pu tl : List Change) {x : R} {a w : Nat}
    (h : P (ghost x a w) x.results (pu ++ tl)) (hnd : ∀ c ∈ pu, c.deleted = false)
    (hclr : ∀ c ∈ pu, needs c.obj.kind → ∀ it ∈ x.items, it.id ≠ c.obj.id) (hs : x.batchSafe (usOf pu)) :
    P (ghost ((usOf pu).foldl (fun (x : R) (e : BEntry) => x.processSingle e.1 e.2 false) x) (posOf pu a) w)
      ((usOf pu).foldl (fun (x : R) (e : BEntry) => x.processSingle e.1 e.2 false) x).results tl := by
  induction pu generalizing x a with
  | nil => exact h
  | cons c pu ih =>
    have hc := hnd c (List.mem_cons_self ..)
    rw [usOf_cons] at hs ⊢
    by_cases hn : needs c.obj.kind
    · have hcond : (!c.deleted && decide (needs c.obj.kind)) = true := by simp [hc, hn]
      rw [if_pos hcond] at hs ⊢
      have hclrc := hclr c (List.mem_cons_self ..) hn
      have hcl : R.retryClear { ghost x a w with itRev := c.rev } c.obj.id = ghost x c.rev w := retryClear_of_no_item _ _ hclrc
      have h1 := hP.upd h hc hn (hcl ▸ (injSafe_of_tbl x (ghost x c.rev w) rfl rfl rfl rfl _).2 hs.1)
      rw [hcl, ghost_processSingle] at h1
      exact ih h1 (fun c' hc' => hnd c' (List.mem_cons_of_mem _ hc'))
        (fun c' hc' hn' it hit => hclr c' (List.mem_cons_of_mem _ hc') hn' it (processSingle_update_items x c.obj c.rev it hit)) hs.2
    · have hcond : ¬ ((!c.deleted && decide (needs c.obj.kind)) = true) := by simp [hn]
      rw [if_neg hcond] at hs ⊢
      exact ih (x := x) (a := c.rev) (hP.skip h hc hn) (fun c' hc' => hnd c' (List.mem_cons_of_mem _ hc'))
        (fun c' hc' => hclr c' (List.mem_cons_of_mem _ hc')) hs

theorem Replay.batch_phase {P : R → List Res → List Change → Prop} (hP : Replay P) {n : R} {cs : List Change}
    (h : P n [] cs) (hres : n.results = []) (ht : TInv n) (hch : ChOK n [] cs) (last : Nat) (pend : Option (List Change))
    (hs : (R.deleteBatch { (n.consumeB cs last [] []).1 with pending := pend } (n.consumeB cs last [] []).2.2.2.1).batchSafe
      (n.consumeB cs last [] []).2.2.2.2) :
    P (batchOps (n.consumeB cs last [] []) pend) (batchOps (n.consumeB cs last [] []) pend).results (n.consumeB cs last [] []).2.1 ∧
    ((batchOps (n.consumeB cs last [] []) pend).numReconciled < (batchOps (n.consumeB cs last [] []) pend).cfg.roundSize →
      (n.consumeB cs last [] []).2.1 = []) := by
  obtain ⟨⟨pre, hx, hIb⟩, hfull⟩ := hP.consumeB h hch last
  obtain ⟨hF, hnum⟩ := batchOps_frame (n.consumeB cs last [] []) pend
  refine ⟨?_, fun hlt => hfull (by rw [← hnum]; exact hF.cfg ▸ hlt)⟩
  have hresb := (consumeB_frame cs n last [] []).2.trans hres
  rw [batchOps_eq] at hF ⊢
  rw [deleteBatch_eq] at hs
  generalize n.consumeB cs last [] [] = co at hx hIb hs hF hresb ⊢
  -- the stream, deletions first, against the ghost position
  rw [hx.split] at hIb hch
  have hids := hch.reorder.ids ht
  have hI1 := hP.setPending pend (hP.reorder hIb)
  change P (ghost ({ co.1 with pending := pend } : R) n.itRev n.itDelRev) [] _ at hI1
  have hxb : Collected n { co.1 with pending := pend } cs pre co.2.1 co.2.2.2.1 co.2.2.2.2 := { hx with }
  have hresb' : ({ co.1 with pending := pend } : R).results = [] := hresb
  generalize ({ co.1 with pending := pend } : R) = xb at hs hF hI1 hxb hresb' ⊢
  rw [← hresb'] at hI1
  rw [hxb.ds_eq, ← dsOf_filter] at hs hF ⊢
  rw [hxb.us_eq, ← usOf_filter] at hs hF ⊢
  have hitU := hxb.itRev
  have hitD := hxb.itDelRev
  generalize hpd : pre.filter (·.deleted) = pd at hI1 hids hitD hs hF ⊢
  generalize hpu : pre.filter (fun c => !c.deleted) = pu at hI1 hids hitU hs hF ⊢
  have hpdm : ∀ c ∈ pd, c ∈ pre ∧ c.deleted = true := fun c hc => List.mem_filter.1 (hpd ▸ hc)
  have hpum : ∀ c ∈ pu, c ∈ pre ∧ c.deleted = false := fun c hc => by simpa using List.mem_filter.1 (hpu ▸ hc : c ∈ pre.filter (fun c => !c.deleted))
  obtain ⟨hI2, hit2⟩ := hP.deletes pd _ hI1 (fun c hc => (hpdm c hc).2) (List.pairwise_append.1 hids).1
    (fun c hc => hxb.clr c (hpdm c hc).1 (Or.inl (hpdm c hc).2))
  generalize (dsOf pd).foldl (stepD xb.failing) xb = xd at hs hF hI2 hit2 ⊢
  have hI3 := hP.updates pu _ hI2 (fun c hc => (hpum c hc).2)
    (fun c hc hn it hit => (hit2 it hit).elim (hxb.clr c (hpum c hc).1 (Or.inr hn) it)
      fun ⟨c', hc', e⟩ => e ▸ (List.pairwise_append.1 hids).2.2 c' hc' c (List.mem_append_left _ hc)) hs
  -- the ghost position is the iterator's
  rw [← hitU, ← hitD, ← hF.itRev, ← hF.itDelRev] at hI3
  exact hI3

theorem InvL.replay : Replay (fun r rs cs => InvL r rs ∧ ChOK r rs cs) where
  skip h hc hn := h.1.skip h.2 hc hn
  del h hc := ⟨(h.1.consume_del h.2 hc).1, (h.1.consume_del h.2 hc).2.1⟩
  upd h hc hn _ := ⟨(h.1.consume_upd h.2 hc hn).1, (h.1.consume_upd h.2 hc hn).2.1⟩
  clear id h hst :=
    ⟨h.1.clear_stale id hst (retryClear_objs ..) (retryClear_dels ..) (retryClear_tableRev ..) (retryClear_itRev ..)
      (retryClear_itDelRev ..) (retryClear_refreshedAt ..) (retryClear_items ..) (retryClear_log ..) (retryClear_injects ..),
     h.2.congr (retryClear_objs ..) (retryClear_dels ..) (retryClear_itRev ..) (retryClear_itDelRev ..)⟩
  setNum _ h := ⟨h.1.congr rfl rfl rfl rfl rfl rfl rfl rfl rfl, h.2.congr rfl rfl rfl rfl⟩
  setPending _ h := ⟨h.1.congr rfl rfl rfl rfl rfl rfl rfl rfl rfl, h.2.congr rfl rfl rfl rfl⟩
  reorder h := ⟨h.1, h.2.reorder⟩

theorem RInv.roundB_mid {r : R} (h : RInv r) : MidOK (batchMid r) := by
  obtain ⟨v, e, hI1, hch⟩ := h.next
  have hnil : r.nextChanges.2 = [] → (collectB r).2.1 = [] :=
    fun e => by rw [collectB, e, consumeB_nil]
  unfold batchMid collectB at hnil ⊢
  rw [e] at hnil ⊢
  obtain ⟨hK, _⟩ := consumeB_frame r.nextChanges.2 { r with refreshedAt := v } 0 [] []
  obtain ⟨hF, _⟩ := batchOps_frame (R.consumeB { r with refreshedAt := v } r.nextChanges.2 0 [] [])
    (pendAfter r.nextChanges.2 (R.consumeB { r with refreshedAt := v } r.nextChanges.2 0 [] []))
  obtain ⟨⟨hI3, hch3⟩, hfull⟩ := InvL.replay.batch_phase ⟨hI1, hch⟩ h.res hI1.tinv hch 0
    (pendAfter r.nextChanges.2 (R.consumeB { r with refreshedAt := v } r.nextChanges.2 0 [] []))
    (batchSafe_deleteBatch _ _ _ (noTouch_nil (hK.injects.trans hI1.noinj)))
  refine ⟨hI3, fun hlt => ?_, fun hpn => ?_⟩
  · have hC := hfull hlt ▸ hch3
    exact ⟨fun o ho _ => hC.nil_caughtUp.1 o ho, hC.nil_caughtUp.2⟩
  · exact (pendAfter_none hnil (hF.pending.symm.trans hpn) ▸ hch3).nil_caughtUp

theorem RInv.roundB {r : R} (h : RInv r) : RInv r.roundB :=
  roundB_eq r ▸ h.roundB_mid.tail _

theorem RInv.quiesceB {r : R} (h : RInv r) (fuel : Nat) : RInv (r.quiesceB fuel) :=
  quiesceB_eq r fuel ▸ quiesceW_ind (fun _ h => h.fireTimer) (fun _ h _ => h.roundB) r fuel h

theorem RInv.advanceB {r : R} (h : RInv r) (ms fuel : Nat) : RInv (r.advanceB ms fuel) :=
  advanceB_eq r ms fuel ▸ advanceW_ind (fun _ t h _ => h.setNow t)
    (fun _ h => quiesceW_ind (fun _ h => h.fireTimer) (fun _ h _ => h.roundB) _ 64 h) r ms fuel h

end Sdb.Rec
