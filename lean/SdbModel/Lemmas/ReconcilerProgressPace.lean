import SdbModel.Lemmas.ReconcilerProgressReach

/-!
  What one round does to the retry items and which calls it makes, relative to the state `v0` the
  round began in: every call is the first attempt of a change waiting in the change stream or the
  retry of an item that was queued and due; every retry item the round leaves is untouched, stems
  from the first failure of a change (`FreshIt`: count 1), or from the repeated failure of a due
  retry (`AgainIt`: count + 1).
-/
namespace Sdb.Rec

/-- the call is the attempt of a change that was waiting in the change stream -/
def FirstAttempt (v0 : V) (c : Call) : Prop :=
  (c.op = "U" ∧ ∃ o ∈ v0.objs, needs o.kind ∧ v0.itRev < o.rev ∧ c.id = o.id ∧ c.data = o.data) ∨
  (c.op = "D" ∧ ∃ d ∈ v0.dels, v0.itDelRev < d.2 ∧ c.id = d.1.id ∧ c.data = d.1.data)

/-- queued by the FIRST failure for a change consumed in this round; `origRev` is the revision of
    that change -/
structure FreshIt (v0 : V) (it : Item) : Prop where
  count : it.numRetries = 1
  retryAt : it.retryAt = v0.now + backoff v0.cfg.minB v0.cfg.maxB 1
  queued : it.inQueue = true
  objId : it.id = it.obj.id
  change : (it.delete = true ∧ (it.obj, it.origRev) ∈ v0.dels ∧ v0.itDelRev < it.origRev ∧ it.rev = it.origRev) ∨
    (it.delete = false ∧ it.obj ∈ v0.objs ∧ needs it.obj.kind ∧ v0.itRev < it.obj.rev ∧ it.origRev = it.obj.rev)

/-- a change for `id` was waiting in the change stream when the round began -/
def StaleV (v0 : V) (id : Nat) : Prop := Stale v0.objs v0.dels v0.itRev v0.itDelRev id

/-- a change for `id` that was waiting when the round began has been consumed by the iterator at `(a, b)` -/
def Consumed (v0 : V) (a b id : Nat) : Prop :=
  (∃ o ∈ v0.objs, o.id = id ∧ needs o.kind ∧ v0.itRev < o.rev ∧ o.rev ≤ a) ∨
  (∃ d ∈ v0.dels, d.1.id = id ∧ v0.itDelRev < d.2 ∧ d.2 ≤ b)

/-- `it'` was queued by the failed retry of `it`, which was due and for whose object no change was
    waiting; `origRev` is kept (the revision of the change that failed FIRST) -/
structure AgainOf (v0 : V) (it it' : Item) : Prop where
  notStale : ¬ StaleV v0 it.id
  id : it.id = it'.id
  due : it.retryAt ≤ v0.now
  count : it'.numRetries = it.numRetries + 1
  retryAt : it'.retryAt = v0.now + backoff v0.cfg.minB v0.cfg.maxB (it.numRetries + 1)
  origRev : it'.origRev = it.origRev
  delete : it'.delete = it.delete
  obj : it'.obj = it.obj
  queued : it'.inQueue = true

def AgainIt (v0 : V) (it' : Item) : Prop := ∃ it ∈ v0.items, AgainOf v0 it it'

structure PoppedOf (v0 : V) (it it' : Item) : Prop where
  notStale : ¬ StaleV v0 it.id
  due : it.retryAt ≤ v0.now
  eq : it' = popItem it.id it

/-- (inside a round only) an item the round began with was due, its Update was retried and failed;
    the status commit that re-queues it is still to come -/
def PoppedIt (v0 : V) (it' : Item) : Prop := ∃ it ∈ v0.items, PoppedOf v0 it it'

/-- an item the round began with, untouched; `(a, b)`: where the iterator stands -/
structure KeptIt (v0 : V) (a b : Nat) (it : Item) : Prop where
  mem : it ∈ v0.items
  queued : it.inQueue = true
  notConsumed : ¬ Consumed v0 a b it.id

/-- what an item can be in the tail of a round -/
def IT4 (v0 : V) (a b : Nat) (it : Item) : Prop :=
  KeptIt v0 a b it ∨ PoppedIt v0 it ∨ FreshIt v0 it ∨ AgainIt v0 it

/-- the result stems from a change consumed in this round -/
structure FromChange (v0 : V) (res : Res) : Prop where
  mem : res.1 ∈ v0.objs
  waiting : needs res.1.kind
  gt : v0.itRev < res.1.rev
  rev : res.2.2.1 = res.1.rev
  same : res.2.1 = res.1

def LogExt (P : Call → Prop) (l0 l : List Call) : Prop := ∃ L, l = l0 ++ L ∧ ∀ c ∈ L, P c

theorem LogExt.refl (P : Call → Prop) (l : List Call) : LogExt P l l := ⟨[], by simp, fun c hc => by cases hc⟩

theorem LogExt.snoc {P : Call → Prop} {l0 l : List Call} (h : LogExt P l0 l) {c : Call} (hc : P c) : LogExt P l0 (l ++ [c]) := by
  obtain ⟨L, e, f⟩ := h
  refine ⟨L ++ [c], by rw [e, List.append_assoc], fun x hx => ?_⟩
  rcases List.mem_append.1 hx with hx | hx
  · exact f x hx
  · rw [List.mem_singleton.1 hx]; exact hc

theorem retryAt_congr {v v0 : V} (hn : v.now = v0.now) (hc : v.cfg = v0.cfg) (n : Nat) :
    v.now + backoff v.cfg.minB v.cfg.maxB n = v0.now + backoff v0.cfg.minB v0.cfg.maxB n := by rw [hn, hc]

/-- while the change stream is consumed -/
structure K1 (v0 v : V) (rs : List Res) : Prop where
  objs : v.objs = v0.objs
  dels : v.dels = v0.dels
  now : v.now = v0.now
  cfg : v.cfg = v0.cfg
  itRev : v0.itRev ≤ v.itRev
  itDelRev : v0.itDelRev ≤ v.itDelRev
  log : LogExt (FirstAttempt v0) v0.log v.log
  items : ∀ it ∈ v.items, KeptIt v0 v.itRev v.itDelRev it ∨ FreshIt v0 it
  res : ∀ res ∈ rs, FromChange v0 res
  resle : ∀ res ∈ rs, res.2.2.1 ≤ v.itRev

theorem not_consumed_upd {v0 : V} {r : R} {rs : List Res} {c : Change} {cs : List Change} {b id : Nat}
    (hch : ChOK r rs (c :: cs)) (hc : c.deleted = false) (hobjs : r.objs = v0.objs)
    (hne : needs c.obj.kind → c.obj.id ≠ id) (h : ¬ Consumed v0 r.itRev b id) : ¬ Consumed v0 c.rev b id := by
  rintro (⟨o, ho, hid, hn, h1, h2⟩ | hd)
  · by_cases hle : o.rev ≤ r.itRev
    · exact h (Or.inl ⟨o, ho, hid, hn, h1, hle⟩)
    · rcases hch.lt_upd hc o (hobjs ▸ ho) (Nat.lt_of_not_le hle) with e | e
      · rw [e] at hn hid; exact hne hn hid
      · exact absurd h2 (Nat.not_le.2 e)
  · exact h (Or.inr hd)

theorem not_consumed_del {v0 : V} {r : R} {rs : List Res} {c : Change} {cs : List Change} {a id : Nat}
    (hch : ChOK r rs (c :: cs)) (hc : c.deleted = true) (hdels : r.dels = v0.dels)
    (hne : c.obj.id ≠ id) (h : ¬ Consumed v0 a r.itDelRev id) : ¬ Consumed v0 a c.rev id := by
  rintro (ho | ⟨d, hd, hid, h1, h2⟩)
  · exact h (Or.inl ho)
  · by_cases hle : d.2 ≤ r.itDelRev
    · exact h (Or.inr ⟨d, hd, hid, h1, hle⟩)
    · rcases hch.lt_del hc d (hdels ▸ hd) (Nat.lt_of_not_le hle) with e | e
      · rw [e] at hid; exact hne hid
      · exact absurd h2 (Nat.not_le.2 e)

theorem k1_steps (v0 : V) : ConsumeSteps fun v rs _ _ => K1 v0 v rs where
  skip r c cs _ _ hch hc hnn hk := by
    obtain ⟨_, _, hgt⟩ := hch.upd c (List.mem_cons_self ..) hc
    exact { hk with itRev := Nat.le_trans hk.itRev (Nat.le_of_lt hgt)
                    items := fun it hit => (hk.items it hit).imp_left fun b =>
                      { b with notConsumed := not_consumed_upd hch hc hk.objs (fun hn => absurd hn hnn) b.notConsumed }
                    resle := fun res hr => Nat.le_trans (hk.resle res hr) (Nat.le_of_lt hgt) }
  upd r c cs _ _ hch hc hn hk := by
    obtain ⟨ho, hrev, hgt⟩ := hch.upd c (List.mem_cons_self ..) hc
    have hlt : v0.itRev < c.obj.rev := hrev ▸ Nat.lt_of_le_of_lt hk.itRev hgt
    have ho0 : c.obj ∈ v0.objs := hk.objs ▸ ho
    refine { hk with itRev := Nat.le_trans hk.itRev (Nat.le_of_lt hgt), log := hk.log.snoc (Or.inl ⟨rfl, c.obj, ho0, hn, hlt, rfl, rfl⟩),
                     items := fun it hit => ?_, res := fun res hr => ?_, resle := fun res hr => ?_ }
    · obtain ⟨hm, hne⟩ := mem_clear_single_sub (v := { r.v with itRev := c.rev }) hit
      exact (hk.items it hm).imp_left fun b => { b with notConsumed := not_consumed_upd hch hc hk.objs (fun _ => Ne.symm hne) b.notConsumed }
    · rcases List.mem_append.1 hr with hr | hr
      · exact hk.res res hr
      · rw [List.mem_singleton.1 hr]
        exact ⟨ho0, hn, hlt, hrev, rfl⟩
    · rcases List.mem_append.1 hr with hr | hr
      · exact Nat.le_trans (hk.resle res hr) (Nat.le_of_lt hgt)
      · rw [List.mem_singleton.1 hr]; exact Nat.le_refl _
  del r c cs _ _ hch hc hk := by
    obtain ⟨hd, hgt⟩ := hch.del c (List.mem_cons_self ..) hc
    have hlt : v0.itDelRev < c.rev := Nat.lt_of_le_of_lt hk.itDelRev hgt
    have hd0 : (c.obj, c.rev) ∈ v0.dels := hk.dels ▸ hd
    refine { hk with itDelRev := Nat.le_of_lt hlt, log := hk.log.snoc (Or.inr ⟨rfl, (c.obj, c.rev), hd0, hlt, rfl, rfl⟩),
                     items := fun it hit => ?_ }
    rcases mem_clear_single_del (v := { r.v with itDelRev := c.rev }) hit with ⟨hm, hne⟩ | ⟨_, e⟩
    · exact (hk.items it hm).imp_left fun b => { b with notConsumed := not_consumed_del hch hc hk.dels (Ne.symm hne) b.notConsumed }
    · rw [e]
      exact Or.inr { count := rfl, retryAt := retryAt_congr hk.now hk.cfg 1, queued := rfl, objId := rfl,
                     change := Or.inl ⟨rfl, hd0, hlt, rfl⟩ }

theorem k1_init {r : R} (hr : RInv r) : K1 r.v r.v [] := by
  refine { objs := rfl, dels := rfl, now := rfl, cfg := rfl, itRev := Nat.le_refl _, itDelRev := Nat.le_refl _, log := LogExt.refl _ _,
           items := fun it hit => Or.inl ⟨hit, hr.items_queued it hit, ?_⟩,
           res := fun res hres => (by cases hres), resle := fun res hres => (by cases hres) }
  rintro (⟨o, _, _, _, h1, h2⟩ | ⟨d, _, _, h1, h2⟩) <;> exact absurd h2 (Nat.not_le.2 h1)

/-- (tail of a round) every change that was waiting when the round began has been consumed or its
    object / deletion is still in the table -/
structure QT (v0 v : V) : Prop where
  objsT : ∀ o ∈ v0.objs, needs o.kind → o ∈ v.objs ∨ o.rev ≤ v.itRev
  delsT : ∀ d ∈ v0.dels, d ∈ v.dels

/-- during the first status commit -/
structure Q1 (v0 v : V) (rs : List Res) : Prop where
  now : v.now = v0.now
  cfg : v.cfg = v0.cfg
  log : LogExt (FirstAttempt v0) v0.log v.log
  items : ∀ it ∈ v.items, KeptIt v0 v.itRev v.itDelRev it ∨ FreshIt v0 it
  res : ∀ res ∈ rs, FromChange v0 res
  resle : ∀ res ∈ rs, res.2.2.1 ≤ v.itRev
  t : QT v0 v

theorem K1.toQ1 {v0 v : V} {rs : List Res} (h : K1 v0 v rs) : Q1 v0 v rs :=
  { now := h.now, cfg := h.cfg, log := h.log, items := h.items, res := h.res, resle := h.resle,
    t := ⟨fun _ ho _ => Or.inl (h.objs ▸ ho), fun _ hd => h.dels ▸ hd⟩ }

theorem q1_commit (v0 : V) : CommitSteps (Q1 v0) where
  drop _ _ _ hq := { hq with res := fun x hx => hq.res x (List.mem_cons_of_mem _ hx),
                              resle := fun x hx => hq.resle x (List.mem_cons_of_mem _ hx) }
  write r res rs cur hc hq := by
    have hI := hc.inv
    have hfc := hq.res res (List.mem_cons_self ..)
    have hrle := hq.resle res (List.mem_cons_self ..)
    refine { now := (commit_now ..).trans hq.now, cfg := (commit_cfg ..).trans hq.cfg, log := by rw [commit_log]; exact hq.log,
             res := fun x hx => hq.res x (List.mem_cons_of_mem _ hx),
             resle := fun x hx => by rw [commit_itRev]; exact hq.resle x (List.mem_cons_of_mem _ hx),
             items := ?_, t := ⟨?_, ?_⟩ }
    · simp only [commit_itRev, commit_itDelRev]
      intro it hit
      rcases (mem_commit_items ..).1 hit with ⟨hm, _⟩ | ⟨_, e⟩
      · exact hq.items it hm
      · -- the object is unchanged since its Update failed, so no item stood for it: a FRESH item
        have hnone : ∀ i ∈ r.v.items, i.id ≠ res.2.1.id := by
          intro i hi hid
          rcases (hI.resOK res (List.mem_cons_self ..)).current hc.mem hc.id with a | a
          · have := (a.2.2 i hi (by rw [hid, hfc.same])).1
            rw [(hq.items i hi).elim KeptIt.queued FreshIt.queued] at this; cases this
          · exact absurd hc.rev a.1
        rw [e, prevN_of_not_mem hnone, prevO_of_not_mem hnone, hfc.same]
        exact Or.inr { count := rfl, retryAt := retryAt_congr hq.now hq.cfg 1, queued := rfl, objId := rfl,
                       change := Or.inr ⟨rfl, hfc.mem, hfc.waiting, hfc.gt, hfc.rev⟩ }
    · intro o ho hn
      simp only [commit_itRev]
      rcases hq.t.objsT o ho hn with a | a
      · by_cases hid : o.id = res.1.id
        · right
          have : o = cur := hI.tinv.obj_eq a hc.mem (hid.trans hc.id.symm)
          rw [this, hc.rev]; exact hrle
        · left
          rw [commit_objs]
          exact (mem_setObj_v ..).2 (Or.inl ⟨a, hid⟩)
      · exact Or.inr a
    · intro d hd
      rw [commit_dels, List.mem_filter]
      have hd' := hq.t.delsT d hd
      exact ⟨hd', decide_eq_true fun e => hI.tinv.disj cur hc.mem d hd' (hc.id.trans e.symm)⟩

/-- a valid backoff configuration (`reconciler.config.validate` demands `min > 0`; `min ≤ max` is
    the documented intent) -/
def PosB (c : Cfg) : Prop := 0 < c.minB ∧ c.minB ≤ c.maxB

theorem backoff_pos {c : Cfg} (h : PosB c) (n : Nat) : 0 < backoff c.minB c.maxB n :=
  Nat.lt_of_lt_of_le h.1 (C16_backoff_ge_min _ _ n h.2)

/-- a retry call: for the item `it`, which was due -/
def RetryOf (v0 : V) (it : Item) (c : Call) : Prop :=
  it.retryAt ≤ v0.now ∧ c.op = (if it.delete then "D" else "U") ∧ c.id = it.id ∧ c.data = it.obj.data

/-- from the retry phase on (`v4`: the state this phase began in) -/
structure Q2 (v0 v4 v : V) : Prop where
  now : v.now = v0.now
  cfg : v.cfg = v0.cfg
  log : LogExt (fun c => ∃ it ∈ v0.items, RetryOf v0 it c) v4.log v.log
  items : ∀ it ∈ v.items, IT4 v0 v.itRev v.itDelRev it

theorem Q1.toQ2 {v0 v : V} {rs : List Res} (h : Q1 v0 v rs) : Q2 v0 v v :=
  ⟨h.now, h.cfg, LogExt.refl _ _, fun it hit => (h.items it hit).imp_right fun b => Or.inr (Or.inl b)⟩

theorem q2_retry (v0 v4 : V) (hpos : PosB v0.cfg) : RetryStep fun v _ => Q2 v0 v4 v ∧ QT v0 v where
  step r h hd hqq := by
    obtain ⟨hq, hqt⟩ := hqq
    have hdue : h.retryAt ≤ v0.now := (show r.now = v0.now from hq.now) ▸ hd.due
    -- the head is an item the round began with, and no change was waiting for its object
    obtain ⟨h0, hns⟩ : h ∈ v0.items ∧ ¬ StaleV v0 h.id := by
      rcases hq.items h hd.mem with a | ⟨it, _, p⟩ | a | ⟨it, _, a⟩
      · refine ⟨a.mem, ?_⟩
        rintro (⟨o, ho, hid, hgt, hn⟩ | ⟨d, hd', hid, hgt⟩)
        · refine a.notConsumed (Or.inl ⟨o, ho, hid, hn, hgt, ?_⟩)
          rcases hqt.objsT o ho hn with b | b
          · exact hd.caughtUp.1 o b hn
          · exact b
        · exact a.notConsumed (Or.inr ⟨d, hd', hid, hgt, hd.caughtUp.2 d (hqt.delsT d hd')⟩)
      · have hq0 := hd.queued
        rw [p.eq, popItem_of_eq rfl] at hq0; cases hq0
      -- an item queued in this round has `retryAt = now + backoff > now`: it is not due
      · have := backoff_pos hpos 1; have := a.retryAt; omega
      · have := backoff_pos hpos (it.numRetries + 1); have := a.retryAt; omega
    refine ⟨⟨hq.now, hq.cfg, hq.log.snoc ⟨h, h0, hdue, rfl, hd.objId, rfl⟩, fun x hx => ?_⟩, hqt.objsT, hqt.delsT⟩
    simp only [single_itRev, single_itDelRev, pop_itRev, pop_itDelRev]
    rcases mem_pop_single hd.objId hx with ⟨hm, _⟩ | ⟨_, _, i, hi, hid, e⟩ | ⟨hdel, _, e⟩
    · exact hq.items x hm
    · rw [e, eq_of_id hd.inv.items_pw hi hd.mem hid]
      exact Or.inr (Or.inl ⟨h, h0, { notStale := hns, due := hdue, eq := rfl }⟩)
    · right; right; right
      rw [e, prevN_of_mem (items := r.v.items) hd.inv.items_pw hd.mem, prevO_of_mem (items := r.v.items) hd.inv.items_pw hd.mem]
      exact ⟨h, h0, { notStale := hns, id := hd.objId.symm, due := hdue, count := rfl, retryAt := retryAt_congr hq.now hq.cfg _,
                      origRev := rfl, delete := hdel.symm, obj := rfl, queued := rfl }⟩

theorem q2_commit (v0 v4 : V) : CommitSteps fun v rs => Q2 v0 v4 v ∧ RP v rs where
  drop v res rs hq := ⟨hq.1, rp_commit.drop v res rs hq.2⟩
  write r res rs cur hc hqq := by
    have hI := hc.inv
    refine ⟨?_, rp_commit.write r res rs cur hc hqq.2⟩
    obtain ⟨hq, hrp⟩ := hqq
    refine ⟨(commit_now ..).trans hq.now, (commit_cfg ..).trans hq.cfg, by rw [commit_log]; exact hq.log, ?_⟩
    simp only [commit_itRev, commit_itDelRev]
    intro x hx
    rcases (mem_commit_items ..).1 hx with ⟨hm, _⟩ | ⟨hf, e⟩
    · exact hq.items x hm
    · obtain ⟨i, hi, p, hid⟩ := hrp.requeued hI hf
      have hq0 := p.out
      have hobj := p.obj
      -- the popped item of this result
      obtain ⟨it, hit0, pp⟩ : PoppedIt v0 i := by
        rcases hq.items i hi with a | a | a | ⟨_, _, a⟩
        · rw [a.queued] at hq0; cases hq0
        · exact a
        · rw [a.queued] at hq0; cases hq0
        · rw [a.queued] at hq0; cases hq0
      have hdel : i.delete = false := ((hI.itemOK i hi).popped hq0).1
      right; right; right
      rw [e, ← hid, prevN_of_mem (items := r.v.items) hI.items_pw hi, prevO_of_mem (items := r.v.items) hI.items_pw hi]
      have ei := pp.eq
      subst ei
      simp only [popItem_id, popItem_delete, popItem_obj] at hid hdel hobj
      rw [popItem_numRetries, popItem_origRev]
      exact ⟨it, hit0, { notStale := pp.notStale, id := hid, due := pp.due, count := rfl, retryAt := retryAt_congr hq.now hq.cfg _,
                         origRev := rfl, delete := hdel.symm, obj := hobj.symm, queued := rfl }⟩

theorem round_q1 {r : R} (hr : RInv r) : Q1 r.v (tail4 (round3 r)).v [] :=
  commit_ind (q1_commit r.v) hr.single_mid.inv (round_ind (k1_steps r.v) hr (k1_init hr)).toQ1

theorem round_items_calls {r : R} (hr : RInv r) (hpos : PosB r.cfg) :
    (∃ L1 L2, r.round.log = r.log ++ L1 ++ L2 ∧ (∀ c ∈ L1, FirstAttempt r.v c) ∧
      (∀ c ∈ L2, ∃ it ∈ r.items, it.retryAt ≤ r.now ∧ c.op = (if it.delete then "D" else "U") ∧ c.id = it.id ∧ c.data = it.obj.data)) ∧
    (∀ it ∈ r.round.items, it ∈ r.items ∨ FreshIt r.v it ∨ AgainIt r.v it) := by
  obtain ⟨hI4, hcu4, hI5⟩ := tail_invL hr.single_mid
  have hq1 := round_q1 hr
  have hq5 := tail5_ind ((q2_retry r.v (tail4 (round3 r)).v hpos).and rp_retry) hI4 hcu4 ⟨⟨hq1.toQ2, hq1.t⟩, rp_nil _⟩
  have hq6 := tail6_ind (q2_commit r.v _) hI5 ⟨hq5.1.1, hq5.2⟩
  obtain ⟨L1, e1, f1⟩ := hq1.log
  obtain ⟨L2, e2, f2⟩ := hq6.1.log
  refine ⟨⟨L1, L2, by rw [round_log, ← v_log, e2, e1]; rfl, f1, f2⟩, fun it hit => ?_⟩
  have hit6 := hit
  rw [round_items, ← v_items] at hit6
  rcases hq6.1.items it hit6 with a | ⟨i, _, p⟩ | a | a
  · exact Or.inl a.mem
  · have := hr.round.items_queued it hit
    rw [p.eq, popItem_of_eq rfl] at this; cases this
  · exact Or.inr (Or.inl a)
  · exact Or.inr (Or.inr a)

/-- the calls of the retry phase: each is for an item whose retry time had come, and that time was
    at least one backoff after the failure that queued it -/
structure RTg (v0 v4 v : V) : Prop where
  now : v.now = v0.now
  cfg : v.cfg = v0.cfg
  log : LogExt (fun c => ∃ it : Item, RetryOf v0 it c ∧ 1 ≤ it.numRetries ∧
    backoff v0.cfg.minB v0.cfg.maxB it.numRetries ≤ it.retryAt) v4.log v.log

theorem rtg_retry (L0 : Nat) (v0 v4 : V) : RetryStep fun v rs => QX L0 v rs ∧ RTg v0 v4 v where
  step r h hd hq := by
    obtain ⟨hx, hg⟩ := hq
    have hik := hx.x.items h hd.mem
    have hnow : r.now = v0.now := hg.now
    exact ⟨(qx_retry L0).step r h hd hx,
      hg.now, hg.cfg, hg.log.snoc ⟨h, ⟨hnow ▸ hd.due, rfl, hd.objId, rfl⟩, hik.npos, hg.cfg ▸ hik.pace1⟩⟩

theorem round_calls_due {r : R} (hr : RInv r) (hx : XL r.v []) (hit : ItLe r) :
    ∃ L1 L2, r.round.log = r.log ++ L1 ++ L2 ∧ (∀ c ∈ L1, FirstAttempt r.v c) ∧
      (∀ c ∈ L2, ∃ it : Item, it.retryAt ≤ r.now ∧ 1 ≤ it.numRetries ∧ backoff r.cfg.minB r.cfg.maxB it.numRetries ≤ it.retryAt ∧
        c.op = (if it.delete then "D" else "U") ∧ c.id = it.id ∧ c.data = it.obj.data) := by
  obtain ⟨hI4, hcu4, _⟩ := tail_invL hr.single_mid
  have hq1 := round_q1 hr
  obtain ⟨L2, e2, f2⟩ := (tail5_ind (rtg_retry (roundLast r) r.v (tail4 (round3 r)).v) hI4 hcu4
    ⟨(xl_tail hr hx hit).at4, hq1.now, hq1.cfg, LogExt.refl _ _⟩).2.log
  obtain ⟨L1, e1, f1⟩ := hq1.log
  refine ⟨L1, L2, ?_, f1, fun c hc => ?_⟩
  · -- the second status commit logs nothing
    rw [round_log, show (tail6 (round3 r)).log = _ from commitStatus_log _, ← v_log, e2, e1]; rfl
  · obtain ⟨it, ⟨a1, a2, a3, a4⟩, a5, a6⟩ := f2 c hc
    exact ⟨it, a1, a5, a6, a2, a3, a4⟩

end Sdb.Rec
