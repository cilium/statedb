import SdbModel.Lemmas.ConcSimProg

/-!
  Program positions of the threads of `Model.Conc` INCLUDING the channel actions `notify` and `closeInit`.

  `ConcSimProg.strip` removes `notify` / `closeInit` because they do not touch what the simulation by
  `Model.Serial` talks about.  For the watch-channel and initializer properties they are the actions of
  interest, so the position analysis is repeated with a finer filter `strip2` (only parks, hooks,
  `dedupTables`, `commitIndexes`, `returnToPool` are dropped) and a finer shape predicate
  `Protocol.initShape`: it fixes where `collectInit`, `notify`, `closeInit` sit relative to `storeRoot` /
  `unlockRoot` / `unlockTables` and asks that `registerTable` stores the root immediately after choosing
  the watch channel of the new table (no hook in between: `adjActs`).  It holds of `Gen.protocol` by
  `decide` and tolerates additional hooks anywhere else.
-/
namespace Sdb.Conc

def relevantAct2 : Act → Bool
  | .hook _ | .dedupTables | .commitIndexes | .returnToPool => false
  | _ => true

def relevant2 : Micro → Bool
  | .park _ => false
  | .act a => relevantAct2 a
  | _ => true

def strip2 (l : List Micro) : List Micro := l.filter relevant2

/-- every `appendTable` is immediately followed by `storeRoot` -/
def adjActs : List Act → Bool
  | [] => true
  | a :: rest => (a != .appendTable || rest.head? == some .storeRoot) && adjActs rest

def adjOK : List Micro → Bool
  | [] => true
  | m :: rest => (m != .act .appendTable || rest.head? == some (.act .storeRoot)) && adjOK rest

/-- the order of ALL effectful steps of the four protocol functions -/
def Protocol.initShape (P : Protocol) : Bool :=
  P.simShape &&
  (P.writeTxn.filter relevantAct2 == [.lockTables, .loadRoot, .cloneRoot, .cloneEntries]) &&
  (P.commit.filter relevantAct2 ==
    [.lockRoot, .loadCurrentRoot, .mergeUnlocked, .collectInit, .storeRoot, .unlockRoot, .notify, .unlockTables,
     .closeInit]) &&
  (P.abort.filter relevantAct2 == [.unlockTables]) &&
  (P.register.filter relevantAct2 == [.lockRoot, .loadCurrentRoot, .appendTable, .storeRoot, .unlockRoot]) &&
  adjActs P.register

theorem initShape_gen : Gen.protocol.initShape = true := by decide

theorem initShape_simShape (P : Protocol) (h : P.initShape = true) : P.simShape = true := by
  simp only [Protocol.initShape, Bool.and_eq_true] at h
  exact h.1.1.1.1.1

/-- `Pos` with two more positions of a committing writer: `nt` before its `notify` (between `rR`
    and `rel 0`) and `fin` after its `closeInit` (which follows the unlock loop) -/
inductive Pos2 where
  | acq (k : Nat) | clR | clE | uw | aR | lc | mg | ci | sr | rR | nt | rel (k : Nat) | fin
  | gA | gL | gP | gS | gR | gE
  | dA | dL | dR
  deriving Repr, DecidableEq

/-- the unlock loop from table `k` on, then (commit) the closing of the init channels -/
def relTail (L : List Nat) (c : Bool) (k : Nat) : List Micro :=
  (L.drop k).map .release ++ (if c then [.act .closeInit] else [])

def afterWrites2 (c : Bool) : Pos2 := if c then .aR else .rel 0

def csTail (L : List Nat) (c : Bool) : List Micro :=
  .act .storeRoot :: .releaseRoot :: .act .notify :: relTail L c 0

def cEnd2 (L : List Nat) (c : Bool) : List Micro :=
  if c then .acquireRoot :: .act .loadCurrentRoot :: .act .mergeUnlocked :: .act .collectInit :: csTail L c
  else relTail L c 0

def code2 (L : List Nat) (c : Bool) : Pos2 → List Micro
  | .acq k => (L.drop k).map .acquire ++ (.act .loadRoot :: .act .cloneRoot :: .act .cloneEntries :: .userWrites :: cEnd2 L c)
  | .clR => .act .cloneRoot :: .act .cloneEntries :: .userWrites :: cEnd2 L c
  | .clE => .act .cloneEntries :: .userWrites :: cEnd2 L c
  | .uw => .userWrites :: cEnd2 L c
  | .aR => .acquireRoot :: .act .loadCurrentRoot :: .act .mergeUnlocked :: .act .collectInit :: csTail L c
  | .lc => .act .loadCurrentRoot :: .act .mergeUnlocked :: .act .collectInit :: csTail L c
  | .mg => .act .mergeUnlocked :: .act .collectInit :: csTail L c
  | .ci => .act .collectInit :: csTail L c
  | .sr => csTail L c
  | .rR => .releaseRoot :: .act .notify :: relTail L c 0
  | .nt => .act .notify :: relTail L c 0
  | .rel k => relTail L c k
  | .fin => []
  | .gA => [.acquireRoot, .act .loadCurrentRoot, .act .appendTable, .act .storeRoot, .releaseRoot]
  | .gL => [.act .loadCurrentRoot, .act .appendTable, .act .storeRoot, .releaseRoot]
  | .gP => [.act .appendTable, .act .storeRoot, .releaseRoot]
  | .gS => [.act .storeRoot, .releaseRoot]
  | .gR => [.releaseRoot]
  | .gE => []
  | .dA => [.acquireRoot, .act .loadCurrentRoot, .releaseRoot]
  | .dL => [.act .loadCurrentRoot, .releaseRoot]
  | .dR => [.releaseRoot]

theorem cEnd2_eq (L : List Nat) (c : Bool) : cEnd2 L c = code2 L c (afterWrites2 c) := by
  cases c <;> rfl

def next2 (L : List Nat) (c : Bool) : Pos2 → Option (Micro × Pos2)
  | .acq k => match L[k]? with
    | some tb => some (.acquire tb, .acq (k + 1))
    | none => some (.act .loadRoot, .clR)
  | .clR => some (.act .cloneRoot, .clE)
  | .clE => some (.act .cloneEntries, .uw)
  | .uw => some (.userWrites, afterWrites2 c)
  | .aR => some (.acquireRoot, .lc)
  | .lc => some (.act .loadCurrentRoot, .mg)
  | .mg => some (.act .mergeUnlocked, .ci)
  | .ci => some (.act .collectInit, .sr)
  | .sr => some (.act .storeRoot, .rR)
  | .rR => some (.releaseRoot, .nt)
  | .nt => some (.act .notify, .rel 0)
  | .rel k => match L[k]? with
    | some tb => some (.release tb, .rel (k + 1))
    | none => if c then some (.act .closeInit, .fin) else none
  | .fin => none
  | .gA => some (.acquireRoot, .gL)
  | .gL => some (.act .loadCurrentRoot, .gP)
  | .gP => some (.act .appendTable, .gS)
  | .gS => some (.act .storeRoot, .gR)
  | .gR => some (.releaseRoot, .gE)
  | .gE => none
  | .dA => some (.acquireRoot, .dL)
  | .dL => some (.act .loadCurrentRoot, .dR)
  | .dR => some (.releaseRoot, .gE)

theorem code2_next (L : List Nat) (c : Bool) (p : Pos2) :
    code2 L c p = (next2 L c p).elim [] fun mp => mp.1 :: code2 L c mp.2 := by
  cases p with
  | acq k =>
    simp only [next2]
    cases h : L[k]? with
    | some tb =>
      show code2 L c (.acq k) = .acquire tb :: code2 L c (.acq (k + 1))
      simp only [code2, LB.drop_of_getElem? L k tb h, List.map_cons, List.cons_append]
    | none =>
      show code2 L c (.acq k) = .act .loadRoot :: code2 L c .clR
      simp only [code2, LB.drop_of_getElem?_none L k h, List.map_nil, List.nil_append]
  | rel k =>
    simp only [next2]
    cases h : L[k]? with
    | some tb =>
      show code2 L c (.rel k) = .release tb :: code2 L c (.rel (k + 1))
      simp only [code2, relTail, LB.drop_of_getElem? L k tb h, List.map_cons, List.cons_append]
    | none =>
      have : code2 L c (.rel k) = if c then [.act .closeInit] else [] := by
        simp only [code2, relTail, LB.drop_of_getElem?_none L k h, List.map_nil, List.nil_append]
      rw [this]
      cases c <;> rfl
  | uw => show Micro.userWrites :: cEnd2 L c = Micro.userWrites :: code2 L c (afterWrites2 c); rw [cEnd2_eq]
  | _ => rfl

theorem strip2_eq_stripBy : strip2 = stripBy relevantAct2 := rfl

theorem pop_code2 (L : List Nat) (c : Bool) (p : Pos2) (m : Micro) (rest : List Micro)
    (h : strip2 (m :: rest) = code2 L c p) :
    (relevant2 m = false ∧ strip2 rest = code2 L c p) ∨
    (relevant2 m = true ∧ ∃ p', next2 L c p = some (m, p') ∧ strip2 rest = code2 L c p') :=
  pop_stripBy relevantAct2 (code2 L c) (next2 L c) (code2_next L c) p m rest h

theorem nil_code2 (L : List Nat) (c : Bool) (p : Pos2) (h : [] = code2 L c p) : next2 L c p = none :=
  next_none_of_nil (code2 L c) (next2 L c) (code2_next L c) p h

theorem mem_strip2 (m : Micro) (l : List Micro) (h : relevant2 m = true) : m ∈ strip2 l ↔ m ∈ l :=
  mem_stripBy relevantAct2 m l h

theorem initShape_parts (P : Protocol) (hP : P.initShape = true) : ShapeParts P relevantAct2
      [.lockRoot, .loadCurrentRoot, .mergeUnlocked, .collectInit, .storeRoot, .unlockRoot, .notify, .unlockTables,
       .closeInit] ∧
    adjActs P.register = true := by
  have hs := simShape_parts P (initShape_simShape P hP)
  simp only [Protocol.initShape, Bool.and_eq_true, beq_iff_eq] at hP
  obtain ⟨⟨⟨⟨⟨_, writeTxn⟩, commit⟩, abort⟩, register⟩, adj⟩ := hP
  exact ⟨⟨hs.sorts, hs.dedups, writeTxn, commit, abort, register⟩, adj⟩

theorem strip2_writerProg (P : Protocol) (hP : P.initShape = true) (tabs : List Nat) (c : Bool) :
    strip2 (writerProg P tabs c) = code2 (sortNat (dedup tabs)) c (.acq 0) := by
  have sh := (initShape_parts P hP).1
  cases c with
  | true =>
    refine (stripBy_writerProg relevantAct2 ⟨rfl, rfl, rfl, rfl⟩ P tabs true _ _ sh.writeTxn sh.commit).trans ?_
    simp only [List.flatMap_cons, List.flatMap_nil, stripBy_expand_lock, stripBy_expand_unlock, sh.sorts, sh.dedups,
      if_true, List.append_assoc]
    rfl
  | false =>
    refine (stripBy_writerProg relevantAct2 ⟨rfl, rfl, rfl, rfl⟩ P tabs false _ _ sh.writeTxn sh.abort).trans ?_
    simp only [List.flatMap_cons, List.flatMap_nil, stripBy_expand_lock, stripBy_expand_unlock, sh.sorts, sh.dedups,
      if_true, List.append_assoc]
    rfl

theorem strip2_registerProg (P : Protocol) (hP : P.initShape = true) (c : Bool) :
    strip2 (registerProg P) = code2 [] c .gA := by
  rw [strip2_eq_stripBy, stripBy_registerProg relevantAct2 ⟨rfl, rfl, rfl, rfl⟩, (initShape_parts P hP).1.register]
  rfl

theorem strip2_registerDupProg (P : Protocol) (hP : P.initShape = true) (c : Bool) :
    strip2 (registerDupProg P) = code2 [] c .dA :=
  stripBy_registerDupProg relevantAct2 ⟨rfl, rfl, rfl, rfl⟩ rfl P _ (initShape_parts P hP).1.register (by decide)

theorem adjOK_tail (m : Micro) (rest : List Micro) (h : adjOK (m :: rest) = true) : adjOK rest = true := by
  simp only [adjOK, Bool.and_eq_true] at h
  exact h.2

theorem adjOK_head (rest : List Micro) (h : adjOK (.act .appendTable :: rest) = true) :
    rest.head? = some (.act .storeRoot) := by
  simp only [adjOK, Bool.and_eq_true, Bool.or_eq_true, bne_iff_ne, ne_eq, not_true_eq_false, false_or,
    beq_iff_eq] at h
  exact h.1

theorem adjOK_append_of_no (a b : List Micro) (ha : Micro.act .appendTable ∉ a) (hb : adjOK b = true) :
    adjOK (a ++ b) = true := by
  induction a with
  | nil => exact hb
  | cons m rest ih =>
    simp only [List.mem_cons, not_or] at ha
    simp only [List.cons_append, adjOK, Bool.and_eq_true, Bool.or_eq_true, bne_iff_ne, ne_eq]
    exact ⟨Or.inl (fun e => ha.1 e.symm), ih ha.2⟩

theorem adjOK_of_no_append (l : List Micro) (h : Micro.act .appendTable ∉ l) : adjOK l = true := by
  have := adjOK_append_of_no l [] h rfl
  rwa [List.append_nil] at this

theorem appendTable_mem_expand (P : Protocol) (T : List Nat) (a : Act)
    (h : Micro.act .appendTable ∈ expand P T a) : a = .appendTable := by
  cases a <;> simp_all [expand]

theorem adjOK_flatMap (P : Protocol) (T : List Nat) (l : List Act) (h : adjActs l = true) :
    adjOK (l.flatMap (expand P T)) = true := by
  induction l with
  | nil => rfl
  | cons a rest ih =>
    simp only [adjActs, Bool.and_eq_true, Bool.or_eq_true, bne_iff_ne, ne_eq, beq_iff_eq] at h
    rw [List.flatMap_cons]
    by_cases ha : a = .appendTable
    · subst ha
      have hh : rest.head? = some .storeRoot := by
        rcases h.1 with h' | h'
        · exact absurd rfl h'
        · exact h'
      cases rest with
      | nil => simp at hh
      | cons b r =>
        simp only [List.head?_cons, Option.some.injEq] at hh
        subst hh
        have := ih h.2
        simp only [List.flatMap_cons] at this ⊢
        simp only [expand, List.cons_append, List.nil_append] at this ⊢
        simp only [adjOK, Bool.and_eq_true, Bool.or_eq_true, bne_iff_ne, ne_eq, beq_iff_eq]
        simp only [adjOK, Bool.and_eq_true, Bool.or_eq_true, bne_iff_ne, ne_eq, beq_iff_eq] at this
        exact ⟨Or.inr rfl, this⟩
    · apply adjOK_append_of_no _ _ _ (ih h.2)
      intro hm
      exact ha (appendTable_mem_expand P T a hm)

/-- a program without `appendTable`: read off its stripped form, in which that step would stay -/
theorem adjOK_of_strip2 (l : List Micro) (L : List Nat) (c : Bool) (p : Pos2) (h : strip2 l = code2 L c p)
    (hp : Micro.act .appendTable ∉ code2 L c p) : adjOK l = true :=
  adjOK_of_no_append l fun hm => hp (h ▸ (mem_strip2 _ l rfl).2 hm)

theorem adjOK_writerProg (P : Protocol) (hP : P.initShape = true) (tabs : List Nat) (c : Bool) :
    adjOK (writerProg P tabs c) = true :=
  adjOK_of_strip2 _ _ c _ (strip2_writerProg P hP tabs c) (by cases c <;> simp [code2, cEnd2, csTail, relTail])

theorem adjOK_registerProg (P : Protocol) (hP : P.initShape = true) : adjOK (registerProg P) = true := by
  unfold registerProg
  exact adjOK_append_of_no _ _ (by simp) (adjOK_flatMap P [] _ (initShape_parts P hP).2)

theorem adjOK_registerDupProg (P : Protocol) (hP : P.initShape = true) : adjOK (registerDupProg P) = true :=
  adjOK_of_strip2 _ [] false _ (strip2_registerDupProg P hP false) (by simp [code2])

end Sdb.Conc
