import SdbModel.Lemmas.ArtFrame

/-! The watch `prefixNode` hands out is a function `ppw` of the tree alone, and a path watch in the sense of `Chan`.
    A module of its own: `insKids_closes_prefix_mixed` has in its statement the `match` on the result of `insKids`
    that ArtFrame's `insKids_closes_mixed` has, and in one module Lean would elaborate it with that auxiliary
    matcher, to another term. -/
namespace Sdb.ArtW
open Sdb.Art


mutual
/-- the closest non-nil inner-node watch on the path of the prefix search for `q` -/
def ppw : Node → List Nat → Option Nat
  | .leaf _ _, _ => none
  | .inner _ p _ kids nw _, q =>
    if hasPrefix p q then nz nw
    else if hasPrefix q p then
      match q.drop p.length with
      | [] => nz nw
      | b :: r => (ppwK kids b (b :: r)).or (nz nw)
    else none
def ppwK : Kids → Nat → List Nat → Option Nat
  | .nil, _, _ => none
  | .cons c n r, b, q => if c = b then ppw n q else if c < b then ppwK r b q else none
end

theorem prefix_regime (p q : List Nat) :
    (hasPrefix q (p.take (min q.length p.length)) = true ↔ (hasPrefix p q = true ∨ hasPrefix q p = true)) ∧
    (hasPrefix p q = true → q.drop (p.take (min q.length p.length)).length = []) ∧
    (hasPrefix p q = false → hasPrefix q p = true →
      (p.take (min q.length p.length)) = p) := by
  induction p generalizing q with
  | nil => cases q <;> simp [hasPrefix]
  | cons a as ih =>
    cases q with
    | nil => simp [hasPrefix]
    | cons b bs =>
      obtain ⟨h1, h2, h3⟩ := ih bs
      have hm : min (b :: bs).length (a :: as).length = min bs.length as.length + 1 := by
        simp only [List.length_cons]; omega
      rw [hm]
      simp only [List.take_succ_cons, hasPrefix, Bool.and_eq_true, beq_iff_eq, List.length_cons,
        List.drop_succ_cons, Bool.and_eq_false_iff]
      refine ⟨?_, ?_, ?_⟩
      · constructor
        · rintro ⟨hab, h⟩
          rcases h1.mp h with h | h
          · exact Or.inl ⟨hab.symm, h⟩
          · exact Or.inr ⟨hab, h⟩
        · rintro (⟨hab, h⟩ | ⟨hab, h⟩)
          · exact ⟨hab.symm, h1.mpr (Or.inl h)⟩
          · exact ⟨hab, h1.mpr (Or.inr h)⟩
      · rintro ⟨_, h⟩; exact h2 h
      · intro hn ⟨hab, h⟩
        have : hasPrefix as bs = false := by
          rcases hn with hn | hn
          · simp [hab] at hn
          · exact hn
        rw [h3 this h]


theorem ppwChan : Chan false ppw ppwK where
  nil := fun _ _ => by rw [ppwK]
  cons := fun _ _ _ _ _ => by rw [ppwK]
  leaf := fun h => by rw [ppw] at h; cases h
  inner := fun {kind p lf kids nw t q c} h => by
    unfold ppw at h
    split at h
    · exact Or.inl h
    · split at h
      · rename_i hqp
        cases hk : List.drop p.length q with
        | nil => rw [hk] at h; exact Or.inl h
        | cons b r =>
          rw [hk] at h
          rcases Option.or_eq_some_iff.1 h with h' | ⟨_, h'⟩
          · exact Or.inr (Or.inr ⟨hqp, b, r, rfl, h'⟩)
          · exact Or.inl h'
      · cases h
  leaf_self := fun _ _ h => by cases h
  inner_self := fun _ _ _ _ _ _ h => by cases h
  deeper := fun _ p _ _ _ _ q b r hp hk => by
    have hlen : p.length < q.length := by
      have e : (List.drop p.length q).length = r.length + 1 := by rw [hk]; rfl
      rw [List.length_drop] at e; omega
    unfold ppw
    rw [if_neg (by rw [hasPrefix_false_of_length hlen]; exact Bool.false_ne_true), if_pos hp, hk]
  shift := fun n _ _ => by
    cases n <;> simp only [Node.setPfx, Node.pfx, ppw, hasPrefix_append_left, drop_append_same]

theorem prefixNode_leaf (p : List Nat) (d : LeafD) (w : Nat) (q : List Nat) :
    (prefixNode (.leaf p d) w q).2 = w := by
  unfold prefixNode
  simp only [Node.isLeaf, Node.pfx, Bool.not_true, Bool.false_eq_true, false_and, if_false]
  by_cases hp : hasPrefix q (List.take (min q.length p.length) p) = true
  · simp only [hp, Bool.not_true, Bool.false_eq_true, if_false]
    cases List.drop (List.take (min q.length p.length) p).length q <;> rfl
  · simp [hp]

theorem prefixK_find (b w : Nat) (q : List Nat) : (kids : Kids) →
    prefixK kids b w q = match kids.find b with
      | some n => prefixNode n w q
      | none => ([], w)
  | .nil => by simp only [prefixK, Kids.find]
  | .cons c n r => by
    rw [prefixK, Kids.find]
    split
    · rfl
    · split
      · exact prefixK_find b w q r
      · rfl

theorem prefix_eq_ppw : (n : Node) → (w : Nat) → (q : List Nat) → (prefixNode n w q).2 = (ppw n q).getD w := by
  intro n
  induction n using find_induct with
  | leaf p d => intro w q; rw [prefixNode_leaf]; rfl
  | inner kind p lf kids nw t ih =>
    intro w q
    obtain ⟨h1, h2, h3⟩ := prefix_regime p q
    unfold prefixNode ppw
    simp only [Node.pfx, Node.isLeaf, Node.watch, Bool.not_false, true_and]
    by_cases hpq : hasPrefix p q = true
    · have hcp := h1.mpr (Or.inl hpq)
      simp only [hcp, Bool.not_true, Bool.false_eq_true, if_false, hpq, if_true, h2 hpq, nz_getD]
    · have hpq' : hasPrefix p q = false := by simpa using hpq
      by_cases hqp : hasPrefix q p = true
      · have hcpe := h3 hpq' hqp
        simp only [Bool.not_true, Bool.false_eq_true, if_false, hpq, hqp, if_true, hcpe]
        cases hk : List.drop p.length q with
        | nil => simp only [nz_getD]
        | cons b r =>
          simp only
          rw [prefixK_find, ppwChan.kids_eq]
          cases hfind : kids.find b with
          | none => simp only [Option.bind_none, Option.none_or, nz_getD]
          | some n =>
            simp only [Option.bind_some]
            rw [ih b n hfind]
            cases ppw n (b :: r) with
            | some c => rfl
            | none => simp only [Option.none_or, Option.getD_none, nz_getD]
      · have hcp : ¬ hasPrefix q (List.take (min q.length p.length) p) = true := by
          intro h
          rcases h1.mp h with h | h
          · exact hpq h
          · exact hqp h
        simp [hcp, hpq, hqp]

theorem prefixK_eq_ppw : (kids : Kids) → (b w : Nat) → (q : List Nat) →
    (prefixK kids b w q).2 = (ppwK kids b q).getD w := by
  intro kids b w q
  rw [prefixK_find, ppwChan.kids_eq]
  cases kids.find b with
  | none => rfl
  | some n => exact prefix_eq_ppw n w q

theorem insKids_closes_prefix_mixed (P : ArtParams) (st : St) (B : Nat) : (kids : Kids) → (b : Nat) →
    (key full : List Nat) → (val : Nat) → (mod : Option (Nat → Nat → Nat)) → (q : List Nat) →
    InnerK (OFq st.txnID B) kids → hasPrefix key q = true →
    ∀ c, ppwK kids b q = some c →
    match insKids P st kids b key full val mod with
    | some (r, _) => B ≤ c ∨ c ∈ r.st.pending
    | none => B ≤ c :=
  fun kids b key full val mod q hs hkq c hc => by
    obtain ⟨r, kids', h, hr⟩ :=
      ppwChan.insKids_closes P st B kids b key full val mod q (hs.marks trivial) (fun _ => .of_prefix) hkq nofun c hc
    rw [h]; exact hr

theorem delKids_closes_prefix_mixed (P : ArtParams) (st : St) (B : Nat) : (kids : Kids) → (b : Nat) → (key : List Nat) →
    (q : List Nat) → (r : DelRes) → (kids' : Kids) → (st' : St) → InnerK (OFq st.txnID B) kids →
    hasPrefix key q = true → delKids P st kids b key = some (r, kids') → delSt r = some st' →
    ∀ c, ppwK kids b q = some c → B ≤ c ∨ c ∈ st'.pending :=
  fun kids b key q r kids' st' hs hkq =>
    ppwChan.delKids_closes P st B kids b key q r kids' st' (hs.marks trivial) hkq nofun

theorem insKids_pframe (P : ArtParams) (st : St) (B : Nat) : (kids : Kids) → (b' : Nat) →
    (key full : List Nat) → (val : Nat) → (mod : Option (Nat → Nat → Nat)) → (r : InsRes) → (kids' : Kids) →
    InnerK (OFq st.txnID B) kids → insKids P st kids b' key full val mod = some (r, kids') →
    ∀ b q2 c, ppwK kids b q2 = some c → B ≤ c ∨ c ∈ r.st.pending ∨ ppwK kids' b q2 = some c :=
  fun kids b' key full val mod r kids' hs => ppwChan.insKids_frame P st B kids b' key full val mod r kids' (hs.marks trivial)

theorem delKids_pframe (P : ArtParams) (st : St) (B : Nat) : (kids : Kids) → (b' : Nat) → (key : List Nat) →
    (r : DelRes) → (kids' : Kids) → (st' : St) → InnerK (OFq st.txnID B) kids →
    delKids P st kids b' key = some (r, kids') → delSt r = some st' →
    ∀ b q2 c, ppwK kids b q2 = some c → B ≤ c ∨ c ∈ st'.pending ∨ ppwK (delKidsOut r kids kids' b') b q2 = some c :=
  fun kids b' key r kids' st' hs => ppwChan.delKids_frame P st B kids b' key r kids' st' (hs.marks trivial)

end Sdb.ArtW
