import SdbModel.Lemmas.ConcSimProg
import SdbModel.Lemmas.ConcSimWrites
import SdbModel.Lemmas.Serial
import SdbModel.Lemmas.LockOrder

/-!
  The abstraction relation `R st s` between a state of `Model.Conc` and a state of `Model.Serial`.  Thread `tid`
  corresponds to transaction `tid` (a registration thread to a transaction without tables that never moves).  `R`
  says: the committed counters agree, the table-mutex owners agree, and every thread is at a program position `p`
  (`strip th.prog = code L c p`) that matches the phase of its transaction, with the private copies (`oldRoot`,
  `entries`, `curRoot`, `newRoot`) holding what the transaction loaded / is about to store (`Local`, `TRel`); the
  root mutex is held exactly by the thread inside its critical section.
-/
namespace Sdb.Conc
open Sdb.Serial (Txn Phase setTxn)

/-- the lock order of a thread: what `WriteTxn` + `SortableMutexes.Lock` (db.go) derive
    from the requested tables -/
def lockList (th : Thread) : List Nat := sortNat (dedup th.tables)

theorem lockList_congr (th th' : Thread) (h : th'.tables = th.tables) : lockList th' = lockList th := by
  simp only [lockList, h]

def inCS : Pos → Bool
  | .lc | .mg | .ci | .sr | .rR | .gL | .gP | .gS | .gR | .dL | .dR => true
  | _ => false

/-- the private copies hold the loaded counters (`+ d` after the user's writes) -/
def Holds (L : List Nat) (l : List TableV) (old : Nat → Nat) (d : Nat) : Prop :=
  ∀ x ∈ L, x < l.length ∧ (getT l x).cnt = old x + d

/-- what the thread record and its transaction look like at a position -/
def Local (root : List TableV) (th : Thread) (t : Txn) : Pos → Prop
  | .acq k => t.phase = .acquiring k ∧ k ≤ (lockList th).length
  | .clR => t.phase = .loaded ∧ Holds (lockList th) th.oldRoot t.old 0
  | .clE => t.phase = .loaded ∧ Holds (lockList th) th.oldRoot t.old 0 ∧ Holds (lockList th) th.entries t.old 0
  | .uw => t.phase = .loaded ∧ Holds (lockList th) th.oldRoot t.old 0 ∧ th.locked = dedup th.tables ∧
      Holds (lockList th) th.entries t.old 0
  | .aR => t.phase = .loaded ∧ Holds (lockList th) th.oldRoot t.old 0 ∧ t.commit = true ∧
      th.locked = dedup th.tables ∧ Holds (lockList th) th.entries t.old 1
  | .lc => t.phase = .loaded ∧ Holds (lockList th) th.oldRoot t.old 0 ∧ t.commit = true ∧
      th.locked = dedup th.tables ∧ Holds (lockList th) th.entries t.old 1
  | .mg => t.phase = .loaded ∧ Holds (lockList th) th.oldRoot t.old 0 ∧ t.commit = true ∧
      th.locked = dedup th.tables ∧ Holds (lockList th) th.entries t.old 1 ∧
      th.curRoot = root
  | .ci => t.phase = .loaded ∧ Holds (lockList th) th.oldRoot t.old 0 ∧ t.commit = true ∧
      th.locked = dedup th.tables ∧ th.newRoot.length = root.length ∧
      ∀ x, x < root.length → (x ∈ lockList th → (getT th.newRoot x).cnt = t.old x + 1) ∧
        (x ∉ lockList th → getT th.newRoot x = getT root x)
  | .sr => t.phase = .loaded ∧ Holds (lockList th) th.oldRoot t.old 0 ∧ t.commit = true ∧
      th.locked = dedup th.tables ∧ th.newRoot.length = root.length ∧
      ∀ x, x < root.length → (x ∈ lockList th → (getT th.newRoot x).cnt = t.old x + 1) ∧
        (x ∉ lockList th → getT th.newRoot x = getT root x)
  | .rR => t.phase = .stored ∧ t.released = 0 ∧ t.commit = true
  | .rel k => k ≤ (lockList th).length ∧ t.released = k ∧
      t.phase = (if th.done then Phase.done else Phase.stored) ∧ (th.done = true → th.prog = [])
  | .gA => th.tables = [] ∧ t.phase = .acquiring 0
  | .gL => th.tables = [] ∧ t.phase = .acquiring 0
  | .gP => th.tables = [] ∧ t.phase = .acquiring 0 ∧ th.curRoot = root
  | .gS => th.tables = [] ∧ t.phase = .acquiring 0 ∧ ∃ v : TableV, th.newRoot = root ++ [v] ∧ v.cnt = 0
  | .gR => th.tables = [] ∧ t.phase = .acquiring 0
  | .gE => th.tables = [] ∧ t.phase = .acquiring 0
  | .dA => th.tables = [] ∧ t.phase = .acquiring 0
  | .dL => th.tables = [] ∧ t.phase = .acquiring 0
  | .dR => th.tables = [] ∧ t.phase = .acquiring 0

def TRel (root : List TableV) (mu : Option Nat) (nlock : Nat) (tid : Nat) (th : Thread) (t : Txn) : Prop :=
  t.tabs = lockList th ∧ (∀ x ∈ lockList th, x < root.length ∧ x < nlock) ∧
  ∃ p, strip th.prog = code (lockList th) t.commit p ∧ (mu = some tid ↔ inCS p = true) ∧ Local root th t p

theorem TRel.tabs {root : List TableV} {mu : Option Nat} {nlock tid : Nat} {th : Thread} {t : Txn}
    (h : TRel root mu nlock tid th t) : t.tabs = lockList th := h.1

theorem TRel.bound {root : List TableV} {mu : Option Nat} {nlock tid : Nat} {th : Thread} {t : Txn}
    (h : TRel root mu nlock tid th t) : ∀ x ∈ lockList th, x < root.length ∧ x < nlock := h.2.1

theorem TRel.pos {root : List TableV} {mu : Option Nat} {nlock tid : Nat} {th : Thread} {t : Txn}
    (h : TRel root mu nlock tid th t) :
    ∃ p, strip th.prog = code (lockList th) t.commit p ∧ (mu = some tid ↔ inCS p = true) ∧ Local root th t p := h.2.2

theorem TRel.at {root : List TableV} {mu : Option Nat} {nlock tid : Nat} {th : Thread} {t : Txn} (p : Pos)
    (htabs : t.tabs = lockList th) (hb : ∀ x ∈ lockList th, x < root.length ∧ x < nlock)
    (hp : strip th.prog = code (lockList th) t.commit p) (hcs : mu = some tid ↔ inCS p = true)
    (hl : Local root th t p) : TRel root mu nlock tid th t :=
  ⟨htabs, hb, p, hp, hcs, hl⟩

structure R (st : State) (s : Serial.State) : Prop where
  len : s.txns.length = st.threads.length
  root : ∀ i, i < st.root.length → (getT st.root i).cnt = s.root i
  rootHi : ∀ i, st.root.length ≤ i → s.root i = 0
  owner : ∀ i, st.lockOwner.getD i none = s.owner i
  thr : ∀ tid th, st.threads[tid]? = some th →
    ∃ t, s.txns[tid]? = some t ∧ TRel st.root st.rootMu st.lockOwner.length tid th t
  muLt : ∀ j, st.rootMu = some j → j < st.threads.length

theorem getD_set_opt (l : List (Option Nat)) (t i : Nat) (v : Option Nat) :
    (l.set t v).getD i none = if i = t ∧ t < l.length then v else l.getD i none :=
  LB.getD_set l t i v none

/-- `Local` reads the committed root only inside the critical section, where the root mutex keeps other threads out -/
theorem TRel_frame (root root' : List TableV) (mu mu' : Option Nat) (n tid : Nat) (th : Thread) (t : Txn)
    (h : TRel root mu n tid th t) (hlen : root.length ≤ root'.length)
    (hmu : mu' = some tid ↔ mu = some tid) (hroot : root' = root ∨ mu ≠ some tid) :
    TRel root' mu' n tid th t := by
  obtain ⟨p, hp, hcs, hl⟩ := h.pos
  refine .at p h.tabs (fun x hx => ⟨Nat.lt_of_lt_of_le (h.bound x hx).1 hlen, (h.bound x hx).2⟩) hp (hmu.trans hcs) ?_
  rcases hroot with rfl | hne
  · exact hl
  · have hncs : inCS p = false := by
      cases h : inCS p with
      | false => rfl
      | true => exact absurd (hcs.2 h) hne
    cases p <;> first | exact hl | simp [inCS] at hncs

theorem TRel_congr (root : List TableV) (mu : Option Nat) (n tid : Nat) (th th' : Thread) (t : Txn)
    (h : TRel root mu n tid th t) (hp : strip th'.prog = strip th.prog) (htables : th'.tables = th.tables)
    (hdone : th'.done = th.done) (hlocked : th'.locked = th.locked) (hold : th'.oldRoot = th.oldRoot)
    (hentries : th'.entries = th.entries) (hcur : th'.curRoot = th.curRoot) (hnew : th'.newRoot = th.newRoot)
    (hnil : th.prog = [] → th'.prog = []) :
    TRel root mu n tid th' t := by
  obtain ⟨p, hpp, hcs, hl⟩ := h.pos
  have hL := lockList_congr th th' htables
  refine .at p (by rw [hL]; exact h.tabs) (by rw [hL]; exact h.bound) (by rw [hL, hp]; exact hpp) hcs ?_
  -- the two records agree in every field `Local` reads, except `prog` at `.rel`
  cases th; cases th'
  cases htables; cases hdone; cases hlocked; cases hold; cases hentries; cases hcur; cases hnew
  cases p <;> first
    | exact hl
    | exact ⟨hl.1, hl.2.1, hl.2.2.1, fun hd => hnil (hl.2.2.2 hd)⟩

/-- the other threads are covered by the frame lemma, so only the shared-state agreement and the stepping
    thread itself remain -/
theorem R_update (st st' : State) (s s' : Serial.State) (tid : Nat) (th th' : Thread) (t t' : Txn)
    (hR : R (install st tid th) s) (htid : tid < st.threads.length)
    (hthreads : st'.threads = st.threads)
    (ht : s.txns[tid]? = some t) (htx : s'.txns = setTxn s.txns tid t')
    (hroot : ∀ i, i < st'.root.length → (getT st'.root i).cnt = s'.root i)
    (hrootHi : ∀ i, st'.root.length ≤ i → s'.root i = 0)
    (howner : ∀ i, st'.lockOwner.getD i none = s'.owner i)
    (hnl : st'.lockOwner.length = st.lockOwner.length)
    (hrl : st.root.length ≤ st'.root.length)
    (hmu : ∀ j, j ≠ tid → (st'.rootMu = some j ↔ st.rootMu = some j))
    (hfr : st'.root = st.root ∨ st.rootMu = some tid)
    (hown : TRel st'.root st'.rootMu st'.lockOwner.length tid th' t') :
    R (install st' tid th') s' := by
  have hget := fun j => Serial.getElem?_setTxn s.txns tid j t' ⟨t, ht⟩
  constructor
  · have := hR.len
    rw [install_length] at this ⊢
    rw [htx, hthreads]; simpa [setTxn] using this
  · exact hroot
  · exact hrootHi
  · exact howner
  · intro j thj hj
    have htid' : tid < st'.threads.length := hthreads ▸ htid
    by_cases hjt : j = tid
    · subst hjt
      rw [install_own _ _ _ htid'] at hj; cases hj
      exact ⟨t', by rw [htx, hget]; simp, hown⟩
    · rw [install_other _ _ _ htid' hjt, hthreads] at hj
      obtain ⟨tj, htj, hrel⟩ := hR.thr j thj ((install_other st tid th htid hjt).trans hj)
      refine ⟨tj, by rw [htx, hget, if_neg hjt]; exact htj, ?_⟩
      replace hrel : TRel st.root st.rootMu st.lockOwner.length j thj tj := hrel
      show TRel st'.root st'.rootMu st'.lockOwner.length j thj tj
      rw [hnl]
      refine TRel_frame _ _ _ _ _ _ _ _ hrel hrl (hmu j hjt) ?_
      rcases hfr with h | h
      · exact Or.inl h
      · right; rw [h]; intro e; simp only [Option.some.injEq] at e; exact hjt e.symm
  · intro j hj
    rw [install_length, hthreads]
    by_cases hjt : j = tid
    · rw [hjt]; exact htid
    · exact install_length st tid th ▸ hR.muLt j ((hmu j hjt).1 hj)

theorem R_own (st : State) (s : Serial.State) (tid : Nat) (th : Thread)
    (hR : R (install st tid th) s) (htid : tid < st.threads.length) :
    ∃ t, s.txns[tid]? = some t ∧ TRel st.root st.rootMu st.lockOwner.length tid th t :=
  hR.thr tid th (install_own st tid th htid)

theorem mem_lockList (th : Thread) (x : Nat) : x ∈ lockList th ↔ x ∈ th.tables :=
  (lockOrder_ascending th.tables).2 x

theorem mem_lockList_of_dedup (th : Thread) (x : Nat) (h : x ∈ dedup th.tables) : x ∈ lockList th :=
  (mem_lockList th x).2 ((mem_dedup x _).1 h)

theorem lockList_nil (th : Thread) (h : th.tables = []) : lockList th = [] := by
  simp [lockList, h, dedup, sortNat]

theorem mem_cEnd (L : List Nat) (c : Bool) :
    (∀ i, Micro.acquire i ∉ cEnd L c) ∧ (∀ i, Micro.release i ∈ cEnd L c ↔ i ∈ L) ∧
    (c = true → Micro.act .storeRoot ∈ cEnd L c) := by
  cases c <;> simp [cEnd]

theorem suffix_cEnd (L : List Nat) (c : Bool) :
    code L c (.rel 0) <:+ cEnd L c ∧ (c = true → code L c .sr <:+ cEnd L c) := by
  cases c
  · exact ⟨List.suffix_refl _, nofun⟩
  · exact ⟨List.suffix_append _ _, fun _ => ⟨[_, _, _, _], rfl⟩⟩

/-- the remaining program of a writer that holds all its tables and has neither stored nor aborted -/
structure Working (L : List Nat) (c : Bool) (prog : List Micro) : Prop where
  noAcquire : ∀ i, Micro.acquire i ∉ prog
  release : ∀ i, Micro.release i ∈ prog ↔ i ∈ L
  store : c = true → Micro.act .storeRoot ∈ prog

theorem Working.of_suffix {L : List Nat} {c : Bool} {prog : List Micro} (hle : ∃ c', prog <:+ code L c' .clR)
    (hge : code L c (.rel 0) <:+ prog) (hsr : c = true → code L c .sr <:+ prog) : Working L c prog := by
  obtain ⟨c', hle⟩ := hle
  obtain ⟨c1, c2, _⟩ := mem_cEnd L c'
  refine ⟨fun i hm => ?_, fun i => ⟨fun hm => ?_, fun hm => ?_⟩, fun hc => ?_⟩
  · have := hle.subset hm; simp [code, c1] at this
  · have := hle.subset hm; simpa [code, c2] using this
  · exact hge.subset (by simpa [code] using hm)
  · exact (hsr hc).subset (List.mem_cons_self ..)

theorem Local.stage {root : List TableV} {th : Thread} {t : Txn} {p : Pos} (hl : Local root th t p) :
    (∃ k, p = .acq k) ∨
    (t.phase = .loaded ∧ Holds (lockList th) th.oldRoot t.old 0 ∧
      Working (lockList th) t.commit (code (lockList th) t.commit p)) ∨
    p = .rR ∨ (∃ k, p = .rel k) ∨
    (th.tables = [] ∧ t.phase = .acquiring 0 ∧
      ∀ i, Micro.release i ∉ code (lockList th) t.commit p ∧ Micro.acquire i ∉ code (lockList th) t.commit p) := by
  obtain ⟨tail, tailS⟩ := suffix_cEnd (lockList th) t.commit
  -- the programs of a registration are final parts of those at `gA` and `dA`
  have noLock : ∀ {prog}, prog <:+ code (lockList th) t.commit .gA ∨ prog <:+ code (lockList th) t.commit .dA →
      ∀ i, Micro.release i ∉ prog ∧ Micro.acquire i ∉ prog := fun h i => by
    rcases h with h | h <;> constructor <;> intro hm <;> have := h.subset hm <;> simp [code] at this
  have cs : ∃ c', code (lockList th) t.commit .aR <:+ code (lockList th) c' .clR := ⟨true, [_, _, _], rfl⟩
  cases p
  case acq k => exact .inl ⟨k, rfl⟩
  case rR => exact .inr (.inr (.inl rfl))
  case rel k => exact .inr (.inr (.inr (.inl ⟨k, rfl⟩)))
  case clR =>
    exact .inr (.inl ⟨hl.1, hl.2, .of_suffix ⟨_, [], rfl⟩ (tail.trans ⟨[_, _, _], rfl⟩)
      fun hc => (tailS hc).trans ⟨[_, _, _], rfl⟩⟩)
  case clE =>
    exact .inr (.inl ⟨hl.1, hl.2.1, .of_suffix ⟨_, [_], rfl⟩ (tail.trans ⟨[_, _], rfl⟩)
      fun hc => (tailS hc).trans ⟨[_, _], rfl⟩⟩)
  case uw =>
    exact .inr (.inl ⟨hl.1, hl.2.1, .of_suffix ⟨_, [_, _], rfl⟩ (tail.trans ⟨[_], rfl⟩)
      fun hc => (tailS hc).trans ⟨[_], rfl⟩⟩)
  case aR => exact .inr (.inl ⟨hl.1, hl.2.1, .of_suffix (cs.imp fun _ => .trans ⟨[], rfl⟩) ⟨[_, _, _, _, _, _], rfl⟩ fun _ => ⟨[_, _, _, _], rfl⟩⟩)
  case lc => exact .inr (.inl ⟨hl.1, hl.2.1, .of_suffix (cs.imp fun _ => .trans ⟨[_], rfl⟩) ⟨[_, _, _, _, _], rfl⟩ fun _ => ⟨[_, _, _], rfl⟩⟩)
  case mg => exact .inr (.inl ⟨hl.1, hl.2.1, .of_suffix (cs.imp fun _ => .trans ⟨[_, _], rfl⟩) ⟨[_, _, _, _], rfl⟩ fun _ => ⟨[_, _], rfl⟩⟩)
  case ci => exact .inr (.inl ⟨hl.1, hl.2.1, .of_suffix (cs.imp fun _ => .trans ⟨[_, _, _], rfl⟩) ⟨[_, _, _], rfl⟩ fun _ => ⟨[_], rfl⟩⟩)
  case sr => exact .inr (.inl ⟨hl.1, hl.2.1, .of_suffix (cs.imp fun _ => .trans ⟨[_, _, _, _], rfl⟩) ⟨[_, _], rfl⟩ fun _ => ⟨[], rfl⟩⟩)
  case gP => exact .inr (.inr (.inr (.inr ⟨hl.1, hl.2.1, noLock (.inl ⟨[_, _], rfl⟩)⟩)))
  case gS => exact .inr (.inr (.inr (.inr ⟨hl.1, hl.2.1, noLock (.inl ⟨[_, _, _], rfl⟩)⟩)))
  case gA => exact .inr (.inr (.inr (.inr ⟨hl.1, hl.2, noLock (.inl ⟨[], rfl⟩)⟩)))
  case gL => exact .inr (.inr (.inr (.inr ⟨hl.1, hl.2, noLock (.inl ⟨[_], rfl⟩)⟩)))
  case gR => exact .inr (.inr (.inr (.inr ⟨hl.1, hl.2, noLock (.inl ⟨[_, _, _, _], rfl⟩)⟩)))
  case gE => exact .inr (.inr (.inr (.inr ⟨hl.1, hl.2, noLock (.inl ⟨[_, _, _, _, _], rfl⟩)⟩)))
  case dA => exact .inr (.inr (.inr (.inr ⟨hl.1, hl.2, noLock (.inr ⟨[], rfl⟩)⟩)))
  case dL => exact .inr (.inr (.inr (.inr ⟨hl.1, hl.2, noLock (.inr ⟨[_], rfl⟩)⟩)))
  case dR => exact .inr (.inr (.inr (.inr ⟨hl.1, hl.2, noLock (.inr ⟨[_, _], rfl⟩)⟩)))

end Sdb.Conc
