import SdbModel.Lemmas.Lpm

/-! `preorder` is strictly ascending in `keyLt`.  `lowerBound` splits it at the query; where the Go code decides
    by `bytes.Compare` on encoded keys, `cmpL_fork` shows that the byte order and `keyLt` agree on keys that
    fork inside both prefixes. -/
namespace Sdb.Lpm
variable {α : Type}

/-- the iteration order: compare the (zero-extended) prefix bits lexicographically, then the prefix length -/
def keyLt (d1 : List Nat) (p1 : Nat) (d2 : List Nat) (p2 : Nat) : Prop :=
  (∃ i, Agree d1 d2 i ∧ getBitAt d1 i < getBitAt d2 i) ∨ ((∀ j, getBitAt d1 j = getBitAt d2 j) ∧ p1 < p2)

theorem agree_or_first_diff (a b : List Nat) :
    (∀ j, getBitAt a j = getBitAt b j) ∨ ∃ i, Agree a b i ∧ getBitAt a i ≠ getBitAt b i := by
  refine Classical.or_iff_not_imp_left.mpr fun h => ?_
  obtain ⟨j, hj⟩ := Classical.not_forall.mp h
  induction j using Nat.strongRecOn with
  | _ j ih =>
    by_cases hk : ∃ k, k < j ∧ getBitAt a k ≠ getBitAt b k
    · obtain ⟨k, hk, hne⟩ := hk
      exact ih k hk hne
    · exact ⟨j, fun k hkj => Classical.not_not.mp fun hne => hk ⟨k, hkj, hne⟩, hj⟩

theorem keyLt_irrefl (d : List Nat) (p : Nat) : ¬ keyLt d p d p := by
  rintro (⟨i, _, h⟩ | ⟨_, h⟩) <;> omega

theorem keyLt_trans {d1 : List Nat} {p1 : Nat} {d2 : List Nat} {p2 : Nat} {d3 : List Nat} {p3 : Nat}
    (h12 : keyLt d1 p1 d2 p2) (h23 : keyLt d2 p2 d3 p3) : keyLt d1 p1 d3 p3 := by
  rcases h12 with ⟨i, a1, l1⟩ | ⟨e1, l1⟩ <;> rcases h23 with ⟨k, a2, l2⟩ | ⟨e2, l2⟩
  · rcases Nat.lt_trichotomy i k with h | h | h
    · exact Or.inl ⟨i, a1.trans (a2.mono (by omega)), by rw [← a2 i h]; exact l1⟩
    · subst h; exact Or.inl ⟨i, a1.trans a2, by omega⟩
    · exact Or.inl ⟨k, (a1.mono (by omega)).trans a2, by rw [a1 k h]; exact l2⟩
  · exact Or.inl ⟨i, fun j hj => (a1 j hj).trans (e2 j), by rw [← e2 i]; exact l1⟩
  · exact Or.inl ⟨k, fun j hj => (e1 j).trans (a2 j hj), by rw [e1 k]; exact l2⟩
  · exact Or.inr ⟨fun j => (e1 j).trans (e2 j), by omega⟩

theorem keyLt_asymm {d1 : List Nat} {p1 : Nat} {d2 : List Nat} {p2 : Nat}
    (h : keyLt d1 p1 d2 p2) : ¬ keyLt d2 p2 d1 p1 :=
  fun h' => keyLt_irrefl _ _ (keyLt_trans h h')

theorem keyLt_total {d1 : List Nat} {p1 : Nat} {d2 : List Nat} {p2 : Nat}
    (h1 : Canon d1 p1) (h2 : Canon d2 p2) :
    keyLt d1 p1 d2 p2 ∨ (d1 = d2 ∧ p1 = p2) ∨ keyLt d2 p2 d1 p1 := by
  rcases agree_or_first_diff d1 d2 with he | ⟨i, ha, hne⟩
  · rcases Nat.lt_trichotomy p1 p2 with hl | rfl | hl
    · exact Or.inl (Or.inr ⟨he, hl⟩)
    · exact Or.inr (Or.inl ⟨canon_ext _ _ _ h1 h2 (fun j _ => he j), rfl⟩)
    · exact Or.inr (Or.inr (Or.inr ⟨fun j => (he j).symm, hl⟩))
  · rcases Nat.lt_or_gt_of_ne hne with hl | hl
    · exact Or.inl (Or.inl ⟨i, ha, hl⟩)
    · exact Or.inr (Or.inr (Or.inl ⟨i, ha.symm, hl⟩))

theorem keyLt_of_covers {d : List Nat} {p : Nat} {d' : List Nat} {p' : Nat}
    (hc : Canon d p) (hlt : p < p') (ha : Agree d d' p) : keyLt d p d' p' := by
  rcases agree_or_first_diff d d' with he | ⟨i, hi, hne⟩
  · exact Or.inr ⟨he, hlt⟩
  · have hz := hc.zeros i (Nat.le_of_not_lt fun hn => hne (ha i hn))
    exact Or.inl ⟨i, hi, by omega⟩

theorem keyLt_of_fork {d1 : List Nat} {p1 : Nat} {d2 : List Nat} {p2 m : Nat}
    (ha : Agree d1 d2 m) (hb : getBitAt d1 m < getBitAt d2 m) : keyLt d1 p1 d2 p2 :=
  Or.inl ⟨m, ha, hb⟩

theorem not_keyLt_of_covered {data : List Nat} {plen : Nat} {d' : List Nat} {p' : Nat}
    (hq : Canon data plen) (hle : plen ≤ p') (ha : Agree data d' plen) : ¬ keyLt d' p' data plen := by
  rintro (⟨i, hi, hl⟩ | ⟨_, hl⟩)
  · by_cases hip : i < plen
    · have := ha i hip; omega
    · have := hq.zeros i (by omega); omega
  · omega

theorem not_keyLt_of_fork_gt {data : List Nat} {plen : Nat} {d' : List Nat} {p' m : Nat}
    (ha : Agree d' data m) (hb : getBitAt data m < getBitAt d' m) : ¬ keyLt d' p' data plen :=
  keyLt_asymm (keyLt_of_fork ha.symm hb)

def entryLt (e1 e2 : List Nat × Nat × α) : Prop := keyLt e1.1 e1.2.1 e2.1 e2.2.1

theorem preorder_sorted : ∀ (t : Trie α), WF t → (preorder t).Pairwise entryLt := by
  intro t
  induction t with
  | nil => intro _; simp [preorder]
  | node d p v c0 c1 ih0 ih1 =>
    intro hwf
    obtain ⟨hcn, _, hB0, hB1, hw0, hw1⟩ := hwf
    have h01 : ∀ a ∈ preorder c0, ∀ b ∈ preorder c1, entryLt a b := by
      intro a ha b hb
      have ka := hB0.mem a ha
      have kb := hB1.mem b hb
      exact keyLt_of_fork (m := p) (ka.agree.symm.trans kb.agree) (by rw [ka.bit, kb.bit]; decide)
    simp only [preorder]
    rw [List.append_assoc, List.pairwise_append]
    refine ⟨?_, List.pairwise_append.mpr ⟨ih0 hw0, ih1 hw1, h01⟩, ?_⟩
    · cases v <;> simp
    · intro a ha b hb
      cases v with
      | none => simp at ha
      | some x =>
        simp only [List.mem_singleton] at ha
        subst ha
        rcases List.mem_append.mp hb with hb | hb
        · exact keyLt_of_covers hcn (hB0.mem b hb).lt (hB0.mem b hb).agree
        · exact keyLt_of_covers hcn (hB1.mem b hb).lt (hB1.mem b hb).agree

theorem cmpL_first_diff : ∀ (a b : List Nat) (i : Nat), (∀ x ∈ a, x < 256) → (∀ x ∈ b, x < 256) →
    Agree a b i → i < 8 * a.length → i < 8 * b.length → getBitAt a i < getBitAt b i → cmpL a b = .lt := by
  intro a
  induction a with
  | nil => intro b i _ _ _ h; simp at h
  | cons x as ih =>
    intro b i hx hy hag hia hib hlt
    cases b with
    | nil => simp at hib
    | cons y bs =>
      rw [cmpL_cons_cons]
      by_cases hi : i < 8
      · have : x < y := by
          apply byte_lt_of_bits x y i (hx x (by simp)) (hy y (by simp)) hi
          · intro j hj
            have := hag j hj
            rwa [getBitAt_cons_lt _ _ _ (by omega), getBitAt_cons_lt _ _ _ (by omega)] at this
          · rwa [getBitAt_cons_lt _ _ _ hi, getBitAt_cons_lt _ _ _ hi] at hlt
        rw [if_pos this]
      · have hxy : x = y := by
          apply byte_ext x y (hx x (by simp)) (hy y (by simp))
          intro j hj
          have := hag j (by omega)
          rwa [getBitAt_cons_lt _ _ _ hj, getBitAt_cons_lt _ _ _ hj] at this
        subst hxy
        rw [if_neg (by omega), if_neg (by omega)]
        obtain ⟨k, rfl⟩ : ∃ k, i = k + 8 := ⟨i - 8, by omega⟩
        apply ih bs k (fun z hz => hx z (List.mem_cons_of_mem _ hz)) (fun z hz => hy z (List.mem_cons_of_mem _ hz))
        · intro j hj
          have := hag (j + 8) (by omega)
          rwa [getBitAt_cons_add, getBitAt_cons_add] at this
        · simp at hia; omega
        · simp at hib; omega
        · rwa [getBitAt_cons_add, getBitAt_cons_add] at hlt

theorem cmpL_fork {nd : List Nat} {npl : Nat} {data : List Nat} {plen ml : Nat} (hcn : Canon nd npl)
    (hq : Canon data plen) (hag : Agree nd data ml) (h1 : ml < plen) (h2 : ml < npl) :
    (getBitAt nd ml < getBitAt data ml → cmpL (nd ++ be 2 npl) data = .lt) ∧
    (getBitAt data ml < getBitAt nd ml → cmpL (nd ++ be 2 npl) data = .gt) := by
  have hnk := key_lt_256 hcn.bytes npl
  have hlen := hcn.le_len
  have hag' : Agree (nd ++ be 2 npl) data ml := fun j hj =>
    (getBitAt_nodeKey nd npl j hlen (by omega)).trans (hag j hj)
  have hbk := getBitAt_nodeKey nd npl ml hlen h2
  have hl1 : ml < 8 * (nd ++ be 2 npl).length := by rw [List.length_append]; omega
  have hl2 : ml < 8 * data.length := by have := hq.le_len; omega
  refine ⟨fun hb => cmpL_first_diff _ _ ml hnk hq.bytes hag' hl1 hl2 (hbk ▸ hb), fun hb => ?_⟩
  rw [cmpL_swap, cmpL_first_diff _ _ ml hq.bytes hnk hag'.symm hl2 hl1 (hbk ▸ hb)]; rfl

theorem lowerBound_spec (data : List Nat) (plen : Nat) (hq : Canon data plen) :
    ∀ (t : Trie α) (s : Nat), WF t → Pre s data plen t → ∀ pend : List (Trie α),
      ∃ pre suf, preorder t = pre ++ suf ∧
        lowerBound data plen t s pend = suf ++ pend.flatMap preorder ∧
        (∀ e ∈ pre, keyLt e.1 e.2.1 data plen) ∧ (∀ e ∈ suf, ¬ keyLt e.1 e.2.1 data plen) := by
  refine walk_ind hq (fun s pend => ⟨[], [], rfl, rfl, nofun, nofun⟩) ?_
  intro nd npl nv c0 c1 s ml hwf hml hag hc pend
  have hcov := mem_covered hwf
  have ⟨hcn, himg, hB0, hB1, hw0, hw1⟩ := hwf
  simp only [lowerBound, hml]
  refine hc.elim_covered (fun e1 hle => ?covered) (fun hp hn hne => ?fork) (fun e1 hlt ih0 ih1 => ?descend)
  case covered =>
    subst e1
    rw [if_pos rfl]
    refine ⟨[], _, rfl, rfl, nofun, fun e he => ?_⟩
    have k : Covers data ml e.1 e.2.1 := Covers.trans ⟨hle, hag.symm⟩ (hcov e he)
    exact not_keyLt_of_covered hq k.le k.agree
  case fork =>
    -- the whole subtree lies on one side of the query, as `bytes.Compare` finds out
    rw [if_neg (Nat.ne_of_lt hp), if_pos hn]
    obtain ⟨clt, cgt⟩ := cmpL_fork hcn hq hag hp hn
    have hfork : ∀ e ∈ preorder (.node nd npl nv c0 c1), Agree e.1 data ml ∧ getBitAt e.1 ml = getBitAt nd ml :=
      fun e he => ⟨((hcov e he).agree.mono (Nat.le_of_lt hn)).symm.trans hag, ((hcov e he).agree ml hn).symm⟩
    rcases Nat.lt_or_ge (getBitAt nd ml) (getBitAt data ml) with hb | hb
    · refine ⟨_, [], (List.append_nil _).symm, by rw [clt hb]; rfl, fun e he => ?_, nofun⟩
      exact keyLt_of_fork (hfork e he).1 ((hfork e he).2 ▸ hb)
    · have hb' : getBitAt data ml < getBitAt nd ml := by omega
      refine ⟨[], _, rfl, by rw [cgt hb']; rfl, nofun, fun e he => ?_⟩
      exact not_keyLt_of_fork_gt (hfork e he).1 ((hfork e he).2 ▸ hb')
  case descend =>
    subst e1
    rw [if_neg (Nat.ne_of_lt hlt), if_neg (Nat.lt_irrefl _)]
    have hself : ∀ e ∈ selfEntry nd ml nv, keyLt e.1 e.2.1 data plen := by
      intro e he
      obtain ⟨_, e1, e2⟩ := mem_selfEntry.mp he
      rw [e1, e2]; exact keyLt_of_covers hcn hlt hag
    by_cases hbit : getBitAt data ml = 0
    · rw [if_pos hbit]
      obtain ⟨pre, suf, hsplit, hlb, hpre, hsuf⟩ := ih0 (if c1.isNil then pend else c1 :: pend)
      refine ⟨selfEntry nd ml nv ++ pre, suf ++ preorder c1, ?_, ?_, ?_, ?_⟩
      · rw [preorder_node, hsplit]; simp only [List.append_assoc]
      · rw [hlb]
        cases c1 with
        | nil => simp [Trie.isNil, preorder]
        | node => simp [Trie.isNil]
      · exact fun e he => (List.mem_append.mp he).elim (hself e) (hpre e)
      · refine fun e he => (List.mem_append.mp he).elim (hsuf e) fun he => ?_
        have k := hB1.mem e he
        exact not_keyLt_of_fork_gt (k.agree.symm.trans hag) (by rw [k.bit, hbit]; decide)
    · rw [if_neg hbit]
      obtain ⟨pre, suf, hsplit, hlb, hpre, hsuf⟩ := ih1 pend
      refine ⟨selfEntry nd ml nv ++ preorder c0 ++ pre, suf, ?_, hlb, ?_, hsuf⟩
      · rw [preorder_node, hsplit]; simp only [List.append_assoc]
      · refine fun e he => (List.mem_append.mp he).elim (fun he => (List.mem_append.mp he).elim (hself e) fun he => ?_) (hpre e)
        have k := hB0.mem e he
        exact keyLt_of_fork (k.agree.symm.trans hag) (by rw [k.bit, getBitAt_eq_one hbit]; decide)

theorem prefixNode_spec (data : List Nat) (plen : Nat) (hq : Canon data plen) :
    ∀ (t : Trie α) (s : Nat), WF t → Pre s data plen t →
      preorder (prefixNode data plen t s) =
        (preorder t).filter (fun e => decide (Covers data plen e.1 e.2.1)) := by
  refine walk_ind hq (fun s => rfl) ?_
  intro nd npl nv c0 c1 s ml hwf hml hag hc
  have hcov := mem_covered hwf
  have ⟨hcn, himg, hB0, hB1, hw0, hw1⟩ := hwf
  simp only [prefixNode, hml]
  refine hc.elim_covered (fun e1 hle => ?covered) (fun hp hn hne => ?fork) (fun e1 hlt ih0 ih1 => ?descend)
  case covered =>
    subst e1
    rw [if_pos rfl]
    refine (List.filter_eq_self.mpr fun e he => ?_).symm
    exact decide_eq_true (Covers.trans ⟨hle, hag.symm⟩ (hcov e he))
  case fork =>
    rw [if_neg (Nat.ne_of_lt hp), if_pos hn]
    refine (List.filter_eq_nil_iff.mpr fun e he => ?_).symm
    rw [decide_eq_true_eq]
    exact fun k => hne (((hcov e he).agree ml hn).trans (k.agree ml hp).symm)
  case descend =>
    subst e1
    rw [if_neg (Nat.ne_of_lt hlt), if_neg (Nat.lt_irrefl _)]
    have hself : (selfEntry nd ml nv).filter (fun e => decide (Covers data plen e.1 e.2.1)) = [] := by
      refine List.filter_eq_nil_iff.mpr fun e he => ?_
      obtain ⟨_, _, e2⟩ := mem_selfEntry.mp he
      rw [decide_eq_true_eq]
      exact fun k => Nat.not_le_of_lt hlt (e2 ▸ k.le)
    have hother : ∀ (b : Nat) (c : Trie α), AllKeys (Below nd ml b) c → getBitAt data ml ≠ b →
        (preorder c).filter (fun e => decide (Covers data plen e.1 e.2.1)) = [] := by
      intro b c hB hb
      refine List.filter_eq_nil_iff.mpr fun e he => ?_
      rw [decide_eq_true_eq]
      exact (hB.mem e he).not_covered hb hlt
    rw [preorder_node, List.filter_append, List.filter_append, hself, List.nil_append]
    by_cases hbit : getBitAt data ml = 0
    · rw [if_pos hbit, hother 1 c1 hB1 (by omega), List.append_nil]
      exact ih0
    · rw [if_neg hbit, hother 0 c0 hB0 hbit, List.nil_append]
      exact ih1

end Sdb.Lpm
