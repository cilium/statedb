import SdbModel.Lemmas.Serial

/-! The lock order `Model.Conc` derives from a requested table list — de-duplicate,
    then sort by sequence number — is strictly ascending and has the same members,
    whatever order and duplicates the caller used.  This discharges the
    `Ascending` premise of `Serial.Step.spawn` for the threads of `Model.Conc`. -/
namespace Sdb.Conc
open Sdb.Serial

theorem insertSorted_eq_merge (x : Nat) (l : List Nat) : insertSorted x l = [x].merge l fun a b => a ≤ b := by
  induction l <;> simp [insertSorted, List.cons_merge_cons, *]

theorem sortNat_eq_isort (l : List Nat) : sortNat l = LB.isort (fun a b => a ≤ b) l :=
  congrArg (fun f => l.foldr f []) (funext fun x => funext (insertSorted_eq_merge x))

theorem mem_sortNat (y : Nat) (l : List Nat) : y ∈ sortNat l ↔ y ∈ l :=
  sortNat_eq_isort l ▸ (LB.perm_isort _ l).mem_iff

theorem mem_dedup (y : Nat) (l : List Nat) : y ∈ dedup l ↔ y ∈ l := by
  induction l with
  | nil => simp [dedup]
  | cons x xs ih =>
    simp only [dedup, List.mem_cons, List.mem_filter, ih]
    by_cases hyx : y = x <;> simp [hyx]

theorem nodup_dedup (l : List Nat) : (dedup l).Nodup := by
  induction l with
  | nil => simp [dedup]
  | cons x xs ih =>
    simp only [dedup, List.nodup_cons, List.mem_filter]
    exact ⟨by simp, List.Pairwise.filter _ ih⟩

theorem sortNat_ascending (l : List Nat) (h : l.Nodup) : Ascending (sortNat l) := by
  rw [ascending_iff_pairwise, sortNat_eq_isort]
  exact LB.pairwise_lt_isort id h

theorem lockOrder_ascending (tabs : List Nat) :
    Ascending (sortNat (dedup tabs)) ∧ ∀ y, y ∈ sortNat (dedup tabs) ↔ y ∈ tabs :=
  ⟨sortNat_ascending _ (nodup_dedup tabs), fun y => by rw [mem_sortNat, mem_dedup]⟩

end Sdb.Conc
