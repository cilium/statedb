import SdbModel.Lemmas.ConcInitUpd

/-!
  The micro steps of `Model.Conc` one by one, all but the two `storeRoot` steps (`ConcInitStore`): each
  preserves the channel / initializer invariant `CI`, and what it does to the committed root and the closed
  channels is one of the alternatives of `Eff` (together: `StepCI`).  `At` is the hypothesis the step
  lemmas share: thread `tid` stands at position `p` with next step `m`.  The steps here need no mutual exclusion.
-/
namespace Sdb.Conc

/-- what one micro step of a thread (records `th`, `th'`, commit flag `c`) does to the committed root
    and the closed list; each alternative that changes one of them also records where the thread
    stands and what its record says at that moment, for the invariants about committed writers -/
inductive Eff (st st' : State) (th th' : Thread) (c : Bool) : Prop where
  | quiet : st'.root = st.root → st'.closed = st.closed →
      (Micro.act .storeRoot ∈ th'.prog ↔ Micro.act .storeRoot ∈ th.prog) →
      (Micro.act .notify ∈ th'.prog ↔ Micro.act .notify ∈ th.prog) →
      (Micro.act .closeInit ∈ th'.prog ↔ Micro.act .closeInit ∈ th.prog) → Eff st st' th th' c
  | commit : c = true → st'.closed = st.closed → Micro.act .storeRoot ∈ th.prog → Micro.act .storeRoot ∉ th'.prog →
      Micro.userWrites ∉ th.prog →
      st'.root.length = st.root.length →
      (∀ x ∈ lockList th, Micro.release x ∈ th.prog ∧ Micro.acquire x ∉ th.prog) →
      (∀ x, x < st.root.length →
        (x ∈ lockList th → getT th.oldRoot x = getT st.root x ∧
          (∃ n, getT th.entries x = uwEntry (th.regInit.contains x) (th.markInit.contains x) n (getT st.root x)) ∧
          getT st'.root x = clr (getT th.entries x)) ∧
        (x ∉ lockList th → getT st'.root x = getT st.root x)) →
      th.prog.head? = some (.act .storeRoot) → Eff st st' th th' c
  | register : th.tables = [] → st'.closed = st.closed → Micro.act .storeRoot ∈ th.prog →
      Micro.act .storeRoot ∉ th'.prog → st'.root = st.root ++ [{ watch := st.nextChan }] →
      th.prog.head? = some (.act .storeRoot) → Eff st st' th th' c
  | notify : c = true → st'.root = st.root → st'.closed = st.closed ++ th.toNotify →
      Micro.act .notify ∈ th.prog → Micro.act .notify ∉ th'.prog → Micro.act .storeRoot ∉ th.prog →
      Micro.userWrites ∉ th.prog →
      th.toNotify = (dedup th.tables).map (fun x => (getT th.oldRoot x).watch) →
      (∀ x ∈ lockList th, Micro.release x ∈ th.prog ∧ Micro.acquire x ∉ th.prog) →
      (∀ x ∈ lockList th, getT st.root x = clr (getT th.entries x)) →
      th.prog.head? = some (.act .notify) → Eff st st' th th' c
  | closeInit : c = true → st'.root = st.root → st'.closed = st.closed ++ th.initToClose →
      Micro.act .closeInit ∈ th.prog → Micro.act .closeInit ∉ th'.prog → Micro.act .storeRoot ∉ th.prog →
      Micro.act .notify ∉ th.prog → Micro.userWrites ∉ th.prog →
      (∀ x, Micro.release x ∉ th.prog) →
      th.initToClose = toClose th.entries (dedup th.tables) →
      th.prog.head? = some (.act .closeInit) → Eff st st' th th' c

theorem Eff.root_len {st st' : State} {th th' : Thread} {c : Bool} (h : Eff st st' th th' c) :
    st.root.length ≤ st'.root.length := by
  cases h with
  | quiet hroot | notify _ hroot | closeInit _ hroot => rw [hroot]; exact Nat.le_refl _
  | register _ _ _ _ hroot => rw [hroot, List.length_append]; exact Nat.le_add_right _ _
  | commit _ _ _ _ _ hlen => rw [hlen]; exact Nat.le_refl _

theorem Eff.closed_mono {st st' : State} {th th' : Thread} {c : Bool} (h : Eff st st' th th' c) (w : Nat)
    (hw : w ∈ st.closed) : w ∈ st'.closed := by
  cases h with
  | quiet _ hclosed | commit _ hclosed | register _ hclosed => rw [hclosed]; exact hw
  | notify _ _ hclosed | closeInit _ _ hclosed => rw [hclosed]; exact List.mem_append_left _ hw

/-- what the step lemmas establish -/
structure StepCI (st st' : State) (cs : List Bool) (tid : Nat) (th th' : Thread) (c : Bool) : Prop where
  ci : CI (install st' tid th') cs (some tid)
  eff : Eff st st' th th' c
  frame : EffFrame th th' c

theorem iff_of_pop (m a : Micro) (rest : List Micro) (h : a ≠ m) : a ∈ rest ↔ a ∈ m :: rest := by
  simp only [List.mem_cons]
  constructor
  · exact Or.inr
  · rintro (e | e)
    · exact absurd e h
    · exact e

/-- the micro steps whose presence in the program defines the phases of `priv` -/
def tracked (m : Micro) : Prop :=
  m = .userWrites ∨ m = .act .storeRoot ∨ m = .act .notify ∨ m = .act .closeInit

theorem priv_congr (th th' : Thread) (c : Bool) (w : Nat)
    (hmem : ∀ m, tracked m → (m ∈ th'.prog ↔ m ∈ th.prog)) (hfr : EffFrame th th' c)
    (h : priv th' c w) : priv th c w := by
  have huw := hmem .userWrites (Or.inl rfl)
  have hst := hmem (.act .storeRoot) (Or.inr (Or.inl rfl))
  have hnt := hmem (.act .notify) (Or.inr (Or.inr (Or.inl rfl)))
  have hcl := hmem (.act .closeInit) (Or.inr (Or.inr (Or.inr rfl)))
  rcases h with ⟨⟨h1, h2⟩, x, hx, hf⟩ | ⟨h1, h2, h3, h4⟩ | ⟨h1, h2, h3, h4⟩
  · left
    rw [huw] at h1; rw [hst] at h2
    obtain ⟨e2, e1⟩ := hfr.written h1
    refine ⟨⟨h1, h2⟩, x, by rw [← lockList_congr th th' hfr.tables]; exact hx, ?_⟩
    unfold freshOf at hf ⊢
    rw [e1, e2] at hf; exact hf
  · right; left
    rw [hst] at h2; rw [hnt] at h3
    exact ⟨h1, h2, h3, by rw [← (hfr.stored h1 h2).1]; exact h4⟩
  · right; right
    rw [hst] at h2; rw [hcl] at h3
    exact ⟨h1, h2, h3, by rw [← (hfr.stored h1 h2).2]; exact h4⟩

theorem FI_congr (th th' : Thread) (c : Bool)
    (hmem : ∀ m, tracked m → (m ∈ th'.prog ↔ m ∈ th.prog)) (hfr : EffFrame th th' c)
    (h : FI th c) : FI th' c := by
  have huw := hmem .userWrites (Or.inl rfl)
  have hst := hmem (.act .storeRoot) (Or.inr (Or.inl rfl))
  intro ⟨h1, h2⟩ x hx y hy hxy w fx fy
  rw [huw] at h1; rw [hst] at h2
  obtain ⟨e2, e1⟩ := hfr.written h1
  rw [lockList_congr th th' hfr.tables] at hx hy
  unfold freshOf at fx fy
  rw [e1, e2] at fx fy
  exact h ⟨h1, h2⟩ x hx y hy hxy w fx fy

/-- `Loc` does not read the program, except that at `gS` its head is `storeRoot` -/
theorem Loc_pop (root : List TableV) (nc : Nat) (th : Thread) (c : Bool) (p : Pos2) (m : Micro) (rest : List Micro)
    (r : Option (List TableV)) (hprog : th.prog = m :: rest) (hm : m ≠ .act .storeRoot)
    (h : Loc root nc th c p) : Loc root nc { th with prog := rest, result := r } c p := by
  cases p with
  | gS =>
    have hh := h.gS_head
    rw [hprog] at hh
    exact absurd (Option.some.inj hh) hm
  | _ => exact h

/-- thread `tid` (record `th`, flag `c`) of a state with `CI` stands at position `p`; `m` is its next step -/
structure At (st : State) (cs : List Bool) (tid : Nat) (th : Thread) (c : Bool) (m : Micro) (rest : List Micro)
    (p : Pos2) : Prop where
  ci : CI (install st tid th) cs (some tid)
  lt : tid < st.threads.length
  flag : cs[tid]? = some c
  prog : th.prog = m :: rest
  pos : strip2 th.prog = code2 (lockList th) c p
  bound : ∀ x ∈ lockList th, x < st.root.length
  adj : adjOK th.prog = true
  loc : Loc st.root st.nextChan th c p

namespace At
variable {st : State} {cs : List Bool} {tid : Nat} {th : Thread} {c : Bool} {m : Micro} {rest : List Micro} {p : Pos2}
  (S : At st cs tid th c m rest p)
include S

theorem own : (install st tid th).threads[tid]? = some th := install_own st tid th S.lt

theorem sub (x : Micro) (hx : x ∈ rest) : x ∈ th.prog := by
  rw [S.prog]; exact List.mem_cons_of_mem _ hx

theorem pop (r : Option (List TableV)) : EffFrame th { th with prog := rest, result := r } c := .same S.sub

/-- the thread's own clause of `CI` after the step -/
theorem ok {root' : List TableV} {nc' : Nat} {th' : Thread} {p' : Pos2} (hprog' : th'.prog = rest)
    (htab : th'.tables = th.tables) (hlen : st.root.length ≤ root'.length)
    (hstrip : strip2 rest = code2 (lockList th) c p') (hl' : Loc root' nc' th' c p') : ThreadOK root' nc' th' c := by
  have hL := lockList_congr th th' htab
  have hadj := S.adj
  rw [S.prog] at hadj
  exact .at p' (fun x hx => Nat.lt_of_lt_of_le (S.bound x (hL ▸ hx)) hlen) (by rw [hprog']; exact adjOK_tail _ _ hadj)
    (by rw [hprog', hL]; exact hstrip) hl'

end At

section
variable {st st' : State} {cs : List Bool} {tid : Nat} {th th' : Thread} {c : Bool} {m : Micro} {rest : List Micro}
  {p p' : Pos2}

theorem CI_pop (S : At st cs tid th c m rest p) (hm : ¬ tracked m) (hprog' : th'.prog = rest) (hfr : EffFrame th th' c)
    (hthreads : st'.threads = st.threads) (hroot : st'.root = st.root) (hclosed : st'.closed = st.closed)
    (hnc : st'.nextChan = st.nextChan)
    (hstrip : strip2 rest = code2 (lockList th) c p') (hl' : Loc st.root st.nextChan th' c p') :
    StepCI st st' cs tid th th' c := by
  have hmem : ∀ m', tracked m' → (m' ∈ th'.prog ↔ m' ∈ th.prog) := fun m' hm' => by
    rw [hprog', S.prog]; exact iff_of_pop m m' rest (fun e => hm (e ▸ hm'))
  refine ⟨?_, .quiet hroot hclosed (hmem _ (Or.inr (Or.inl rfl))) (hmem _ (Or.inr (Or.inr (Or.inl rfl))))
    (hmem _ (Or.inr (Or.inr (Or.inr rfl)))), hfr⟩
  exact CI_quiet st st' cs tid th th' c S.ci S.lt S.flag hthreads hroot hclosed hnc
    (fun w hw => priv_congr th th' c w hmem hfr hw) (FI_congr th th' c hmem hfr (S.ci.FIc tid th c S.own S.flag)) hfr
    (S.ok hprog' hfr.tables (Nat.le_refl _) hstrip hl')

theorem not_tracked_act (a : Act) (h1 : a ≠ .storeRoot) (h2 : a ≠ .notify) (h3 : a ≠ .closeInit) :
    ¬ tracked (.act a) := by
  rintro (h | h | h | h)
  · simp at h
  · simp only [Micro.act.injEq] at h; exact h1 h
  · simp only [Micro.act.injEq] at h; exact h2 h
  · simp only [Micro.act.injEq] at h; exact h3 h

theorem mstep_move (st : State) (tid : Nat) (th : Thread) (st' : State) (th' : Thread) (m : Micro) (rest : List Micro)
    (hprog : th.prog = m :: rest) (hm : ∀ a, m ≠ .act a) (hu : m ≠ .userWrites)
    (h : mstep st tid th = some (st', th')) :
    th' = { th with prog := rest } ∧ st'.threads = st.threads ∧ st'.root = st.root ∧ st'.closed = st.closed ∧
      st'.nextChan = st.nextChan := by
  have h := mstep_cons hprog h
  cases m with
  | act a => exact absurd rfl (hm a)
  | userWrites => exact absurd rfl hu
  | acquire _ | acquireRoot => cases h.2; exact ⟨rfl, rfl, rfl, rfl, rfl⟩
  | _ => cases h; exact ⟨rfl, rfl, rfl, rfl, rfl⟩

theorem CI_move (S : At st cs tid th c m rest p) (hm : ∀ a, m ≠ .act a) (hu : m ≠ .userWrites)
    (h : mstep st tid th = some (st', th')) (hstrip : strip2 rest = code2 (lockList th) c p')
    (hll : ∀ th', Loc st.root st.nextChan th' c p → Loc st.root st.nextChan th' c p') :
    StepCI st st' cs tid th th' c := by
  obtain ⟨rfl, hthreads, hroot, hclosed, hnc⟩ := mstep_move st tid th st' th' m rest S.prog hm hu h
  have hnt : ¬ tracked m := by
    rintro (rfl | rfl | rfl | rfl)
    · exact hu rfl
    all_goals exact hm _ rfl
  exact CI_pop S hnt rfl (S.pop th.result) hthreads hroot hclosed hnc hstrip
    (hll _ (Loc_pop _ _ th c p m rest th.result S.prog (hm _) S.loc))

theorem CI_act {a : Act} (S : At st cs tid th c (.act a) rest p) (h1 : a ≠ .storeRoot) (h2 : a ≠ .notify)
    (h3 : a ≠ .closeInit) (hprog' : th'.prog = rest) (hfr : EffFrame th th' c)
    (hstrip : strip2 rest = code2 (lockList th) c p') (hl' : Loc st.root st.nextChan th' c p') :
    StepCI st st cs tid th th' c :=
  CI_pop S (not_tracked_act a h1 h2 h3) hprog' hfr rfl rfl rfl rfl hstrip hl'

theorem CI_mergeUnlocked (S : At st cs tid th c (.act .mergeUnlocked) rest .mg)
    (hstrip : strip2 rest = code2 (lockList th) c .ci) :
    StepCI st st cs tid th { th with prog := rest, newRoot := mergedRoot th } c := by
  obtain ⟨hct, hseen, hwr, hcur⟩ := S.loc
  exact CI_act S (by simp) (by simp) (by simp) rfl (.same S.sub) hstrip
    ⟨hct, hseen, hwr, hcur, mergedRoot_spec th hwr.locked_eq fun _ => hwr.lt_entries⟩

theorem CI_collectInit (S : At st cs tid th c (.act .collectInit) rest .ci)
    (hstrip : strip2 rest = code2 (lockList th) c .sr) :
    StepCI st st cs tid th { th with prog := rest, initToClose := collected th, newRoot := clearedRoot th } c := by
  obtain ⟨hct, hseen, hwr, hcur, hmg1, hmg2⟩ := S.loc
  have hsr : Micro.act .storeRoot ∈ th.prog := (tracked_of_pos th _ c _ S.pos).storeRoot.2 rfl
  refine CI_act S (by simp) (by simp) (by simp) rfl
    ⟨rfl, rfl, rfl, S.sub, fun _ => ⟨rfl, rfl⟩, fun _ h => absurd hsr h⟩ hstrip ?_
  have hlk := hwr.locked_eq
  refine ⟨hct, hseen, hwr, hcur, ⟨?_, fun x hx => ?_⟩, ?_⟩
  · show (clearedRoot th).length = th.curRoot.length
    simp [clearedRoot, hmg1]
  · show (x ∈ lockList th → getT (clearedRoot th) x = clr (getT th.entries x)) ∧
      (x ∉ lockList th → getT (clearedRoot th) x = getT th.curRoot x)
    rw [getT_clearedRoot th x (hmg1 ▸ hx)]
    constructor
    · intro hxl; rw [if_pos ((mem_locked_of th hlk x).2 hxl), (hmg2 x hx).1 hxl]
    · intro hxl; rw [if_neg (mt (mem_locked_of th hlk x).1 hxl), (hmg2 x hx).2 hxl]
  · show collected th = toClose th.entries (dedup th.tables)
    rw [collected_eq_toClose, hlk]
    refine toClose_congr _ _ _ fun i hi => ?_
    have hil : i ∈ lockList th := (mem_lockList th i).2 ((mem_dedup i _).1 hi)
    exact (hmg2 i (by rw [hcur]; exact S.bound i hil)).1 hil

/-! ### the user's writes: new private channels -/

theorem Loc_nc (root : List TableV) (nc nc' : Nat) (th : Thread) (c : Bool) (p : Pos2) (hp : p ≠ .gS)
    (h : Loc root nc th c p) : Loc root nc' th c p := by
  cases p <;> first | exact h | exact absurd rfl hp

theorem freshOf_range (th : Thread) (x n : Nat) (w : Nat)
    (he : getT th.entries x = uwEntry (th.regInit.contains x) (th.markInit.contains x) n (getT th.oldRoot x))
    (h : freshOf th x w) : n ≤ w ∧ w < n + uwAlloc (th.regInit.contains x) (getT th.oldRoot x) := by
  unfold freshOf at h
  rw [he] at h
  unfold uwEntry uwAlloc at *
  rcases h with h | ⟨h1, h2, h3⟩
  · simp only at h
    split <;> omega
  · simp only at h1
    split at h1
    · rename_i hc; rw [if_pos hc]; omega
    · omega

theorem CI_userWrites (S : At st cs tid th c .userWrites rest .uw)
    (hstrip : strip2 rest = code2 (lockList th) c (afterWrites2 c)) :
    StepCI st (doUserWrites st { th with prog := rest }).1 cs tid th (doUserWrites st { th with prog := rest }).2 c := by
  obtain ⟨hseen, hent, hlk⟩ := S.loc
  have hCI := S.ci
  have hnd : ({ th with prog := rest } : Thread).locked.Nodup := by
    show th.locked.Nodup; rw [hlk]; exact nodup_dedup _
  obtain ⟨⟨f, hf⟩, htn, hrec⟩ := doUserWrites_full st { th with prog := rest } hnd
  generalize hst' : (doUserWrites st { th with prog := rest }).1 = st' at *
  generalize hth' : (doUserWrites st { th with prog := rest }).2 = th' at *
  have e_prog : th'.prog = rest := by rw [hrec]
  have e_tab : th'.tables = th.tables := by rw [hrec]
  have e_old : th'.oldRoot = th.oldRoot := by rw [hrec]
  have e_reg : th'.regInit = th.regInit := by rw [hrec]
  have e_mark : th'.markInit = th.markInit := by rw [hrec]
  have e_lk : th'.locked = th.locked := by rw [hrec]
  have hL : lockList th' = lockList th := lockList_congr th th' e_tab
  have hentry : ∀ x ∈ lockList th, x < th.oldRoot.length ∧
      st.nextChan ≤ f x ∧ f x + uwAlloc (th.regInit.contains x) (getT th.oldRoot x) ≤ st'.nextChan ∧
      getT th'.entries x = uwEntry (th.regInit.contains x) (th.markInit.contains x) (f x) (getT th.oldRoot x) := by
    intro x hx
    have hxl : x ∈ th.locked := (mem_locked_of th hlk x).2 hx
    have hxo := (hseen x hx).1
    obtain ⟨b1, b2⟩ := hf.bound x hxl
    have b3 := hf.entry x hxl (by show x < th.entries.length; rw [hent]; exact hxo)
    simp only [hent] at b1 b2 b3
    exact ⟨hxo, b1, b2, b3⟩
  have hrange : ∀ x ∈ lockList th, ∀ w, freshOf th' x w →
      f x ≤ w ∧ w < f x + uwAlloc (th.regInit.contains x) (getT th.oldRoot x) := by
    intro x hx w hfx
    have := freshOf_range th' x (f x) w (by rw [e_reg, e_mark, e_old]; exact (hentry x hx).2.2.2) hfx
    rwa [e_reg, e_old] at this
  have hsrIn : c = true → Micro.act .storeRoot ∈ rest := by
    intro hct
    rw [← mem_strip2 _ _ (by rfl), hstrip, hct]
    simp [afterWrites2, code2, csTail]
  -- every private channel of the thread after the writes is newly allocated
  have K : ∀ w, priv th' c w → st.nextChan ≤ w ∧ w < st'.nextChan := by
    intro w hw
    rcases hw with ⟨_, x, hx, hfx⟩ | ⟨h1, h2, _⟩ | ⟨h1, h2, _⟩
    · rw [hL] at hx
      obtain ⟨_, b1, b2, _⟩ := hentry x hx
      have := hrange x hx w hfx
      omega
    · rw [e_prog] at h2; exact absurd (hsrIn h1) h2
    · rw [e_prog] at h2; exact absurd (hsrIn h1) h2
  have hroot := hf.root
  have hclosed := hf.closed
  have hsr0 : c = true → Micro.act .storeRoot ∈ th.prog := fun hct => S.sub _ (hsrIn hct)
  have pop : ∀ a, (Micro.act a ∈ th'.prog ↔ Micro.act a ∈ th.prog) := fun a => by
    rw [e_prog, S.prog]; exact iff_of_pop _ _ rest Micro.noConfusion
  have hfr : EffFrame th th' c := ⟨e_tab, e_reg, e_mark, fun x hx => S.sub x (e_prog ▸ hx),
    fun hn => absurd (by rw [S.prog]; exact List.mem_cons_self) hn, fun hct hs => absurd (hsr0 hct) hs⟩
  refine ⟨?_, .quiet hroot hclosed (pop _) (pop _) (pop _),
    hfr⟩
  refine CI_update st st' cs tid th th' c hCI S.lt S.flag hf.threads hf.mono (by rw [hroot]; exact Nat.le_refl _)
    ?_ ?_ ?_ ?_ ?_ ?_ (by rw [hroot]; exact hCI.rootOK) ?_ ?_ hfr ?_ ?_
  · intro w hw; rw [hroot] at hw; exact Or.inl hw
  · intro w hw; rw [hclosed] at hw; exact Or.inl hw
  · intro w hw; exact Or.inr (Or.inr (K w hw))
  · intro w hw; rw [hroot] at hw; rw [hclosed]; exact hCI.RC w hw
  · intro w hw hm
    rw [hclosed] at hm
    exact Nat.not_le.2 (hCI.bC w hm) (K w hw).1
  · intro w hw hm
    rw [hroot] at hm
    exact Nat.not_le.2 (hCI.bR w hm) (K w hw).1
  · intro _ x hx y hy hxy w fx fy
    rw [hL] at hx hy
    have rx := hrange x hx w fx
    have ry := hrange y hy w fy
    have := hf.apart x y ((mem_locked_of th hlk x).2 hx) ((mem_locked_of th hlk y).2 hy) hxy
    simp only [hent] at this
    omega
  · intro w hw hn; rw [hclosed] at hw; exact absurd hw hn
  · refine S.ok e_prog e_tab (by rw [hroot]; exact Nat.le_refl _) hstrip ?_
    · have hseen' : Seen st'.root th' := by
        intro x hx; rw [hL] at hx; rw [e_old, hroot]; exact hseen x hx
      have hwr : Wr th' := by
        refine ⟨by rw [e_lk, e_tab]; exact hlk, ?_, ?_, ?_⟩
        · rw [e_old, hf.len]; show th.entries.length = _; rw [hent]
        · intro x hx
          rw [hL] at hx
          obtain ⟨b0, _, _, b3⟩ := hentry x hx
          exact ⟨by rw [e_old]; exact b0, f x, by rw [e_reg, e_mark, e_old]; exact b3⟩
        · rw [htn, e_tab, e_old]
          show th.locked.map _ = _
          rw [hlk]
          show (dedup th.tables).map (fun x => (getT th.entries x).watch) = _
          rw [hent]
      cases c with
      | true => exact ⟨rfl, hseen', hwr⟩
      | false => exact ⟨hwr, fun h => by simp at h⟩
  · intro j thj cj p hj hthj hcj hpj hlj
    rw [hroot]
    apply Loc_nc _ _ _ _ _ _ ?_ hlj
    intro hp
    subst hp
    have hold := (install_other st tid th S.lt hj).trans hthj
    exact hCI.RS j thj hold (by simpa using hj) hlj.gS_head

/-- `notify` / `closeInit`: private channels become closed -/
theorem CI_close {l : List Nat} (S : At st cs tid th true m rest p) (hsr : Micro.act .storeRoot ∉ th.prog)
    (hl : ∀ w ∈ l, priv th true w)
    (hkeep : ∀ w, priv { th with prog := rest } true w → priv th true w ∧ w ∉ l)
    (hnew : ∀ w ∈ l, (Micro.act .notify ∉ rest ∧ w ∈ th.toNotify) ∨ (Micro.act .closeInit ∉ rest ∧ w ∈ th.initToClose))
    (hstrip : strip2 rest = code2 (lockList th) true p') (hl' : Loc st.root st.nextChan { th with prog := rest } true p') :
    CI (install { st with closed := st.closed ++ l } tid { th with prog := rest }) cs (some tid) := by
  have hCI := S.ci
  have hsr' : Micro.act .storeRoot ∉ rest := fun h => hsr (S.sub _ h)
  refine CI_update st _ cs tid th _ true hCI S.lt S.flag rfl (Nat.le_refl _) (Nat.le_refl _)
    (fun w hw => Or.inl hw) ?_ (fun w hw => Or.inr (Or.inl (hkeep w hw).1)) ?_ ?_
    (fun w hw => hCI.PR tid th true w S.own S.flag (hkeep w hw).1) hCI.rootOK ?_ ?_ (S.pop th.result)
    (S.ok rfl rfl (Nat.le_refl _) hstrip hl') (fun _ _ _ _ _ _ _ _ hlj => hlj)
  · intro w hw
    exact (List.mem_append.1 hw).imp id (hl w)
  · intro w hw hm
    rcases List.mem_append.1 hm with h | h
    · exact hCI.RC w hw h
    · exact hCI.PR tid th true w S.own S.flag (hl w h) hw
  · intro w hw hm
    rcases List.mem_append.1 hm with h | h
    · exact hCI.PC tid th true w S.own S.flag (hkeep w hw).1 h
    · exact (hkeep w hw).2 h
  · intro ⟨_, h2⟩
    exact h2.elim (fun h => Bool.noConfusion h) (fun h => absurd h hsr')
  · intro w hw hn
    exact ⟨rfl, hsr', hnew w ((List.mem_append.1 hw).resolve_left hn)⟩

theorem CI_notify (S : At st cs tid th c (.act .notify) rest .nt)
    (hstrip : strip2 rest = code2 (lockList th) c (.rel 0)) :
    StepCI st { st with closed := st.closed ++ th.toNotify } cs tid th { th with prog := rest } c := by
  obtain ⟨rfl, hwr, hcii, hsto⟩ := S.loc
  have tr := tracked_of_pos th _ true _ S.pos
  have tr' := tracked_of_pos { th with prog := rest } _ true _ hstrip
  have hsr : Micro.act .storeRoot ∉ th.prog := fun h => Bool.noConfusion (tr.storeRoot.1 h)
  have hsr' : Micro.act .storeRoot ∉ rest := fun h => Bool.noConfusion (tr'.storeRoot.1 h)
  have hnt' : Micro.act .notify ∉ rest := fun h => Bool.noConfusion (tr'.notify.1 h)
  have huw : Micro.userWrites ∉ th.prog := fun h => Bool.noConfusion (tr.userWrites.1 h)
  refine ⟨?_, .notify rfl rfl rfl (tr.notify.2 rfl) hnt' hsr huw hwr.toNotify_eq
    (held_of_pos th _ true .nt S.pos) hsto (by rw [S.prog]; rfl), S.pop th.result⟩
  refine CI_close S hsr (fun w hw => Or.inr (Or.inl ⟨rfl, hsr, tr.notify.2 rfl, hw⟩)) ?_ (fun w hw => Or.inl ⟨hnt', hw⟩)
    hstrip
    ⟨hwr, fun _ => ⟨hcii, by rw [List.drop_zero]; exact hsto⟩⟩
  rintro w (⟨⟨_, h2⟩, _⟩ | ⟨_, _, h3, _⟩ | ⟨_, _, _, h4⟩)
  · exact h2.elim (fun h => Bool.noConfusion h) (fun h => absurd h hsr')
  · exact absurd h3 hnt'
  · exact ⟨Or.inr (Or.inr ⟨rfl, hsr, tr.closeInit.2 rfl, h4⟩), fun h => hcii.apart w h h4⟩

theorem CI_closeInit {k : Nat} (S : At st cs tid th true (.act .closeInit) rest (.rel k))
    (hk : (lockList th)[k]? = none) (hstrip : strip2 rest = code2 (lockList th) true .fin) :
    StepCI st { st with closed := st.closed ++ th.initToClose } cs tid th { th with prog := rest } true := by
  obtain ⟨hwr, hrest⟩ := S.loc
  obtain ⟨hcii, _⟩ := hrest rfl
  have tr := tracked_of_pos th _ true _ S.pos
  have tr' := tracked_of_pos { th with prog := rest } _ true _ hstrip
  have hsr : Micro.act .storeRoot ∉ th.prog := fun h => Bool.noConfusion (tr.storeRoot.1 h)
  have hrel : ∀ x, Micro.release x ∉ th.prog := fun x hx => by
    rw [mem_of_pos S.pos (.release x)] at hx
    simp [code2, relTail, LB.drop_of_getElem?_none _ _ hk] at hx
  refine ⟨?_, .closeInit rfl rfl rfl (tr.closeInit.2 rfl) (fun h => Bool.noConfusion (tr'.closeInit.1 h)) hsr
    (fun h => Bool.noConfusion (tr.notify.1 h)) (fun h => Bool.noConfusion (tr.userWrites.1 h)) hrel hcii.collected
    (by rw [S.prog]; rfl),
    S.pop th.result⟩
  refine CI_close S hsr (fun w hw => Or.inr (Or.inr ⟨rfl, hsr, tr.closeInit.2 rfl, hw⟩)) ?_
    (fun w hw => Or.inr ⟨fun h => Bool.noConfusion (tr'.closeInit.1 h), hw⟩) hstrip ⟨rfl, hwr, hcii⟩
  rintro w (⟨⟨_, h2⟩, _⟩ | ⟨_, _, h3, _⟩ | ⟨_, _, h3, _⟩)
  · exact h2.elim (fun h => Bool.noConfusion h) (fun h => Bool.noConfusion (tr'.storeRoot.1 h))
  · exact Bool.noConfusion (tr'.notify.1 h3)
  · exact Bool.noConfusion (tr'.closeInit.1 h3)

end

end Sdb.Conc
