import SdbModel.Lemmas.ArtCount
import SdbModel.Lemmas.ArtTxn
import SdbModel.Lemmas.ArtMulti

/-! The watch-channel invariant of Model.Art: `WInv` of an open transaction, kept by every call by the counting of
    ArtCount, and `TreeInv` of a committed tree and its world, kept by whole transactions, hence true along every linear
    history (`Hist`).  What Get and Prefix hand out is the root watch or a channel of the tree, hence open. -/
namespace Sdb.ArtW
open Sdb.Art

/-- the watch-channel invariant of an open transaction, relative to a list `av`
    of channels that must stay out of the tree (the closed ones and the root watch) -/
structure WInv (av : List Nat) (st : St) (root : Option Node) : Prop where
  nd : ∀ c, c ≠ 0 → cntR c root ≤ 1
  lt : ∀ c, c ≠ 0 → 1 ≤ cntR c root → c < st.nextW
  np : ∀ c, c ≠ 0 → 1 ≤ cntR c root → c ∉ st.pending
  pl : ∀ c ∈ st.pending, c ≠ 0 → c < st.nextW
  av_lt : ∀ c ∈ av, c ≠ 0 → c < st.nextW
  av_nt : ∀ c ∈ av, c ≠ 0 → cntR c root = 0
  av_np : ∀ c ∈ av, c ≠ 0 → c ∉ st.pending

/-- A channel that occurs in the old tree is below `st.nextW`, so a fresh one did not occur; a
    newly recorded one occurred, hence exactly once, and is gone. -/
theorem WInv.of_tr {av : List Nat} {st st' : St} {root root' : Option Node} (h : WInv av st root) (hle : StLe st st')
    (htr : ∀ c, c ≠ 0 → Tr st st' c (cntR c root) (cntR c root')) : WInv av st' root' := by
  have hnw := hle.nw
  constructor
  case nd =>
    intro c hc
    have h1 := h.nd c hc
    have h2 := h.lt c hc
    rcases (htr c hc).fresh_or with k | ⟨_, _, k⟩ <;> omega
  case lt =>
    intro c hc hn
    have h2 := h.lt c hc
    rcases (htr c hc).fresh_or with k | ⟨_, _, k⟩ <;> omega
  case np =>
    intro c hc hn hp
    have h1 := h.nd c hc
    have h2 := h.lt c hc
    by_cases hp0 : c ∈ st.pending
    · have h3 := h.pl c hp0 hc
      rcases (htr c hc).fresh_or with k | ⟨_, _, k⟩
      · exact h.np c hc (by omega) hp0
      · omega
    · have hr := recd_pos hp hp0
      rcases (htr c hc).fresh_or with k | ⟨_, _, k⟩ <;> omega
  case pl =>
    intro c hp hc
    by_cases hp0 : c ∈ st.pending
    · have := h.pl c hp0 hc; omega
    · have hr := recd_pos hp hp0
      have := h.lt c hc (by have := (htr c hc).recd_le; omega)
      omega
  case av_lt =>
    intro c ha hc
    have := h.av_lt c ha hc; omega
  case av_nt =>
    intro c ha hc
    have h1 := h.av_lt c ha hc
    have h2 := h.av_nt c ha hc
    rcases (htr c hc).fresh_or with k | ⟨_, _, k⟩ <;> omega
  case av_np =>
    intro c ha hc hp
    have hr := recd_pos hp (h.av_np c ha hc)
    have h2 := h.av_nt c ha hc
    have := (htr c hc).recd_le
    omega

theorem WInv.wrote {av : List Nat} {x x' : Txn} {k : List Nat} {rw : Option Nat} (h : WInv av x.st x.root)
    (hw : Wrote x k x' rw) : WInv av x'.st x'.root :=
  h.of_tr hw.w.le fun _ hc => hw.w.tr hc

theorem WInv.bump {av : List Nat} {x : Txn} (h : WInv av x.st x.root) : WInv av x.bump.st x.bump.root :=
  ⟨h.nd, h.lt, h.np, h.pl, h.av_lt, h.av_nt, h.av_np⟩

theorem WInv.step {av : List Nat} {x : Txn} (P : ArtParams) (h : WInv av x.st x.root) (o : Op) :
    WInv av (ArtW.step P x o).st (ArtW.step P x o).root :=
  step_of_wrote (I := fun x => WInv av x.st x.root) WInv.wrote WInv.bump P h o

theorem WInv.insert {av : List Nat} {x : Txn} (P : ArtParams) (h : WInv av x.st x.root) (k : List Nat) (v : Nat)
    (m : Option (Nat → Nat → Nat)) : WInv av (x.insert P k v m).1.st (x.insert P k v m).1.root :=
  h.step P (.insert k v m)

theorem WInv.delete {av : List Nat} {x : Txn} (P : ArtParams) (h : WInv av x.st x.root) (k : List Nat) :
    WInv av (x.delete P k).1.st (x.delete P k).1.root :=
  h.step P (.delete k)

theorem WInv.run {av : List Nat} {x : Txn} (P : ArtParams) (h : WInv av x.st x.root) (ops : List Op) :
    WInv av (run P x ops).st (run P x ops).root :=
  run_of_wrote (I := fun x => WInv av x.st x.root) WInv.wrote WInv.bump P h ops

/-- the channels in a committed tree are pairwise distinct, allocated, and open; the root watch is a
    further distinct open channel; closed channels are allocated ones -/
structure TreeInv (wd : World) (t : Tree) : Prop where
  nd : ∀ c, c ≠ 0 → cntR c t.root ≤ 1
  lt : ∀ c, c ≠ 0 → 1 ≤ cntR c t.root → c < wd.nextW
  nc : ∀ c, c ≠ 0 → 1 ≤ cntR c t.root → c ∉ wd.closed
  rw_nt : t.rootWatch ≠ 0 → cntR t.rootWatch t.root = 0
  rw_lt : t.rootWatch ≠ 0 → t.rootWatch < wd.nextW
  rw_nc : t.rootWatch ≠ 0 → t.rootWatch ∉ wd.closed
  cl_lt : ∀ c ∈ wd.closed, c ≠ 0 → c < wd.nextW

theorem TreeInv.txn {wd : World} {t : Tree} (h : TreeInv wd t) :
    WInv (t.rootWatch :: wd.closed) (t.txn wd).st (t.txn wd).root := by
  refine { nd := h.nd, lt := h.lt, np := ?np, pl := ?pl, av_lt := ?av_lt, av_nt := ?av_nt, av_np := ?av_np }
  case np => intro c _ _; simp [Tree.txn]
  case pl => intro c hc; simp [Tree.txn] at hc
  case av_lt =>
    intro c ha hc
    simp only [List.mem_cons] at ha
    rcases ha with ha | ha
    · subst ha; exact h.rw_lt hc
    · exact h.cl_lt c ha hc
  case av_nt =>
    intro c ha hc
    simp only [List.mem_cons] at ha
    rcases ha with ha | ha
    · subst ha; exact h.rw_nt hc
    · rcases Nat.eq_zero_or_pos (cntR c t.root) with h0 | h0
      · exact h0
      · exact absurd ha (h.nc c hc h0)
  case av_np => intro c _ _; simp [Tree.txn]

theorem notify_nextW (x : Txn) (wd : World) : (x.notify wd).2.nextW = max wd.nextW x.st.nextW := rfl

/-- `WInv` of the transaction after its calls, with the old root watch and the closed channels to avoid, says
    everything about the new tree -/
theorem TreeInv.commit_notify {wd : World} {t : Tree} (h : TreeInv wd t) (P : ArtParams) (ops : List Op) :
    TreeInv (((run P (t.txn wd) ops).commit wd).1.notify ((run P (t.txn wd) ops).commit wd).2.2).2
      ((run P (t.txn wd) ops).commit wd).2.1 := by
  have hw := h.txn.run P ops
  have hl := later_run P (t.txn wd) ops
  generalize run P (t.txn wd) ops = x at hw hl
  have hrw : x.rootWatch = t.rootWatch := hl.rw
  have hnw : wd.nextW ≤ x.st.nextW := hl.nw
  have f := commit_facts x wd
  have hcl : ∀ c, c ∈ ((x.commit wd).1.notify (x.commit wd).2.2).2.closed ↔
      c ∈ wd.closed ∨ c ∈ x.st.pending ∨ (x.dirty = true ∧ x.rootWatch ≠ 0 ∧ c = x.rootWatch) := by
    intro c
    rw [notify_closed, f.closed, f.txn]
    rfl
  have hnx : ((x.commit wd).1.notify (x.commit wd).2.2).2.nextW = (if x.dirty then x.st.nextW + 1 else x.st.nextW) := by
    rw [notify_nextW, f.nextW, f.txn]
    simp only [Txn.bump]
    split <;> omega
  have hrt : t.rootWatch ∈ t.rootWatch :: wd.closed := List.mem_cons_self
  -- the new root watch: freshly allocated if the transaction is dirty, else the old one
  have hrwf : (x.commit wd).2.1.rootWatch ≠ 0 →
      cntR (x.commit wd).2.1.rootWatch x.root = 0 ∧
      (x.commit wd).2.1.rootWatch < (if x.dirty then x.st.nextW + 1 else x.st.nextW) ∧
      ¬ ((x.commit wd).2.1.rootWatch ∈ wd.closed ∨ (x.commit wd).2.1.rootWatch ∈ x.st.pending ∨
        (x.dirty = true ∧ x.rootWatch ≠ 0 ∧ (x.commit wd).2.1.rootWatch = x.rootWatch)) := by
    rw [f.rootWatch]
    intro h0
    by_cases hd : x.dirty = true
    · simp only [hd, if_true] at h0 ⊢
      refine ⟨?_, Nat.lt_succ_self _, ?_⟩
      · rcases Nat.eq_zero_or_pos (cntR x.st.nextW x.root) with hz | hz
        · exact hz
        · have := hw.lt _ h0 hz; omega
      · rintro (hcd | hcd | ⟨_, h0', hcd⟩)
        · have := hw.av_lt _ (List.mem_cons_of_mem _ hcd) h0; omega
        · have := hw.pl _ hcd h0; omega
        · rw [hrw] at h0' hcd
          have := hw.av_lt _ hrt h0'; omega
    · simp only [hd] at h0 ⊢
      rw [hrw] at h0 ⊢
      refine ⟨hw.av_nt _ hrt h0, hw.av_lt _ hrt h0, ?_⟩
      rintro (hcd | hcd | ⟨hd', _, _⟩)
      · exact h.rw_nc h0 hcd
      · exact hw.av_np _ hrt h0 hcd
      · exact absurd hd' (by simp)
  constructor
  case nd => rw [f.root]; exact hw.nd
  case lt =>
    intro c hc h1
    rw [f.root] at h1
    have := hw.lt c hc h1
    rw [hnx]; split <;> omega
  case nc =>
    -- a channel of the tree was not closed before, is not pending, and is not the old root watch
    intro c hc h1
    rw [f.root] at h1
    rw [hcl]
    rintro (hcd | hcd | ⟨_, h0, hcd⟩)
    · have := hw.av_nt c (List.mem_cons_of_mem _ hcd) hc; omega
    · exact hw.np c hc h1 hcd
    · rw [hcd, hrw] at h1
      rw [hrw] at h0
      have := hw.av_nt _ hrt h0; omega
  case rw_nt =>
    intro h0
    rw [f.root]
    exact (hrwf h0).1
  case rw_lt =>
    intro h0
    rw [hnx]
    exact (hrwf h0).2.1
  case rw_nc =>
    intro h0
    rw [hcl]
    exact (hrwf h0).2.2
  case cl_lt =>
    intro c hcd hc
    rw [hcl] at hcd
    rw [hnx]
    have : c < x.st.nextW := by
      rcases hcd with hcd | hcd | ⟨_, h0, hcd⟩
      · exact hw.av_lt _ (List.mem_cons_of_mem _ hcd) hc
      · exact hw.pl _ hcd hc
      · rw [hcd, hrw]; rw [hrw] at h0; exact hw.av_lt _ hrt h0
    split <;> omega

/-- Notify-then-Commit (the order of `CommitAndNotify`) yields the same tree and
    the same world as Commit-then-Notify -/
theorem notify_commit_eq (x : Txn) (wd : World) :
    ((x.notify wd).1.commit (x.notify wd).2).2.1 = (x.commit wd).2.1 ∧
    ((x.notify wd).1.commit (x.notify wd).2).2.2 = ((x.commit wd).1.notify (x.commit wd).2.2).2 := by
  unfold Txn.commit Txn.notify
  cases hd : x.dirty <;> simp [Txn.bump, hd]

theorem TreeInv.notify_commit {wd : World} {t : Tree} (h : TreeInv wd t) (P : ArtParams) (ops : List Op) :
    TreeInv (((run P (t.txn wd) ops).notify wd).1.commit ((run P (t.txn wd) ops).notify wd).2).2.2
      (((run P (t.txn wd) ops).notify wd).1.commit ((run P (t.txn wd) ops).notify wd).2).2.1 := by
  obtain ⟨h1, h2⟩ := notify_commit_eq (run P (t.txn wd) ops) wd
  rw [h1, h2]
  exact h.commit_notify P ops

theorem TreeInv.new (wd : World) (ro : Bool) (hcl : ∀ c ∈ wd.closed, c ≠ 0 → c < wd.nextW) :
    TreeInv (newTree wd ro).1 (newTree wd ro).2 := by
  constructor
  case nd => intro c _; simp [newTree, cntR]
  case lt => intro c _ h; simp [newTree, cntR] at h
  case nc => intro c _ h; simp [newTree, cntR] at h
  case rw_nt => intro _; simp [newTree, cntR]
  case rw_lt => intro _; simp [newTree]
  case rw_nc =>
    intro h0 hc
    simp only [newTree] at h0 hc
    have := hcl _ hc h0; omega
  case cl_lt =>
    intro c hc h0
    simp only [newTree] at hc ⊢
    have := hcl _ hc h0; omega


namespace Chan
variable {ex : Bool} {f : Node → List Nat → Option Nat} {fK : Kids → Nat → List Nat → Option Nat}

theorem mem (hf : Chan ex f fK) (c : Nat) (n : Node) : ∀ k, f n k = some c → c ≠ 0 ∧ 1 ≤ cnt c n := by
  induction n using find_induct with
  | leaf p d =>
    intro k h
    obtain ⟨hw, hc⟩ := nz_some (hf.leaf_watch h)
    exact ⟨hc, by simp only [cnt, hw, if_true]; omega⟩
  | inner kind p lf kids w t ih =>
    intro k h
    simp only [cnt]
    rcases hf.inner h with h | ⟨_, _, h⟩ | ⟨_, b, r, _, h⟩
    · obtain ⟨hw, hc⟩ := nz_some h
      exact ⟨hc, by rw [if_pos hw]; omega⟩
    · obtain ⟨d, rfl, hd⟩ := lfw_some h
      obtain ⟨hw, hc⟩ := nz_some hd
      exact ⟨hc, by rw [cntL_some, if_pos hw]; omega⟩
    · obtain ⟨n, hn, hfn⟩ := hf.kids_some.1 h
      obtain ⟨hc, h1⟩ := ih b n hn _ hfn
      have := cntK_erase_find c kids hn
      exact ⟨hc, by omega⟩

theorem memK (hf : Chan ex f fK) {c : Nat} {kids : Kids} {b : Nat} {k : List Nat} (h : fK kids b k = some c) :
    c ≠ 0 ∧ 1 ≤ cntK c kids := by
  obtain ⟨n, hn, hfn⟩ := hf.kids_some.1 h
  obtain ⟨hc, h1⟩ := hf.mem c n k hfn
  have := cntK_erase_find c kids hn
  exact ⟨hc, by omega⟩

end Chan

theorem searchNode_mem (n : Node) (w : Nat) (key : List Nat) :
    (searchNode n w key).2 = w ∨ ((searchNode n w key).2 ≠ 0 ∧ 1 ≤ cnt (searchNode n w key).2 n) := by
  rw [search_eq_pw]; exact getD_mem fun c h => pwChan.mem c n key h

theorem searchK_mem : (kids : Kids) → (b w : Nat) → (key : List Nat) →
    (searchK kids b w key).2 = w ∨ ((searchK kids b w key).2 ≠ 0 ∧ 1 ≤ cntK (searchK kids b w key).2 kids) := by
  intro kids b w key
  rw [searchK_eq_pw]; exact getD_mem fun c h => pwChan.memK h

theorem prefixNode_mem (n : Node) (w : Nat) (q : List Nat) :
    (prefixNode n w q).2 = w ∨ ((prefixNode n w q).2 ≠ 0 ∧ 1 ≤ cnt (prefixNode n w q).2 n) := by
  rw [prefix_eq_ppw]; exact getD_mem fun c h => ppwChan.mem c n q h

theorem prefixK_mem : (kids : Kids) → (b w : Nat) → (q : List Nat) →
    (prefixK kids b w q).2 = w ∨ ((prefixK kids b w q).2 ≠ 0 ∧ 1 ≤ cntK (prefixK kids b w q).2 kids) := by
  intro kids b w q
  rw [prefixK_eq_ppw]; exact getD_mem fun c h => ppwChan.memK h

theorem getRoot_mem (root : Option Node) (w : Nat) (k : List Nat) :
    (getRoot root w k).2 = w ∨ ((getRoot root w k).2 ≠ 0 ∧ 1 ≤ cntR (getRoot root w k).2 root) := by
  cases root with
  | none => exact Or.inl rfl
  | some r => exact searchNode_mem r w k

theorem prefixRoot_mem (root : Option Node) (w : Nat) (q : List Nat) :
    (prefixRoot root w q).2 = w ∨ ((prefixRoot root w q).2 ≠ 0 ∧ 1 ≤ cntR (prefixRoot root w q).2 root) := by
  cases root with
  | none => exact Or.inl rfl
  | some r => exact prefixNode_mem r w q

theorem TreeInv.handed {wd : World} {t : Tree} (h : TreeInv wd t) {c : Nat}
    (hc : c = t.rootWatch ∨ (c ≠ 0 ∧ 1 ≤ cntR c t.root)) (h0 : c ≠ 0) : c ∉ wd.closed ∧ c < wd.nextW := by
  rcases hc with rfl | ⟨_, h1⟩
  · exact ⟨h.rw_nc h0, h.rw_lt h0⟩
  · exact ⟨h.nc c h0 h1, h.lt c h0 h1⟩

theorem TreeInv.get_open {wd : World} {t : Tree} (h : TreeInv wd t) (k : List Nat)
    (h0 : (getRoot t.root t.rootWatch k).2 ≠ 0) : (getRoot t.root t.rootWatch k).2 ∉ wd.closed :=
  (h.handed (getRoot_mem ..) h0).1

theorem TreeInv.prefix_open {wd : World} {t : Tree} (h : TreeInv wd t) (q : List Nat)
    (h0 : (prefixRoot t.root t.rootWatch q).2 ≠ 0) : (prefixRoot t.root t.rootWatch q).2 ∉ wd.closed :=
  (h.handed (prefixRoot_mem ..) h0).1

theorem TreeInv.get_lt {wd : World} {t : Tree} (h : TreeInv wd t) (k : List Nat)
    (h0 : (getRoot t.root t.rootWatch k).2 ≠ 0) : (getRoot t.root t.rootWatch k).2 < wd.nextW :=
  (h.handed (getRoot_mem ..) h0).2

theorem TreeInv.prefix_lt {wd : World} {t : Tree} (h : TreeInv wd t) (q : List Nat)
    (h0 : (prefixRoot t.root t.rootWatch q).2 ≠ 0) : (prefixRoot t.root t.rootWatch q).2 < wd.nextW :=
  (h.handed (prefixRoot_mem ..) h0).2

theorem TreeInv.in_txn_open {wd : World} {t : Tree} (h : TreeInv wd t) (P : ArtParams) (ops : List Op) (k : List Nat) :
    ((getRoot (run P (t.txn wd) ops).root (run P (t.txn wd) ops).rootWatch k).2 ≠ 0 →
      (getRoot (run P (t.txn wd) ops).root (run P (t.txn wd) ops).rootWatch k).2 ∉ wd.closed) ∧
    ((prefixRoot (run P (t.txn wd) ops).root (run P (t.txn wd) ops).rootWatch k).2 ≠ 0 →
      (prefixRoot (run P (t.txn wd) ops).root (run P (t.txn wd) ops).rootWatch k).2 ∉ wd.closed) := by
  have hw := h.txn.run P ops
  have hl := later_run P (t.txn wd) ops
  have hrw : (run P (t.txn wd) ops).rootWatch = t.rootWatch := hl.rw
  generalize run P (t.txn wd) ops = x at hw hrw
  have key : ∀ c, c ≠ 0 → (c = x.rootWatch ∨ 1 ≤ cntR c x.root) → c ∉ wd.closed := by
    intro c hc0 hc hcl
    rcases hc with hc | hc
    · rw [hc, hrw] at hc0 hcl; exact h.rw_nc hc0 hcl
    · have := hw.av_nt c (List.mem_cons_of_mem _ hcl) hc0; omega
  exact ⟨fun h0 => key _ h0 ((getRoot_mem ..).imp_right And.right),
    fun h0 => key _ h0 ((prefixRoot_mem ..).imp_right And.right)⟩

/-- linear histories: a tree created in a world whose closed channels are all allocated ones, then
    transactions (any calls; Commit and Notify in either order), each opened on the latest tree and world -/
inductive Hist (P : ArtParams) : World → Tree → Prop where
  | new (wd : World) (ro : Bool) (hcl : ∀ c ∈ wd.closed, c ≠ 0 → c < wd.nextW) :
      Hist P (newTree wd ro).1 (newTree wd ro).2
  | commit_notify (wd : World) (t : Tree) (ops : List Op) : Hist P wd t →
      Hist P (((run P (t.txn wd) ops).commit wd).1.notify ((run P (t.txn wd) ops).commit wd).2.2).2
        ((run P (t.txn wd) ops).commit wd).2.1
  | notify_commit (wd : World) (t : Tree) (ops : List Op) : Hist P wd t →
      Hist P (((run P (t.txn wd) ops).notify wd).1.commit ((run P (t.txn wd) ops).notify wd).2).2.2
        (((run P (t.txn wd) ops).notify wd).1.commit ((run P (t.txn wd) ops).notify wd).2).2.1

theorem Hist.inv {P : ArtParams} {wd : World} {t : Tree} (h : Hist P wd t) : TreeInv wd t := by
  induction h with
  | new wd ro hcl => exact TreeInv.new wd ro hcl
  | commit_notify wd t ops _ ih => exact ih.commit_notify P ops
  | notify_commit wd t ops _ ih => exact ih.notify_commit P ops

theorem Hist.reach {P : ArtParams} {wd : World} {t : Tree} (h : Hist P wd t) : Reach P t := by
  induction h with
  | new wd ro _ => exact Reach.new wd ro
  | commit_notify wd t ops _ ih => exact Reach.commit t wd wd ops ih
  | notify_commit wd t ops _ ih =>
    rw [(notify_commit_eq _ _).1]
    exact Reach.commit t wd wd ops ih

end Sdb.ArtW
