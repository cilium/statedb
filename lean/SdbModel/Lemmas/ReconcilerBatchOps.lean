import SdbModel.Model.ReconcilerBatch
import SdbModel.Lemmas.ReconcilerInjectTimer

/-!
  What the operations of a batch round (`Model.ReconcilerBatch`) compute, before any invariant.
  `deleteBatch` and `updateBatch` are loops of `processSingle` over the collected entries, whatever
  lands during the Updates; the collecting loop `consumeB` is a sequence of steps, one per change
  read.  `ghost r a b` is `r` with the change iterator put back to `a` / `b`: it commutes with the
  operations, which lets a batch round be replayed as the steps of a single round.

  `…D` / `…U`: the delete / update side.  `call`: the call for an entry of a batch; `step`: call and bookkeeping
  (`updP` / `updQ`: the two apart for an Update, the writes landing in the call); `read`: a change collected, no call
  (`set` in `ReconcilerBatchSim`: without `retryClear`; single mode's `proc`: followed by the operation).
-/
namespace Sdb.Rec

def ghost (r : R) (a b : Nat) : R := { r with itRev := a, itDelRev := b }

@[simp] theorem ghost_objs (r : R) (a b : Nat) : (ghost r a b).objs = r.objs := rfl
@[simp] theorem ghost_dels (r : R) (a b : Nat) : (ghost r a b).dels = r.dels := rfl
@[simp] theorem ghost_tableRev (r : R) (a b : Nat) : (ghost r a b).tableRev = r.tableRev := rfl
@[simp] theorem ghost_itRev (r : R) (a b : Nat) : (ghost r a b).itRev = a := rfl
@[simp] theorem ghost_itDelRev (r : R) (a b : Nat) : (ghost r a b).itDelRev = b := rfl
@[simp] theorem ghost_refreshedAt (r : R) (a b : Nat) : (ghost r a b).refreshedAt = r.refreshedAt := rfl
@[simp] theorem ghost_items (r : R) (a b : Nat) : (ghost r a b).items = r.items := rfl
@[simp] theorem ghost_log (r : R) (a b : Nat) : (ghost r a b).log = r.log := rfl
@[simp] theorem ghost_injects (r : R) (a b : Nat) : (ghost r a b).injects = r.injects := rfl
@[simp] theorem ghost_results (r : R) (a b : Nat) : (ghost r a b).results = r.results := rfl

theorem ghost_retryClear (x : R) (a b id : Nat) : (ghost x a b).retryClear id = ghost (x.retryClear id) a b := by
  unfold R.retryClear
  show (match x.items.find? (·.id = id) with | none => ghost x a b | some it => _) = _
  cases x.items.find? (·.id = id) with
  | none => rfl
  | some it => rfl

theorem ghost_landAll (x : R) (a b : Nat) (acts : List (Nat × Inject)) : (ghost x a b).landAll acts = ghost (x.landAll acts) a b := by
  rw [landAll_of_tbl x (ghost x a b) rfl rfl rfl rfl acts]
  conv => rhs; rw [landAll_of_tbl x x rfl rfl rfl rfl acts]
  rfl

theorem ghost_preUpdate (x : R) (a b : Nat) (o : RObj) (rev : Nat) : (ghost x a b).preUpdate o rev = ghost (x.preUpdate o rev) a b := by
  unfold R.preUpdate
  have hf : (ghost x a b).isFailing o.id = x.isFailing o.id := rfl
  rw [hf]
  dsimp only
  split
  · rfl
  · rw [← ghost_retryClear]; rfl

theorem ghost_processSingle (x : R) (a b : Nat) (o : RObj) (rev : Nat) (del : Bool) :
    (ghost x a b).processSingle o rev del = ghost (x.processSingle o rev del) a b := by
  cases del with
  | false =>
    rw [processSingle_update_land, processSingle_update_land, ghost_preUpdate, ghost_landAll]
    rfl
  | true =>
    rw [processSingle_delete, processSingle_delete]
    have hf : (ghost x a b).isFailing o.id = x.isFailing o.id := rfl
    rw [hf]
    split
    · rfl
    · rw [← ghost_retryClear]; rfl

theorem processSingle_failing (x : R) (o : RObj) (rev : Nat) (del : Bool) : (x.processSingle o rev del).failing = x.failing := by
  cases del with
  | false =>
    rw [processSingle_update_land, (frameW_landAll _ _).failing, (preUpdate_facts x o rev).failing]
  | true =>
    rw [processSingle_delete]; split <;> simp

theorem processSingle_delete_items (x : R) (o : RObj) (rev : Nat) :
    ∀ it ∈ (x.processSingle o rev true).items, it ∈ x.items ∨ it.id = o.id := by
  rw [processSingle_delete]
  split
  · intro it hit
    rw [retryAdd_items] at hit
    rcases List.mem_append.1 hit with h | h
    · exact Or.inl (List.mem_filter.1 h).1
    · simp only [List.mem_singleton] at h
      rw [h]; exact Or.inr rfl
  · intro it hit
    rw [retryClear_items] at hit
    exact Or.inl (List.mem_filter.1 hit).1

theorem processSingle_delete_clear {x : R} {e : BEntry} {dl : List BEntry} (hids : ∀ e' ∈ dl, e.1.id ≠ e'.1.id)
    (hclr : ∀ e' ∈ dl, ∀ it ∈ x.items, it.id ≠ e'.1.id) :
    ∀ e' ∈ dl, ∀ it ∈ (x.processSingle e.1 e.2 true).items, it.id ≠ e'.1.id := by
  intro e' he' it hit
  rcases processSingle_delete_items x e.1 e.2 it hit with h | h
  · exact hclr e' he' it h
  · rw [h]; exact hids e' he'

theorem processSingle_update_items (x : R) (o : RObj) (rev : Nat) :
    ∀ it ∈ (x.processSingle o rev false).items, it ∈ x.items := by
  rw [processSingle_update_land]
  intro it hit
  rw [(frameW_landAll _ _).items, (preUpdate_facts x o rev).items] at hit
  split at hit
  · exact hit
  · exact (List.mem_filter.1 hit).1

def setLog (r : R) (l : List Call) : R := { r with log := l }

@[simp] theorem setLog_log (r : R) (l : List Call) : (setLog r l).log = l := rfl
@[simp] theorem setLog_setLog (r : R) (l l' : List Call) : setLog (setLog r l) l' = setLog r l' := rfl
@[simp] theorem setLog_failing (r : R) (l : List Call) : (setLog r l).failing = r.failing := rfl
@[simp] theorem setLog_injects (r : R) (l : List Call) : (setLog r l).injects = r.injects := rfl

/-- the call `DeleteBatch` makes for one entry (`fl`: the ids whose operations fail) -/
def callD (fl : List Nat) (e : BEntry) : Call := ⟨"D", e.1.id, e.1.data, !fl.contains e.1.id⟩

def callU (fl : List Nat) (e : BEntry) : Call := ⟨"U", e.1.id, e.1.data, !fl.contains e.1.id⟩

def stepD (fl : List Nat) (r : R) (e : BEntry) : R :=
  if fl.contains e.1.id then R.retryAdd { r with log := r.log ++ [⟨"D", e.1.id, e.1.data, false⟩] } e.1 e.2 e.2 true
  else { r with log := r.log ++ [⟨"D", e.1.id, e.1.data, true⟩] }

/-- one entry of `updateBatch` when nothing is queued to land (`updateBatch_eq_stepU`) -/
def stepU (fl : List Nat) (r : R) (e : BEntry) : R :=
  if fl.contains e.1.id then
    { r with log := r.log ++ [⟨"U", e.1.id, e.1.data, false⟩], results := r.results ++ [(e.1, e.1, e.2, e.1.sid, true)] }
  else
    { R.retryClear { r with log := r.log ++ [⟨"U", e.1.id, e.1.data, true⟩] } e.1.id with
      results := r.results ++ [(e.1, e.1, e.2, e.1.sid, false)] }

/-- the first loop of a batch operation: the call of each entry, its outcome remembered -/
def calls {E O : Type} (P : R → E → R) (out : R → E → O) (a : R × List (E × O)) (e : E) : R × List (E × O) :=
  (P a.1 e, a.2 ++ [(e, out a.1 e)])

theorem calls_acc {E O : Type} (P : R → E → R) (out : R → E → O) (es : List E) (x : R) (acc : List (E × O)) :
    es.foldl (calls P out) (x, acc) = ((es.foldl (calls P out) (x, [])).1, acc ++ (es.foldl (calls P out) (x, [])).2) := by
  induction es generalizing x acc with
  | nil => simp
  | cons e es ih => rw [List.foldl_cons, List.foldl_cons, calls, calls, ih, ih (acc := [] ++ _)]; simp

/-- the calls, then the bookkeeping `Q` of each outcome: one loop doing both per entry, when `Q` commutes with the later calls
    and does not change their outcomes -/
theorem foldl_two_phase {E O : Type} (P : R → E → R) (out : R → E → O) (Q : R → E × O → R)
    (hcomm : ∀ x e y, Q (P x e) y = P (Q x y) e) (hout : ∀ x y e, out (Q x y) e = out x e) (es : List E) (r : R) :
    (es.foldl (calls P out) (r, [])).2.foldl Q (es.foldl (calls P out) (r, [])).1 = es.foldl (fun x e => Q (P x e) (e, out x e)) r := by
  have hQ : ∀ (es : List E) (x : R) (y : E × O), (es.foldl (calls P out) (Q x y, [])) =
      (Q (es.foldl (calls P out) (x, [])).1 y, (es.foldl (calls P out) (x, [])).2) := by
    intro es
    induction es with
    | nil => intro x y; rfl
    | cons e es ih =>
      intro x y
      rw [List.foldl_cons, List.foldl_cons, calls, calls, calls_acc, calls_acc (acc := [] ++ [(e, out x e)]), hout, ← hcomm, ih]
  induction es generalizing r with
  | nil => rfl
  | cons e es ih =>
    rw [List.foldl_cons, List.foldl_cons, calls, calls_acc, ← ih, hQ]
    simp

theorem deleteBatch_eq (r : R) (ds : List BEntry) : r.deleteBatch ds = ds.foldl (stepD r.failing) r := by
  have h := foldl_two_phase (fun (x : R) (e : BEntry) => { x with log := x.log ++ [⟨"D", e.1.id, e.1.data, !x.isFailing e.1.id⟩] })
    (fun x e => x.isFailing e.1.id) (fun x y => if y.2 then x.retryAdd y.1.1 y.1.2 y.1.2 true else x)
    (by intro x e y; split <;> rfl) (by intro x y e; split <;> rfl) ds r
  -- `r.deleteBatch ds` unfolds to the left side of `h`
  refine Eq.trans (Eq.trans rfl h) ?_
  clear h
  generalize hfl : r.failing = fl
  induction ds generalizing r with
  | nil => rfl
  | cons e ds ih =>
    have e1 : (if r.isFailing e.1.id = true then R.retryAdd { r with log := r.log ++ [⟨"D", e.1.id, e.1.data, !r.isFailing e.1.id⟩] } e.1 e.2 e.2 true
        else { r with log := r.log ++ [⟨"D", e.1.id, e.1.data, !r.isFailing e.1.id⟩] }) = stepD fl r e := by
      unfold stepD R.isFailing; rw [hfl]; cases fl.contains e.1.id <;> rfl
    rw [List.foldl_cons, List.foldl_cons]
    simp only
    rw [e1]
    exact ih _ (by rw [← hfl]; unfold stepD; split <;> rfl)

def withLI (x : R) (l : List Call) (j : List (Nat × Inject)) : R := { x with log := l, injects := j }

def updP (x : R) (e : BEntry) : R :=
  (withLI x (x.log ++ [({ op := "U", id := e.1.id, data := e.1.data, ok := !x.isFailing e.1.id } : Call)])
    (x.injects.filter (fun (a : Nat × Inject) => a.1 ≠ e.1.id))).landAll
    (x.injects.filter (fun (a : Nat × Inject) => a.1 = e.1.id))

def updQ (x : R) (y : BEntry × Bool) : R :=
  { (if y.2 then x else x.retryClear y.1.1.id) with
    results := (if y.2 then x else x.retryClear y.1.1.id).results ++ [(y.1.1, y.1.1, y.1.2, y.1.1.sid, y.2)] }

theorem retryClear_with_results (y : R) (X : List Res) (id : Nat) :
    R.retryClear { y with results := X } id = { y.retryClear id with results := X } := by
  unfold R.retryClear
  show (match y.items.find? (·.id = id) with | none => ({ y with results := X } : R) | some it => _) = _
  cases y.items.find? (·.id = id) with
  | none => rfl
  | some it => rfl

theorem retryClear_withLI (y : R) (l : List Call) (j : List (Nat × Inject)) (id : Nat) :
    R.retryClear (withLI y l j) id = withLI (y.retryClear id) l j := by
  unfold R.retryClear
  show (match y.items.find? (·.id = id) with | none => withLI y l j | some it => _) = _
  cases y.items.find? (·.id = id) with
  | none => rfl
  | some it => rfl

theorem updQ_true (L : R) (e : BEntry) :
    updQ L (e, true) = { L with results := L.results ++ [(e.1, e.1, e.2, e.1.sid, true)] } := rfl

theorem updQ_false (L : R) (e : BEntry) :
    updQ L (e, false) = R.retryClear { L with results := L.results ++ [(e.1, e.1, e.2, e.1.sid, false)] } e.1.id := by
  rw [retryClear_with_results]
  show ({ L.retryClear e.1.id with results := (L.retryClear e.1.id).results ++ [(e.1, e.1, e.2, e.1.sid, false)] } : R) = _
  rw [retryClear_results]

theorem updQ_updP (x : R) (e : BEntry) : updQ (updP x e) (e, x.isFailing e.1.id) = x.processSingle e.1 e.2 false := by
  rw [processSingle_update_raw]
  cases hf : x.isFailing e.1.id with
  | true =>
    rw [updQ_true]
    simp only [if_true]
    unfold updP withLI
    rw [hf]
  | false =>
    rw [updQ_false]
    simp only [Bool.false_eq_true, if_false]
    unfold updP withLI
    rw [hf]

theorem updQ_tbl (t b : R) (y : BEntry × Bool) : updQ (R.tbl t b) y = R.tbl t (updQ b y) := by
  unfold updQ
  cases y.2 with
  | true => rfl
  | false =>
    simp only [Bool.false_eq_true, if_false]
    rw [tbl_retryClear]
    rfl

theorem updQ_withLI (x : R) (l : List Call) (j : List (Nat × Inject)) (y : BEntry × Bool) :
    updQ (withLI x l j) y = withLI (updQ x y) l j := by
  unfold updQ
  cases y.2 with
  | true => rfl
  | false =>
    simp only [Bool.false_eq_true, if_false]
    rw [retryClear_withLI]
    rfl

structure FrameQ (x x' : R) : Prop where
  injects : x'.injects = x.injects
  log : x'.log = x.log
  failing : x'.failing = x.failing
  objs : x'.objs = x.objs
  tableRev : x'.tableRev = x.tableRev
  dels : x'.dels = x.dels
  nextSid : x'.nextSid = x.nextSid

theorem updQ_frame (x : R) (y : BEntry × Bool) : FrameQ x (updQ x y) := by
  unfold updQ
  cases y.2 <;> constructor <;> simp

theorem updQ_isFailing (x : R) (y : BEntry × Bool) (id : Nat) : (updQ x y).isFailing id = x.isFailing id := by
  unfold R.isFailing; rw [(updQ_frame x y).failing]

/-- the bookkeeping of an entry (`updQ`) touches only the retry queue, its timer and the results,
    which no call or landing write reads: it commutes with the calls of the entries after it -/
theorem updQ_comm (x : R) (e' : BEntry) (y : BEntry × Bool) : updQ (updP x e') y = updP (updQ x y) e' := by
  have f := updQ_frame x y
  unfold updP
  rw [f.injects, f.log, updQ_isFailing]
  generalize x.injects.filter (fun (a : Nat × Inject) => a.1 = e'.1.id) = acts
  generalize x.log ++ [({ op := "U", id := e'.1.id, data := e'.1.data, ok := !x.isFailing e'.1.id } : Call)] = l
  generalize x.injects.filter (fun (a : Nat × Inject) => a.1 ≠ e'.1.id) = j
  rw [landAll_of_tbl x (withLI x l j) rfl rfl rfl rfl acts,
    landAll_of_tbl x (withLI (updQ x y) l j) f.objs f.tableRev f.dels f.nextSid acts, updQ_tbl, updQ_withLI]

theorem updateBatch_eq_processSingle (x : R) (us : List BEntry) :
    x.updateBatch us = us.foldl (fun (x : R) (e : BEntry) => x.processSingle e.1 e.2 false) x := by
  have h := foldl_two_phase updP (fun x e => x.isFailing e.1.id) updQ updQ_comm
    (fun x y e => updQ_isFailing x y e.1.id) us x
  -- as in `deleteBatch_eq`
  refine Eq.trans (Eq.trans rfl h) ?_
  congr 1
  funext x e
  exact updQ_updP x e

theorem retryClear_of_no_item (x : R) (id : Nat) (h : ∀ it ∈ x.items, it.id ≠ id) : x.retryClear id = x := by
  unfold R.retryClear
  rw [(LB.find_key_none Item.id).2 h]

theorem stepD_eq_processSingle (x : R) (e : BEntry) (h : ∀ it ∈ x.items, it.id ≠ e.1.id) :
    stepD x.failing x e = x.processSingle e.1 e.2 true := by
  rw [processSingle_delete]
  unfold stepD R.isFailing
  split
  · rfl
  · rw [retryClear_of_no_item _ _ (by simpa using h)]

theorem stepU_eq_processSingle (x : R) (e : BEntry) (hinj : x.injects = []) :
    stepU x.failing x e = x.processSingle e.1 e.2 false := by
  rw [processSingle_update hinj,
    retryClear_with_results { x with log := x.log ++ [⟨"U", e.1.id, e.1.data, true⟩] } (x.results ++ [(e.1, e.1, e.2, e.1.sid, false)])]
  rfl

theorem updateBatch_eq_stepU (r : R) (us : List BEntry) (hinj : r.injects = []) : r.updateBatch us = us.foldl (stepU r.failing) r := by
  rw [updateBatch_eq_processSingle]
  induction us generalizing r with
  | nil => rfl
  | cons e us ih =>
    have hf : (stepU r.failing r e).failing = r.failing ∧ (stepU r.failing r e).injects = r.injects := by
      unfold stepU; split <;> simp
    rw [List.foldl_cons, List.foldl_cons, ← stepU_eq_processSingle r e hinj, ih _ (hf.2.trans hinj), hf.1]

theorem consumeB_nil (r : R) (last : Nat) (ds us : List BEntry) : r.consumeB [] last ds us = (r, [], last, ds, us) := by
  unfold R.consumeB; rfl

/-- the state after a change that is processed was read: iterator moved, retry cleared, counted -/
def readD (r : R) (c : Change) : R :=
  { (R.retryClear { r with itDelRev := c.rev } c.obj.id) with numReconciled := r.numReconciled + 1 }

def readU (r : R) (c : Change) : R :=
  { (R.retryClear { r with itRev := c.rev } c.obj.id) with numReconciled := r.numReconciled + 1 }

theorem ghost_readD (x : R) (c : Change) (a b : Nat) :
    ghost (readD x c) a b = { ghost (x.retryClear c.obj.id) a b with numReconciled := x.numReconciled + 1 } := by
  unfold readD
  show ({ ghost (R.retryClear { x with itDelRev := c.rev } c.obj.id) a b with numReconciled := _ } : R) = _
  rw [← ghost_retryClear, ← ghost_retryClear]; rfl

theorem ghost_readU (x : R) (c : Change) (a b : Nat) :
    ghost (readU x c) a b = { ghost (x.retryClear c.obj.id) a b with numReconciled := x.numReconciled + 1 } := by
  unfold readU
  show ({ ghost (R.retryClear { x with itRev := c.rev } c.obj.id) a b with numReconciled := _ } : R) = _
  rw [← ghost_retryClear, ← ghost_retryClear]; rfl

theorem consumeB_skip (r : R) (c : Change) (cs : List Change) (last : Nat) (ds us : List BEntry)
    (hc : c.deleted = false) (hn : ¬ needs c.obj.kind) :
    r.consumeB (c :: cs) last ds us = R.consumeB { r with itRev := c.rev } cs c.rev ds us := by
  rw [R.consumeB]
  dsimp only
  rw [if_pos ((skipCond_iff c).2 ⟨hc, hn⟩), hc]
  rfl

theorem consumeB_del (r : R) (c : Change) (cs : List Change) (last : Nat) (ds us : List BEntry) (hc : c.deleted = true) :
    r.consumeB (c :: cs) last ds us =
      if (readD r c).numReconciled ≥ (readD r c).cfg.roundSize then (readD r c, cs, c.rev, ds ++ [(c.obj, c.rev)], us)
      else (readD r c).consumeB cs c.rev (ds ++ [(c.obj, c.rev)]) us := by
  rw [R.consumeB]
  dsimp only
  rw [if_neg (fun h => absurd (hc.symm.trans ((skipCond_iff c).1 h).1) (by decide)), hc, retryClear_numReconciled]
  rfl

theorem consumeB_upd (r : R) (c : Change) (cs : List Change) (last : Nat) (ds us : List BEntry) (hc : c.deleted = false)
    (hn : needs c.obj.kind) :
    r.consumeB (c :: cs) last ds us =
      if (readU r c).numReconciled ≥ (readU r c).cfg.roundSize then (readU r c, cs, c.rev, ds, us ++ [(c.obj, c.rev)])
      else (readU r c).consumeB cs c.rev ds (us ++ [(c.obj, c.rev)]) := by
  rw [R.consumeB]
  dsimp only
  rw [if_neg (fun h => ((skipCond_iff c).1 h).2 hn), hc, retryClear_numReconciled]
  rfl

/-- `k` counts the changes read; the loop stops before the end of the changes only when the round
    is full -/
theorem consumeB_steps {P : Nat → R → List Change → List BEntry → List BEntry → Prop}
    (hskip : ∀ k r c cs ds us, P k r (c :: cs) ds us → c.deleted = false → ¬ needs c.obj.kind →
      P (k + 1) { r with itRev := c.rev } cs ds us)
    (hdel : ∀ k r c cs ds us, P k r (c :: cs) ds us → c.deleted = true → P (k + 1) (readD r c) cs (ds ++ [(c.obj, c.rev)]) us)
    (hupd : ∀ k r c cs ds us, P k r (c :: cs) ds us → c.deleted = false → needs c.obj.kind →
      P (k + 1) (readU r c) cs ds (us ++ [(c.obj, c.rev)]))
    (cs : List Change) (k : Nat) (r : R) (last : Nat) (ds us : List BEntry) (h : P k r cs ds us) :
    ∃ k', k ≤ k' ∧ (cs ≠ [] → k < k') ∧
      P k' (r.consumeB cs last ds us).1 (r.consumeB cs last ds us).2.1 (r.consumeB cs last ds us).2.2.2.1 (r.consumeB cs last ds us).2.2.2.2 ∧
      ((r.consumeB cs last ds us).1.numReconciled < (r.consumeB cs last ds us).1.cfg.roundSize → (r.consumeB cs last ds us).2.1 = []) := by
  induction cs generalizing k r last ds us with
  | nil => rw [consumeB_nil]; exact ⟨k, Nat.le_refl _, fun e => absurd rfl e, h, fun _ => rfl⟩
  | cons c cs ih =>
    have hfull : ∀ (X : R) (ds' us' : List BEntry), (r.consumeB (c :: cs) last ds us =
          if X.numReconciled ≥ X.cfg.roundSize then (X, cs, c.rev, ds', us') else X.consumeB cs c.rev ds' us') →
        r.consumeB (c :: cs) last ds us = X.consumeB cs c.rev ds' us' ∨
          (X.numReconciled ≥ X.cfg.roundSize ∧ r.consumeB (c :: cs) last ds us = (X, cs, c.rev, ds', us')) := by
      intro X ds' us' e
      by_cases hf : X.numReconciled ≥ X.cfg.roundSize
      · exact Or.inr ⟨hf, e.trans (if_pos hf)⟩
      · exact Or.inl (e.trans (if_neg hf))
    obtain ⟨r1, ds1, us1, h1, e⟩ : ∃ r1 ds1 us1, P (k + 1) r1 cs ds1 us1 ∧
        (r.consumeB (c :: cs) last ds us = r1.consumeB cs c.rev ds1 us1 ∨
          (r1.numReconciled ≥ r1.cfg.roundSize ∧ r.consumeB (c :: cs) last ds us = (r1, cs, c.rev, ds1, us1))) := by
      cases hc : c.deleted with
      | true => exact ⟨_, _, _, hdel k r c cs ds us h hc, hfull _ _ _ (consumeB_del _ _ _ _ _ _ hc)⟩
      | false =>
        by_cases hn : needs c.obj.kind
        · exact ⟨_, _, _, hupd k r c cs ds us h hc hn, hfull _ _ _ (consumeB_upd _ _ _ _ _ _ hc hn)⟩
        · exact ⟨_, _, _, hskip k r c cs ds us h hc hn, Or.inl (consumeB_skip _ _ _ _ _ _ hc hn)⟩
    rcases e with e | ⟨hf, e⟩ <;> rw [e]
    · obtain ⟨k', a, _, b⟩ := ih (k + 1) r1 c.rev ds1 us1 h1
      exact ⟨k', Nat.le_of_succ_le a, fun _ => a, b⟩
    · exact ⟨k + 1, Nat.le_succ _, fun _ => Nat.lt_succ_self _, h1, fun hlt => absurd hlt (Nat.not_lt.2 hf)⟩

theorem consumeB_ind {P : R → List Change → List BEntry → List BEntry → Prop}
    (hskip : ∀ r c cs ds us, P r (c :: cs) ds us → c.deleted = false → ¬ needs c.obj.kind → P { r with itRev := c.rev } cs ds us)
    (hdel : ∀ r c cs ds us, P r (c :: cs) ds us → c.deleted = true → P (readD r c) cs (ds ++ [(c.obj, c.rev)]) us)
    (hupd : ∀ r c cs ds us, P r (c :: cs) ds us → c.deleted = false → needs c.obj.kind →
      P (readU r c) cs ds (us ++ [(c.obj, c.rev)]))
    (cs : List Change) (r : R) (last : Nat) (ds us : List BEntry) (h : P r cs ds us) :
    P (r.consumeB cs last ds us).1 (r.consumeB cs last ds us).2.1 (r.consumeB cs last ds us).2.2.2.1 (r.consumeB cs last ds us).2.2.2.2 ∧
    ((r.consumeB cs last ds us).1.numReconciled < (r.consumeB cs last ds us).1.cfg.roundSize → (r.consumeB cs last ds us).2.1 = []) := by
  obtain ⟨_, _, _, a, b⟩ := consumeB_steps (P := fun _ => P) (fun _ => hskip) (fun _ => hdel) (fun _ => hupd) cs 0 r last ds us h
  exact ⟨a, b⟩

/-- `x` is `r` after a processed change of the object `id` was read; `a` / `b`: the iterator positions afterwards -/
structure FrameRead (r x : R) (id a b : Nat) : Prop extends FrameC r x where
  log : x.log = r.log
  results : x.results = r.results
  itRev : x.itRev = a
  itDelRev : x.itDelRev = b
  items : x.items = r.items.filter (·.id ≠ id)

theorem readD_frame (r : R) (c : Change) : FrameRead r (readD r c) c.obj.id r.itRev c.rev := by
  unfold readD
  exact { toFrameC := by constructor <;> simp, log := by simp, results := by simp, itRev := by simp, itDelRev := by simp,
          items := by simp [retryClear_items] }

theorem readU_frame (r : R) (c : Change) : FrameRead r (readU r c) c.obj.id c.rev r.itDelRev := by
  unfold readU
  exact { toFrameC := by constructor <;> simp, log := by simp, results := by simp, itRev := by simp, itDelRev := by simp,
          items := by simp [retryClear_items] }

theorem consumeB_frame (cs : List Change) (x : R) (last : Nat) (ds us : List BEntry) :
    FrameC x (x.consumeB cs last ds us).1 ∧ (x.consumeB cs last ds us).1.results = x.results :=
  (consumeB_ind (P := fun y _ _ _ => FrameC x y ∧ y.results = x.results)
    (fun _ _ _ _ _ h _ _ => ⟨h.1.trans ⟨rfl, rfl, rfl, rfl, rfl, rfl, rfl, rfl, rfl⟩, h.2⟩)
    (fun y c _ _ _ h _ => ⟨h.1.trans (readD_frame y c).toFrameC, (readD_frame y c).results.trans h.2⟩)
    (fun y c _ _ _ h _ _ => ⟨h.1.trans (readU_frame y c).toFrameC, (readU_frame y c).results.trans h.2⟩)
    cs x last ds us ⟨FrameC.refl x, rfl⟩).1

structure FrameB (r r' : R) : Prop where
  t : FrameT r r'
  numReconciled : r'.numReconciled = r.numReconciled

theorem FrameB.refl (r : R) : FrameB r r := ⟨FrameT.refl r, rfl⟩
theorem FrameB.trans {a b c : R} (h1 : FrameB a b) (h2 : FrameB b c) : FrameB a c :=
  ⟨h1.t.trans h2.t, h2.numReconciled.trans h1.numReconciled⟩

/-- the state of a batch round after the operations ran: `co` what the collecting loop returned -/
def batchOps (co : R × List Change × Nat × List BEntry × List BEntry) (pend : Option (List Change)) : R :=
  (R.deleteBatch { co.1 with pending := pend } co.2.2.2.1).updateBatch co.2.2.2.2

theorem foldl_stepD_frame (fl : List Nat) (dl : List BEntry) (x : R) :
    FrameB x (dl.foldl (stepD fl) x) ∧ (dl.foldl (stepD fl) x).nextSid = x.nextSid := by
  induction dl generalizing x with
  | nil => exact ⟨FrameB.refl x, rfl⟩
  | cons e dl ih =>
    have h1 : FrameB x (stepD fl x e) ∧ (stepD fl x e).nextSid = x.nextSid := by
      unfold stepD; split <;> exact ⟨⟨⟨rfl, rfl, rfl, rfl, rfl, rfl, rfl, rfl, rfl, rfl, rfl⟩, rfl⟩, rfl⟩
    exact ⟨h1.1.trans (ih _).1, (ih _).2.trans h1.2⟩

theorem foldl_processSingle_frame (ul : List BEntry) (x : R) :
    FrameRJ x (ul.foldl (fun (x : R) (e : BEntry) => x.processSingle e.1 e.2 false) x) ∧
    (ul.foldl (fun (x : R) (e : BEntry) => x.processSingle e.1 e.2 false) x).numReconciled = x.numReconciled := by
  induction ul generalizing x with
  | nil => exact ⟨FrameRJ.refl x, rfl⟩
  | cons e ul ih =>
    obtain ⟨h1, h2, _⟩ := processSingle_update_spec x e.1 e.2
    exact ⟨h1.trans (ih _).1, (ih _).2.trans h2⟩

theorem batchOps_eq (co : R × List Change × Nat × List BEntry × List BEntry) (pend : Option (List Change)) :
    batchOps co pend = co.2.2.2.2.foldl (fun (x : R) (e : BEntry) => x.processSingle e.1 e.2 false)
      (co.2.2.2.1.foldl (stepD ({ co.1 with pending := pend } : R).failing) { co.1 with pending := pend }) := by
  unfold batchOps
  rw [deleteBatch_eq, updateBatch_eq_processSingle]

theorem batchOps_frame (co : R × List Change × Nat × List BEntry × List BEntry) (pend : Option (List Change)) :
    FrameRJ { co.1 with pending := pend } (batchOps co pend) ∧ (batchOps co pend).numReconciled = co.1.numReconciled := by
  rw [batchOps_eq]
  obtain ⟨d1, d2⟩ := foldl_stepD_frame ({ co.1 with pending := pend } : R).failing co.2.2.2.1 { co.1 with pending := pend }
  obtain ⟨u1, u2⟩ := foldl_processSingle_frame co.2.2.2.2 (co.2.2.2.1.foldl (stepD ({ co.1 with pending := pend } : R).failing) { co.1 with pending := pend })
  exact ⟨(d1.t.frameRJ d2).trans u1, u2.trans d1.numReconciled⟩

theorem foldl_processSingle_injSub (ul : List BEntry) (x : R) :
    InjSub x (ul.foldl (fun (x : R) (e : BEntry) => x.processSingle e.1 e.2 false) x) := by
  induction ul generalizing x with
  | nil => exact InjSub.refl x
  | cons e ul ih => exact (processSingle_injSub x e.1 e.2 false).trans (ih _)

theorem batchOps_injSub (co : R × List Change × Nat × List BEntry × List BEntry) (pend : Option (List Change)) :
    InjSub co.1 (batchOps co pend) := by
  rw [batchOps_eq]
  refine InjSub.trans (InjSub.of_eq ?_) (foldl_processSingle_injSub _ _)
  exact (foldl_stepD_frame _ _ _).1.t.injects

/-- no foreign status write that lands during the update batch hits an Error object -/
def R.batchSafe (r : R) : List BEntry → Prop
  | [] => True
  | e :: us => r.updSafe e.1 ∧ (r.processSingle e.1 e.2 false).batchSafe us

theorem batchSafe_of_noTouch (us : List BEntry) (x : R) (h : NoTouch x.injects) : x.batchSafe us := by
  induction us generalizing x with
  | nil => trivial
  | cons e us ih =>
    exact ⟨updSafe_of_noTouch x e.1 h, ih _ ((processSingle_injSub x e.1 e.2 false).noTouch h)⟩

theorem batchSafe_deleteBatch (x : R) (ds us : List BEntry) (h : NoTouch x.injects) : (x.deleteBatch ds).batchSafe us :=
  batchSafe_of_noTouch _ _ (by rw [deleteBatch_eq, (foldl_stepD_frame _ _ _).1.t.injects]; exact h)

/-- the `pending` flag the round leaves: what the collecting loop did not read -/
def pendAfter (changes : List Change) (co : R × List Change × Nat × List BEntry × List BEntry) : Option (List Change) :=
  if changes.isEmpty ∧ co.1.pending.isNone then none else
    if (co.2.1.isEmpty ∧ co.1.numReconciled < co.1.cfg.roundSize) then none else some co.2.1

/-- what the collecting loop returns: state, changes left unread, revision of the last one read, delete batch, update batch -/
def collectB (r : R) : R × List Change × Nat × List BEntry × List BEntry := r.nextChanges.1.consumeB r.nextChanges.2 0 [] []

/-- the state of a batch round before its tail (status commit, retries) -/
def batchMid (r : R) : R := batchOps (collectB r) (pendAfter r.nextChanges.2 (collectB r))

theorem roundB_eq (r : R) : r.roundB = roundTail (batchMid r) (collectB r).2.2.1 := by
  unfold batchMid collectB
  generalize hn : r.nextChanges = nc
  unfold R.roundB
  rw [hn]
  rfl

theorem batchMid_injSub (r : R) : InjSub r (batchMid r) :=
  ((InjSub.of_eq (by rcases nextChanges_fst r with e | e <;> rw [e])).trans
    (InjSub.of_eq (consumeB_frame r.nextChanges.2 r.nextChanges.1 0 [] []).1.injects)).trans (batchOps_injSub _ _)

theorem roundB_injSub (r : R) : InjSub r r.roundB :=
  roundB_eq r ▸ (batchMid_injSub r).trans (roundTail_injSub _ _)

theorem pendAfter_none {changes : List Change} {co : R × List Change × Nat × List BEntry × List BEntry}
    (hnil : changes = [] → co.2.1 = []) (h : pendAfter changes co = none) : co.2.1 = [] := by
  unfold pendAfter at h
  split at h
  · rename_i h1; exact hnil (by simpa using h1.1)
  · split at h
    · rename_i h1; simpa using h1.1
    · cases h

theorem quiesceB_eq (r : R) (fuel : Nat) : r.quiesceB fuel = quiesceW R.roundB r fuel := by
  induction fuel generalizing r with
  | zero => rfl
  | succ n ih => rw [R.quiesceB, quiesceW]; simp only [ih]

theorem advanceB_eq (r : R) (ms fuel : Nat) : r.advanceB ms fuel = advanceW R.roundB r ms fuel := by
  induction fuel generalizing r ms with
  | zero => rfl
  | succ n ih =>
    rw [R.advanceB, advanceW]
    simp only [ih, quiesceB_eq]
    cases r.timer <;> rfl

end Sdb.Rec
