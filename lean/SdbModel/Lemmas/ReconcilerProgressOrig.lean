import SdbModel.Lemmas.ReconcilerProgressPace

/-!
  With `origRev` kept over the retries of an item (`retries.Add`), every Update item carries the
  object version whose Update failed FIRST: `it.obj` is Pending / Refreshing and
  `it.origRev = it.obj.rev` (valid backoff configuration).
-/
namespace Sdb.Rec

def OI (r : R) : Prop := ∀ it ∈ r.items, it.delete = false → it.origRev = it.obj.rev ∧ needs it.obj.kind ∧ it.obj.id = it.id

theorem OI.round {r : R} (h : OI r) (hp : PInv r) (hpos : PosB r.cfg) : OI r.round := by
  obtain ⟨_, b⟩ := round_items_calls hp.w.rinv hpos
  intro it' hit' hd
  rcases b it' hit' with c | c | ⟨it, hit, d⟩
  · exact h it' c hd
  · rcases c.change with ⟨e, _⟩ | ⟨_, _, e2, _, e4⟩
    · rw [hd] at e; cases e
    · exact ⟨e4, e2, c.objId.symm⟩
  · obtain ⟨a1, a2, a3⟩ := h it hit (by rw [← d.delete]; exact hd)
    exact ⟨by rw [d.origRev, d.obj]; exact a1, by rw [d.obj]; exact a2, by rw [d.obj, a3]; exact d.id⟩

theorem OI.congr {r r' : R} (h : OI r) (e : r'.items = r.items) : OI r' := by unfold OI; rw [e]; exact h

theorem OI.quiesce {r : R} (h : OI r) (hp : PInv r) (hpos : PosB r.cfg) (fuel : Nat) : OI (r.quiesce fuel) :=
  (quiesce_ind (P := fun x => OI x ∧ PInv x ∧ PosB x.cfg)
    (fun x h => ⟨h.1.congr (congrArg V.items (fireTimer_v x)), h.2.1.fireTimer, by rw [← v_cfg, fireTimer_v]; exact h.2.2⟩)
    (fun x h => ⟨h.1.round h.2.1 h.2.2, h.2.1.round, by rw [h.2.1.w.round_frame.cfg]; exact h.2.2⟩) ⟨h, hp, hpos⟩ fuel).1

theorem OI.advance {r : R} (h : OI r) (hp : PInv r) (hpos : PosB r.cfg) (ms fuel : Nat) : OI (r.advance ms fuel) :=
  (advance_ind (P := fun x => OI x ∧ PInv x ∧ PosB x.cfg) (fun _ t ht h => ⟨h.1.congr rfl, h.2.1.setNow t ht, h.2.2⟩)
    (fun _ fuel h => ⟨h.1.quiesce h.2.1 h.2.2 fuel, h.2.1.quiesce fuel, by rw [(h.2.1.w.quiesce_frame fuel).cfg]; exact h.2.2⟩) ⟨h, hp, hpos⟩ ms fuel).1

end Sdb.Rec
