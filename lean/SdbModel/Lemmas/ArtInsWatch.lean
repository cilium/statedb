import SdbModel.Lemmas.ArtFrame
import SdbModel.Lemmas.ArtTxn

/-! The channel returned by InsertWatch / ModifyWatch (Model.Art) is the one a later Get of that key hands
    out, and it is not nil outside root-only-watch mode in a transaction whose id is not 0. -/
namespace Sdb.ArtW
open Sdb.Art

theorem searchNode_leaf_self (k : List Nat) (d : LeafD) (w : Nat) :
    (searchNode (.leaf k d) w k).2 = if d.watch ≠ 0 then d.watch else w := by
  unfold searchNode
  simp [Node.pfx, hasPrefix_self, Node.getLeaf]

theorem W.found {f : Node → List Nat → Option Nat} {fK : Kids → Nat → List Nat → Option Nat}
    (hf : Chan true f fK)
    {id : Nat} {st st' : St} {n : Node} {key : List Nat} {res : Option Node} {rw : Option Nat}
    (h : W id st n key st' res rw) : ∀ w, rw = some w → w ≠ 0 → chR f res key = some w := by
  induction h with
  | kid hp hk hfind _ _ ih =>
    rintro w rfl h0
    show f _ _ = _
    rw [hf.deeper _ _ _ _ _ hp hk, hf.kids_some.mpr ⟨_, find_set_self _ _ _ _ hfind, ih w rfl h0⟩]; rfl
  | slot hp hk hfind _ _ =>
    rintro w ⟨⟩ h0
    show f _ _ = _
    rw [hf.deeper _ _ _ _ _ hp hk, hf.kids_some.mpr ⟨_, find_insert_self _ _ _ hfind, (hf.leaf_self _ _ rfl).trans (nz_of_ne h0)⟩]; rfl
  | atInner _ _ => rintro w ⟨⟩ h0; exact (hf.inner_self _ _ _ _ _ _ rfl).trans (nz_of_ne h0)
  | atLeaf _ => rintro w ⟨⟩ h0; exact (hf.leaf_self _ _ rfl).trans (nz_of_ne h0)
  | @fork st1 st2 st3 n this key k4 d w4 hex _ _ _ _ =>
    rintro w ⟨⟩ h0
    have hcp := commonPrefix_hasPrefix key n.pfx
    refine hf.fork_new _ _ _ _ _ _ _ hcp rfl ?_ ?_ h0
    · rw [Node.pfx_setPfx]; exact (commonPrefix_split key n.pfx).2.2
    · intro hk hth
      rw [Node.pfx_setPfx] at hth
      exact hex ((hasPrefix_drop_nil _ _ hcp hk).trans
        (hasPrefix_drop_nil _ _ (commonPrefix_hasPrefix_right key n.pfx) hth).symm)
  | kidGone _ _ _ _ _ _ => rintro _ ⟨⟩
  | kidGoneMerge _ _ _ _ _ _ => rintro _ ⟨⟩
  | delLeaf => rintro _ ⟨⟩
  | delMerge => rintro _ ⟨⟩
  | delClone _ => rintro _ ⟨⟩
  | delGone => rintro _ ⟨⟩

theorem insKids_search (P : ArtParams) (st : St) : (kids : Kids) → (b : Nat) → (key full : List Nat) → (val : Nat) →
    (mod : Option (Nat → Nat → Nat)) → (r : InsRes) → (kids' : Kids) →
    insKids P st kids b key full val mod = some (r, kids') → r.watch ≠ 0 → ∀ w, (searchK kids' b w key).2 = r.watch := by
  intro kids b key full val mod r kids' h h0 w
  obtain ⟨n, hfind, rfl, rfl⟩ := insKids_some h
  rw [searchK_find, find_set_self b _ kids n hfind]
  rw [search_eq_pw, show pw _ key = _ from (insNode_W P st n key full val mod).found pwChan _ rfl h0]; rfl

theorem fresh_pos (st : St) (hro : st.rootOnly = false) (hnw : 0 < st.nextW) : st.fresh.2 ≠ 0 := by
  unfold St.fresh; simp [hro]; omega

theorem newLeafD_watch_pos (st : St) (full : List Nat) (v : Nat) (hro : st.rootOnly = false) (hnw : 0 < st.nextW) :
    (newLeafD st full v).2.watch ≠ 0 := by
  unfold newLeafD; exact fresh_pos st hro hnw

/-- `hid`: an entry reports stamp 0 (`Node.txn`), so a transaction with id 0 takes every entry for its own and
    returns the entry's channel as it finds it. -/
theorem Re.pos {st st' : St} {lf : Option LeafD} {w' : Nat} (h : Re st lf st' w') (hro : st.rootOnly = false)
    (hnw : 0 < st.nextW) (hid : st.txnID ≠ 0) : w' ≠ 0 := by
  cases h with
  | clone =>
    rw [reclone, if_neg (fun e => hid e.symm)]
    exact fresh_pos _ ((record_le _ _).ro.trans hro) (Nat.lt_of_lt_of_le hnw (record_le _ _).nw)
  | new => exact fresh_pos _ hro hnw

theorem W.pos {id : Nat} {st st' : St} {n : Node} {key : List Nat} {res : Option Node} {rw : Option Nat}
    (h : W id st n key st' res rw) (hro : st.rootOnly = false) (hnw : 0 < st.nextW) (hid : st.txnID ≠ 0) :
    ∀ w, rw = some w → w ≠ 0 := by
  induction h with
  | kid _ _ _ _ _ ih => exact ih
  | slot _ _ _ hre _ => rintro _ ⟨⟩; exact hre.pos hro hnw hid
  | atInner hrw hre =>
    rintro _ ⟨⟩
    exact hre.pos (hrw.le.ro.trans hro) (Nat.lt_of_lt_of_le hnw hrw.le.nw) (by rw [hrw.le.id]; exact hid)
  | atLeaf hre => rintro _ ⟨⟩; exact hre.pos hro hnw hid
  | fork _ _ hin hre _ =>
    rintro _ ⟨⟩
    exact hre.pos (hin.le.ro.trans hro) (Nat.lt_of_lt_of_le hnw hin.le.nw) (by rw [hin.le.id]; exact hid)
  | kidGone _ _ _ _ _ _ => rintro _ ⟨⟩
  | kidGoneMerge _ _ _ _ _ _ => rintro _ ⟨⟩
  | delLeaf => rintro _ ⟨⟩
  | delMerge => rintro _ ⟨⟩
  | delClone _ => rintro _ ⟨⟩
  | delGone => rintro _ ⟨⟩

theorem insKids_watch_pos (P : ArtParams) (st : St) (hro : st.rootOnly = false) (hnw : 0 < st.nextW) (hid : st.txnID ≠ 0) :
    (kids : Kids) → (b : Nat) → (key full : List Nat) → (val : Nat) → (mod : Option (Nat → Nat → Nat)) →
    (r : InsRes) → (kids' : Kids) → insKids P st kids b key full val mod = some (r, kids') → r.watch ≠ 0 := by
  intro kids b key full val mod r kids' h
  obtain ⟨n, _, rfl, _⟩ := insKids_some h
  exact (insNode_W P st n key full val mod).pos hro hnw hid _ rfl

theorem WR.found {f : Node → List Nat → Option Nat} {fK : Kids → Nat → List Nat → Option Nat} (hf : Chan true f fK)
    {id : Nat} {st st' : St} {root root' : Option Node} {key : List Nat} {w : Nat}
    (h : WR id st root key st' root' (some w)) (h0 : w ≠ 0) : chR f root' key = some w := by
  cases h with
  | node h => exact h.found hf w rfl h0
  | first _ => exact (hf.leaf_self _ _ rfl).trans (nz_of_ne h0)

theorem WR.pos {id : Nat} {st st' : St} {root root' : Option Node} {key : List Nat} {w : Nat}
    (h : WR id st root key st' root' (some w)) (hro : st.rootOnly = false) (hnw : 0 < st.nextW) (hid : st.txnID ≠ 0) :
    w ≠ 0 := by
  cases h with
  | node h => exact h.pos hro hnw hid w rfl
  | first hre => exact hre.pos hro hnw hid

theorem txn_insert_watch_eq_get (P : ArtParams) (x : Txn) (k : List Nat) (v : Nat) (m : Option (Nat → Nat → Nat))
    (rw : Nat) (hro : x.st.rootOnly = false) (h0 : (x.insert P k v m).2.2.2 ≠ 0) :
    (getRoot (x.insert P k v m).1.root rw k).2 = (x.insert P k v m).2.2.2 := by
  obtain ⟨w, hw, he⟩ := insert_wrote P x k v m
  rw [he hro] at h0 ⊢
  have hf := hw.w.found pwChan h0
  cases hr : (x.insert P k v m).1.root with
  | none => rw [hr] at hf; cases hf
  | some r =>
    rw [hr] at hf
    rw [getRoot, search_eq_pw, show pw r k = some w from hf]; rfl

end Sdb.ArtW
