import SdbModel.Lemmas.LpmKey

/-! The trie invariant `WF`, stated with `Below`, and `Covers`, in which the results about `lookup` and `prefixNode`
    speak; `walk_ind`, the induction all walks share, with the case analysis at a node (`WalkCase`); `lookupExact`
    and `insert` against the list of entries. -/
namespace Sdb.Lpm
variable {α : Type}

/-- key `(d', p')` lies in the `b`-subtree below the node with key `(d, p)` -/
def Below (d : List Nat) (p b : Nat) (d' : List Nat) (p' : Nat) : Prop :=
  p < p' ∧ Agree d d' p ∧ getBitAt d' p = b

/-- prefix `(d, p)` covers `(d', p')`.  About `lookup` the stored prefix comes first and the query second; about
    `prefixNode` the query comes first. -/
def Covers (d : List Nat) (p : Nat) (d' : List Nat) (p' : Nat) : Prop := p ≤ p' ∧ Agree d d' p

instance (a b : List Nat) (n : Nat) : Decidable (Agree a b n) :=
  Nat.decidableBallLT n (fun j _ => getBitAt a j = getBitAt b j)

instance (d : List Nat) (p : Nat) (d' : List Nat) (p' : Nat) : Decidable (Covers d p d' p') :=
  inferInstanceAs (Decidable (_ ∧ _))

section
variable {d d' d'' : List Nat} {p p' p'' b : Nat}

theorem Covers.le (h : Covers d p d' p') : p ≤ p' := h.1
theorem Covers.agree (h : Covers d p d' p') : Agree d d' p := h.2
theorem Covers.refl (d : List Nat) (p : Nat) : Covers d p d p := ⟨Nat.le_refl _, Agree.refl _ _⟩
theorem Covers.zero (d d' : List Nat) (p' : Nat) : Covers d 0 d' p' := ⟨Nat.zero_le _, Agree.zero _ _⟩
theorem Covers.trans (h : Covers d p d' p') (h' : Covers d' p' d'' p'') : Covers d p d'' p'' :=
  ⟨Nat.le_trans h.1 h'.1, h.2.trans (h'.2.mono h.1)⟩

theorem Covers.unique (h : Covers d p d'' p'') (h' : Covers d' p d'' p'') (hd : Canon d p) (hd' : Canon d' p) :
    d = d' :=
  canon_ext _ _ _ hd hd' (h.2.trans h'.2.symm)

theorem Below.lt (h : Below d p b d' p') : p < p' := h.1
theorem Below.agree (h : Below d p b d' p') : Agree d d' p := h.2.1
theorem Below.bit (h : Below d p b d' p') : getBitAt d' p = b := h.2.2
theorem Below.covers (h : Below d p b d' p') : Covers d p d' p' := ⟨Nat.le_of_lt h.1, h.2.1⟩

theorem Below.not_covers (h : Below d p b d' p') {data : List Nat} {plen : Nat} (hb : getBitAt data p ≠ b) :
    ¬ Covers d' p' data plen :=
  fun k => hb ((k.2 p h.1).symm.trans h.2.2)

theorem Below.not_covered (h : Below d p b d' p') {data : List Nat} {plen : Nat} (hb : getBitAt data p ≠ b)
    (hlt : p < plen) : ¬ Covers data plen d' p' :=
  fun k => hb ((k.2 p hlt).trans h.2.2)

end

def AllKeys (P : List Nat → Nat → Prop) : Trie α → Prop
  | .nil => True
  | .node d p _ c0 c1 => P d p ∧ AllKeys P c0 ∧ AllKeys P c1

/-- well-formed tries: canonical keys, imaginary nodes have two children, every node of the
    `b`-subtree extends the node's prefix by bit `b` -/
def WF : Trie α → Prop
  | .nil => True
  | .node d p v c0 c1 => Canon d p ∧ (v = none → c0 ≠ .nil ∧ c1 ≠ .nil) ∧
      AllKeys (Below d p 0) c0 ∧ AllKeys (Below d p 1) c1 ∧ WF c0 ∧ WF c1

section
variable {d : List Nat} {p : Nat} {v : Option α} {c0 c1 : Trie α}

theorem WF.canon (h : WF (.node d p v c0 c1)) : Canon d p := h.1
theorem WF.img (h : WF (.node d p v c0 c1)) : v = none → c0 ≠ .nil ∧ c1 ≠ .nil := h.2.1
theorem WF.below0 (h : WF (.node d p v c0 c1)) : AllKeys (Below d p 0) c0 := h.2.2.1
theorem WF.below1 (h : WF (.node d p v c0 c1)) : AllKeys (Below d p 1) c1 := h.2.2.2.1
theorem WF.left (h : WF (.node d p v c0 c1)) : WF c0 := h.2.2.2.2.1
theorem WF.right (h : WF (.node d p v c0 c1)) : WF c1 := h.2.2.2.2.2

end

/-- what the walks know about `matchLen` when they arrive at a node -/
def Pre (s : Nat) (data : List Nat) (plen : Nat) : Trie α → Prop
  | .nil => True
  | .node nd npl _ _ _ => s ≤ npl ∧ s ≤ plen ∧ Agree nd data s

theorem AllKeys.imp {P Q : List Nat → Nat → Prop} (h : ∀ d p, P d p → Q d p) :
    ∀ (t : Trie α), AllKeys P t → AllKeys Q t
  | .nil, _ => trivial
  | .node _ _ _ c0 c1, ⟨h1, h2, h3⟩ => ⟨h _ _ h1, AllKeys.imp h c0 h2, AllKeys.imp h c1 h3⟩

theorem pre_child {nd : List Nat} {npl b : Nat} {data : List Nat} {plen : Nat} {c : Trie α}
    (hB : AllKeys (Below nd npl b) c) (hle : npl ≤ plen) (hag : Agree nd data npl) : Pre npl data plen c := by
  cases c with
  | nil => trivial
  | node cd cp cv cc0 cc1 =>
    have hb : Below nd npl b cd cp := hB.1
    exact ⟨Nat.le_of_lt hb.lt, hle, hb.agree.symm.trans hag⟩

theorem pre_zero (data : List Nat) (plen : Nat) (t : Trie α) : Pre 0 data plen t := by
  cases t with
  | nil => trivial
  | node => exact ⟨Nat.zero_le _, Nat.zero_le _, Agree.zero _ _⟩

/-- Where the walk for the canonical query `(data, plen)` stands at a node `(nd, npl)` that shares `ml` bits with it;
    `L` and `R` are what is known of the two children when the walk goes on. -/
inductive WalkCase (nd : List Nat) (npl : Nat) (data : List Nat) (plen ml : Nat) (L R : Prop) : Prop
  | equal (hml : ml = plen) (hnpl : npl = plen) (hnd : nd = data)
  | above (hml : ml = plen) (hlt : plen < npl)
  | fork (hp : ml < plen) (hn : ml < npl) (hne : getBitAt nd ml ≠ getBitAt data ml)
  | descend (hml : ml = npl) (hlt : npl < plen) (left : L) (right : R)

theorem WalkCase.imp {nd data : List Nat} {npl plen ml : Nat} {L R L' R' : Prop} (f : L → L') (g : R → R') :
    WalkCase nd npl data plen ml L R → WalkCase nd npl data plen ml L' R'
  | .equal hml hnpl hnd => .equal hml hnpl hnd
  | .above hml hlt => .above hml hlt
  | .fork hp hn hne => .fork hp hn hne
  | .descend hml hlt l r => .descend hml hlt (f l) (g r)

/-- `equal` and `above` as one, for the walks that do not ask whether a covered node carries the query's own key -/
theorem WalkCase.elim_covered {nd data : List Nat} {npl plen ml : Nat} {L R C : Prop}
    (hc : WalkCase nd npl data plen ml L R) (covered : ml = plen → plen ≤ npl → C)
    (fork : ml < plen → ml < npl → getBitAt nd ml ≠ getBitAt data ml → C)
    (descend : ml = npl → npl < plen → L → R → C) : C :=
  match hc with
  | .equal hml hnpl _ => covered hml (Nat.le_of_eq hnpl.symm)
  | .above hml hlt => covered hml (Nat.le_of_lt hlt)
  | .fork hp hn hne => fork hp hn hne
  | .descend hml hlt l r => descend hml hlt l r

theorem walk_cases {nd : List Nat} {npl : Nat} {nv : Option α} {c0 c1 : Trie α} {data : List Nat} {plen s : Nat}
    (hwf : WF (.node nd npl nv c0 c1)) (hq : Canon data plen) (hpre : Pre s data plen (.node nd npl nv c0 c1)) :
    ∃ ml, longestMatch s nd npl data plen = ml ∧ Agree nd data ml ∧
      WalkCase nd npl data plen ml (Pre npl data plen c0) (Pre npl data plen c1) := by
  have hn := hwf.canon
  obtain ⟨ml, hml, hnl, hpl, hag, hne⟩ :=
    longestMatch_spec nd npl data plen s hn.bytes hq.bytes hn.le_len hq.le_len hpre.1 hpre.2.1 hpre.2.2
  refine ⟨ml, hml, hag, ?_⟩
  by_cases hp : ml = plen <;> by_cases hnp : ml = npl
  · subst hp hnp
    exact .equal rfl rfl (canon_ext _ _ _ hn hq hag)
  · exact .above hp (by omega)
  · subst hnp
    exact .descend rfl (by omega) (pre_child hwf.below0 hpl hag) (pre_child hwf.below1 hpl hag)
  · exact .fork (by omega) (by omega) (hne (by omega) (by omega))

/-- Induction along the walk for a canonical query.  At a node the step may assume the motive for both children with
    `npl` bits matched, which is where the walk goes on if it does; `Pre` is carried along here. -/
theorem walk_ind {data : List Nat} {plen : Nat} (hq : Canon data plen) {motive : Trie α → Nat → Prop}
    (nil : ∀ s, motive .nil s)
    (node : ∀ nd npl nv c0 c1 s ml, WF (.node nd npl nv c0 c1) → longestMatch s nd npl data plen = ml →
      Agree nd data ml → WalkCase nd npl data plen ml (motive c0 npl) (motive c1 npl) →
      motive (.node nd npl nv c0 c1) s) :
    ∀ (t : Trie α) (s : Nat), WF t → Pre s data plen t → motive t s := by
  intro t
  induction t with
  | nil => intro s _ _; exact nil s
  | node nd npl nv c0 c1 ih0 ih1 =>
    intro s hwf hpre
    obtain ⟨ml, hml, hag, hc⟩ := walk_cases hwf hq hpre
    exact node nd npl nv c0 c1 s ml hwf hml hag (hc.imp (ih0 npl hwf.left) (ih1 npl hwf.right))

theorem preorder_nil : preorder (.nil : Trie α) = [] := rfl

def selfEntry (d : List Nat) (p : Nat) : Option α → List (List Nat × Nat × α)
  | some x => [(d, p, x)]
  | none => []

theorem mem_selfEntry {d : List Nat} {p : Nat} {nv : Option α} {e : List Nat × Nat × α} :
    e ∈ selfEntry d p nv ↔ nv = some e.2.2 ∧ e.1 = d ∧ e.2.1 = p := by
  cases nv with
  | none => exact ⟨nofun, nofun⟩
  | some x =>
    rw [selfEntry, List.mem_singleton, Option.some.injEq]
    exact ⟨fun h => h ▸ ⟨rfl, rfl, rfl⟩, fun ⟨h1, h2, h3⟩ => by rw [← h2, ← h3, h1]⟩

theorem preorder_node (d : List Nat) (p : Nat) (v : Option α) (c0 c1 : Trie α) :
    preorder (.node d p v c0 c1) = selfEntry d p v ++ preorder c0 ++ preorder c1 := by
  cases v <;> rfl

theorem mem_preorder_node (d' : List Nat) (p' : Nat) (v' : α) (d : List Nat) (p : Nat) (nv : Option α)
    (c0 c1 : Trie α) :
    (d', p', v') ∈ preorder (.node d p nv c0 c1) ↔
      (d' = d ∧ p' = p ∧ some v' = nv) ∨ (d', p', v') ∈ preorder c0 ∨ (d', p', v') ∈ preorder c1 := by
  simp only [preorder, List.mem_append, or_assoc]
  cases nv with
  | none => simp
  | some x => simp

theorem AllKeys.mem {P : List Nat → Nat → Prop} :
    ∀ {t : Trie α}, AllKeys P t → ∀ e ∈ preorder t, P e.1 e.2.1
  | .nil, _, _, hm => nomatch hm
  | .node _ _ nv _ _, ⟨h1, h2, h3⟩, e, hm => by
    rw [preorder_node] at hm
    rcases List.mem_append.mp hm with hm | hm
    · rcases List.mem_append.mp hm with hm | hm
      · obtain ⟨_, e1, e2⟩ := mem_selfEntry.mp hm
        rw [e1, e2]; exact h1
      · exact h2.mem e hm
    · exact h3.mem e hm

theorem mem_covered {nd : List Nat} {npl : Nat} {nv : Option α} {c0 c1 : Trie α}
    (hwf : WF (.node nd npl nv c0 c1)) :
    ∀ e ∈ preorder (.node nd npl nv c0 c1), Covers nd npl e.1 e.2.1 := by
  intro ⟨d', p', v'⟩ hm
  rw [mem_preorder_node] at hm
  rcases hm with ⟨h1, h2, _⟩ | h | h
  · subst h1; subst h2; exact Covers.refl _ _
  · exact (hwf.below0.mem _ h).covers
  · exact (hwf.below1.mem _ h).covers

theorem mem_node_self_iff {nd : List Nat} {npl : Nat} {nv : Option α} {c0 c1 : Trie α}
    (hB0 : AllKeys (Below nd npl 0) c0) (hB1 : AllKeys (Below nd npl 1) c1) (v : α) :
    (nd, npl, v) ∈ preorder (.node nd npl nv c0 c1) ↔ some v = nv := by
  rw [mem_preorder_node]
  exact ⟨fun h => h.elim (·.2.2) fun h => h.elim
    (fun h => absurd (hB0.mem _ h).lt (Nat.lt_irrefl _))
    (fun h => absurd (hB1.mem _ h).lt (Nat.lt_irrefl _)), fun h => Or.inl ⟨rfl, rfl, h⟩⟩

theorem mem_node_iff_child {nd : List Nat} {npl : Nat} {nv : Option α} {c0 c1 : Trie α}
    (hB0 : AllKeys (Below nd npl 0) c0) (hB1 : AllKeys (Below nd npl 1) c1)
    {d : List Nat} {p : Nat} (v : α) (hlt : npl < p) :
    (d, p, v) ∈ preorder (.node nd npl nv c0 c1) ↔
      (d, p, v) ∈ preorder (if getBitAt d npl = 0 then c0 else c1) := by
  rw [mem_preorder_node]
  by_cases hbit : getBitAt d npl = 0
  · rw [if_pos hbit]
    exact ⟨fun h => h.elim (fun h => absurd h.2.1 (Nat.ne_of_gt hlt)) fun h => h.elim id fun h =>
      absurd ((hB1.mem _ h).bit.symm.trans hbit) nofun, fun h => Or.inr (Or.inl h)⟩
  · rw [if_neg hbit]
    exact ⟨fun h => h.elim (fun h => absurd h.2.1 (Nat.ne_of_gt hlt)) fun h => h.elim
      (fun h => absurd (hB0.mem _ h).bit hbit) id, fun h => Or.inr (Or.inr h)⟩

theorem lookupExact_iff (data : List Nat) (plen : Nat) (hq : Canon data plen) :
    ∀ (t : Trie α) (s : Nat), WF t → Pre s data plen t → ∀ v,
      (lookupExact data plen t s = some v ↔ (data, plen, v) ∈ preorder t) := by
  refine walk_ind hq (fun s v => by simp [lookupExact, preorder]) ?_
  intro nd npl nv c0 c1 s ml hwf hml hag hc v
  have hcov := mem_covered hwf (data, plen, v)
  have ⟨hcn, himg, hB0, hB1, hw0, hw1⟩ := hwf
  simp only [lookupExact, hml]
  cases hc with
  | equal e1 e2 e3 =>
    subst e1 e2 e3
    rw [if_pos ⟨rfl, rfl⟩, mem_node_self_iff hB0 hB1, eq_comm]
  | above e1 hlt =>
    subst e1
    rw [if_neg (fun h => Nat.ne_of_lt hlt h.2), if_pos hlt]
    exact ⟨nofun, fun h => absurd (hcov h).le (Nat.not_le_of_lt hlt)⟩
  | fork hp hn hne =>
    rw [if_neg (fun h => Nat.ne_of_lt hp h.1), if_pos hn]
    exact ⟨nofun, fun h => absurd ((hcov h).agree ml hn) hne⟩
  | descend e1 hlt ih0 ih1 =>
    subst e1
    rw [if_neg (fun h => Nat.ne_of_lt hlt h.1), if_neg (Nat.lt_irrefl _), mem_node_iff_child hB0 hB1 v hlt]
    by_cases hbit : getBitAt data ml = 0
    · rw [if_pos hbit, if_pos hbit]; exact ih0 v
    · rw [if_neg hbit, if_neg hbit]; exact ih1 v

theorem wf_allKeys_canon : ∀ (t : Trie α), WF t → AllKeys Canon t := by
  intro t
  induction t with
  | nil => intro _; trivial
  | node d p v c0 c1 ih0 ih1 => intro h; exact ⟨h.canon, ih0 h.left, ih1 h.right⟩

theorem mem_canon {t : Trie α} (h : WF t) {d : List Nat} {p : Nat} {v : α} (hm : (d, p, v) ∈ preorder t) :
    Canon d p :=
  (wf_allKeys_canon t h).mem (d, p, v) hm

theorem lookupExact_root (t : Trie α) (hwf : WF t) (d : List Nat) (p : Nat) (hq : Canon d p) (v : α) :
    lookupExact d p t 0 = some v ↔ (d, p, v) ∈ preorder t :=
  lookupExact_iff d p hq t 0 hwf (pre_zero _ _ _) v

theorem key_unique {t : Trie α} (h : WF t) {d : List Nat} {p : Nat} {v v' : α}
    (h1 : (d, p, v) ∈ preorder t) (h2 : (d, p, v') ∈ preorder t) : v = v' :=
  have hc := mem_canon h h1
  Option.some.inj (((lookupExact_root t h d p hc v).mpr h1).symm.trans ((lookupExact_root t h d p hc v').mpr h2))

theorem exists_entry : ∀ (t : Trie α), WF t → t ≠ .nil → ∃ e, e ∈ preorder t := by
  intro t
  induction t with
  | nil => intro _ h; exact absurd rfl h
  | node d p v c0 c1 ih0 _ =>
    intro hwf _
    cases v with
    | some x => exact ⟨(d, p, x), by rw [mem_preorder_node]; exact Or.inl ⟨rfl, rfl, rfl⟩⟩
    | none =>
      obtain ⟨e, he⟩ := ih0 hwf.left (hwf.img rfl).1
      obtain ⟨d', p', v'⟩ := e
      exact ⟨(d', p', v'), by rw [mem_preorder_node]; exact Or.inr (Or.inl he)⟩

theorem fork_key (nd : List Nat) (npl ml : Nat) (hcn : Canon nd npl) (h : ml ≤ npl) :
    Canon (maskData (nd ++ be 2 npl) ml) ml ∧ Agree (maskData (nd ++ be 2 npl) ml) nd ml := by
  have hlen : (ml + 7) / 8 ≤ (nd ++ be 2 npl).length := by
    have := hcn.len; simp; omega
  refine ⟨canon_maskData _ _ (key_lt_256 hcn.bytes npl) hlen, fun j hj => ?_⟩
  rw [agree_maskData _ _ hlen j hj, getBitAt_nodeKey nd npl j hcn.le_len (by omega)]

theorem below_fork {d : List Nat} {p b : Nat} {nd : List Nat} {npl : Nat} {data : List Nat} {plen ml : Nat}
    {idata : List Nat}
    (h1 : Below d p b nd npl) (h2 : Below d p b data plen)
    (hne : getBitAt nd ml ≠ getBitAt data ml) (hi : Agree idata nd ml) : Below d p b idata ml := by
  obtain ⟨a1, a2, a3⟩ := h1
  obtain ⟨b1, b2, b3⟩ := h2
  have hp : p < ml := by
    rcases Nat.lt_trichotomy ml p with h | h | h
    · exact absurd ((a2 ml h).symm.trans (b2 ml h)) hne
    · subst h; exact absurd (a3.trans b3.symm) hne
    · exact h
  exact ⟨hp, fun j hj => (a2 j hj).trans (hi j (by omega)).symm, (hi p hp).trans a3⟩

theorem below_trans {d : List Nat} {p b : Nat} {nd : List Nat} {npl b2 : Nat} {x : List Nat} {px : Nat}
    (h1 : Below d p b nd npl) (h2 : Below nd npl b2 x px) : Below d p b x px := by
  obtain ⟨a1, a2, a3⟩ := h1
  obtain ⟨b1, b2, _⟩ := h2
  exact ⟨by omega, fun j hj => (a2 j hj).trans (b2 j (by omega)), (b2 p a1).symm.trans a3⟩

theorem allKeys_below_of_root {d : List Nat} {p b : Nat} {nd : List Nat} {npl : Nat} {nv : Option α}
    {c0 c1 : Trie α} (hwf : WF (.node nd npl nv c0 c1)) (h : Below d p b nd npl) :
    AllKeys (Below d p b) (.node nd npl nv c0 c1) :=
  ⟨h, AllKeys.imp (fun _ _ hx => below_trans h hx) c0 hwf.below0,
      AllKeys.imp (fun _ _ hx => below_trans h hx) c1 hwf.below1⟩

theorem wf_leaf (data : List Nat) (plen : Nat) (v : α) (hq : Canon data plen) :
    WF (.node data plen (some v) .nil .nil) :=
  ⟨hq, nofun, trivial, trivial, trivial, trivial⟩

/-- what `r = insert data plen v t s` is on a well-formed `t`, where `found = lookupExact data plen t s`.
    `ne_nil` and `below` are there for the induction: the child the walk rebuilds has to stay non-empty under an
    imaginary parent, and below its parent. -/
structure InsertOk (data : List Nat) (plen : Nat) (v : α) (t : Trie α) (found : Option α) (r : Trie α × Nat) :
    Prop where
  ne_nil : r.1 ≠ .nil
  wf : WF r.1
  below : ∀ d p b, Below d p b data plen → AllKeys (Below d p b) t → AllKeys (Below d p b) r.1
  mem : ∀ d' p' v', (d', p', v') ∈ preorder r.1 ↔
    (d' = data ∧ p' = plen ∧ v' = v) ∨ (¬ (d' = data ∧ p' = plen) ∧ (d', p', v') ∈ preorder t)
  delta : r.2 = if found.isNone then 1 else 0
  length : (preorder r.1).length = (preorder t).length + r.2

theorem insert_ok (data : List Nat) (plen : Nat) (v : α) (hq : Canon data plen) :
    ∀ (t : Trie α) (s : Nat), WF t → Pre s data plen t →
      InsertOk data plen v t (lookupExact data plen t s) (insert data plen v t s) := by
  refine walk_ind hq (fun s => ?_) ?_
  · exact {
      ne_nil := nofun
      wf := wf_leaf data plen v hq
      below := fun d p b hb _ => ⟨hb, trivial, trivial⟩
      mem := fun d' p' v' => by simp [insert, preorder]
      delta := rfl
      length := rfl }
  intro nd npl nv c0 c1 s ml hwf hml hag hc
  have hcov := mem_covered hwf
  have ⟨hcn, himg, hB0, hB1, hw0, hw1⟩ := hwf
  simp only [insert, lookupExact, hml]
  cases hc with
  | equal e1 e2 e3 =>
    subst e1 e2 e3
    rw [if_pos (Or.inl rfl), if_pos rfl, if_pos rfl, if_pos (And.intro rfl rfl)]
    refine {
      ne_nil := nofun
      wf := ⟨hq, nofun, hB0, hB1, hw0, hw1⟩
      below := fun d p b hb hall => ⟨hb, hall.2⟩
      mem := fun d' p' v' => ?_
      delta := rfl
      length := by cases nv <;> simp [preorder] <;> omega }
    rw [mem_preorder_node, mem_preorder_node, Option.some.injEq]
    have hC : (d', p', v') ∈ preorder c0 ∨ (d', p', v') ∈ preorder c1 → ¬(d' = nd ∧ p' = npl) :=
      fun h k => h.elim (fun h => Nat.ne_of_gt (hB0.mem _ h).lt k.2) (fun h => Nat.ne_of_gt (hB1.mem _ h).lt k.2)
    exact or_congr_right ⟨fun h => ⟨hC h, Or.inr h⟩, fun h => h.2.resolve_left fun k => h.1 ⟨k.1, k.2.1⟩⟩
  | above e1 hlt =>
    subst e1
    -- the new node becomes the parent, on the side of the old node's bit `ml`; the old keys are longer
    have hno : ∀ d' p' v', (d', p', v') ∈ preorder (.node nd npl nv c0 c1) → ¬(d' = data ∧ p' = ml) :=
      fun d' p' v' h k => Nat.not_le_of_lt hlt (k.2 ▸ (hcov _ h).le)
    rw [if_pos (Or.inl rfl), if_pos rfl, if_neg (Nat.ne_of_lt hlt), if_neg (fun h => Nat.ne_of_lt hlt h.2),
      if_pos hlt, getBitAt_nodeKey nd npl ml hcn.le_len hlt]
    by_cases hbit : getBitAt nd ml = 0
    · rw [if_pos hbit]
      refine {
        ne_nil := nofun
        wf := ⟨hq, nofun, allKeys_below_of_root hwf ⟨hlt, hag.symm, hbit⟩, trivial, hwf, trivial⟩
        below := fun d p b hb hall => ⟨hb, hall, trivial⟩
        mem := fun d' p' v' => ?_
        delta := rfl
        length := by simp [preorder] }
      rw [mem_preorder_node d' p' v' data ml]
      simp only [preorder_nil, List.not_mem_nil, or_false, Option.some.injEq]
      exact or_congr_right (and_iff_right_of_imp (hno d' p' v')).symm
    · rw [if_neg hbit]
      refine {
        ne_nil := nofun
        wf := ⟨hq, nofun, trivial, allKeys_below_of_root hwf ⟨hlt, hag.symm, getBitAt_eq_one hbit⟩, trivial, hwf⟩
        below := fun d p b hb hall => ⟨hb, trivial, hall⟩
        mem := fun d' p' v' => ?_
        delta := rfl
        length := by simp [preorder] }
      rw [mem_preorder_node d' p' v' data ml]
      simp only [preorder_nil, List.not_mem_nil, false_or, Option.some.injEq]
      exact or_congr_right (and_iff_right_of_imp (hno d' p' v')).symm
  | fork hp hn hne =>
    -- an imaginary node at the fork, the new leaf on the side of the query's bit `ml`; old keys differ there
    have hno : ∀ d' p' v', (d', p', v') ∈ preorder (.node nd npl nv c0 c1) → ¬(d' = data ∧ p' = plen) := by
      intro d' p' v' h ⟨k1, _⟩
      subst k1
      exact hne ((hcov _ h).agree ml hn)
    rw [if_pos (Or.inr (Nat.ne_of_lt hn)), if_neg (Nat.ne_of_lt hp), if_neg (fun h => Nat.ne_of_lt hp h.1), if_pos hn]
    obtain ⟨hfc, hfa⟩ := fork_key nd npl ml hcn (Nat.le_of_lt hn)
    have hleaf := wf_leaf data plen v hq
    by_cases hbit : getBitAt data ml = 0
    · rw [if_pos hbit]
      have hold := allKeys_below_of_root hwf ⟨hn, hfa, getBitAt_eq_one (hbit ▸ hne)⟩
      refine {
        ne_nil := nofun
        wf := ⟨hfc, fun _ => ⟨nofun, nofun⟩, ⟨⟨hp, hfa.trans hag, hbit⟩, trivial, trivial⟩, hold, hleaf, hwf⟩
        below := fun d p b hb hall => ⟨below_fork hall.1 hb hne hfa, ⟨hb, trivial, trivial⟩, hall⟩
        mem := fun d' p' v' => ?_
        delta := rfl
        length := by simp [preorder] }
      rw [mem_preorder_node d' p' v' _ ml none, mem_preorder_node d' p' v' data plen (some v) .nil .nil]
      simp only [preorder_nil, List.not_mem_nil, or_false, Option.some.injEq, reduceCtorEq, and_false, false_or]
      exact or_congr_right (and_iff_right_of_imp (hno d' p' v')).symm
    · rw [if_neg hbit]
      have hbit1 := getBitAt_eq_one hbit
      have hold := allKeys_below_of_root hwf
        ⟨hn, hfa, Classical.byContradiction fun h => hne (by rw [getBitAt_eq_one h, hbit1])⟩
      refine {
        ne_nil := nofun
        wf := ⟨hfc, fun _ => ⟨nofun, nofun⟩, hold, ⟨⟨hp, hfa.trans hag, hbit1⟩, trivial, trivial⟩, hwf, hleaf⟩
        below := fun d p b hb hall => ⟨below_fork hall.1 hb hne hfa, hall, ⟨hb, trivial, trivial⟩⟩
        mem := fun d' p' v' => ?_
        delta := rfl
        length := by simp only [preorder, List.length_append, List.length_cons, List.length_nil]; omega }
      rw [mem_preorder_node d' p' v' _ ml none, mem_preorder_node d' p' v' data plen (some v) .nil .nil]
      simp only [preorder_nil, List.not_mem_nil, or_false, Option.some.injEq, reduceCtorEq, and_false, false_or]
      exact (or_comm).trans (or_congr_right (and_iff_right_of_imp (hno d' p' v')).symm)
  | descend e1 hlt i0 i1 =>
    subst e1
    have k : ¬(ml = plen ∧ ml = ml) := fun h => Nat.ne_of_lt hlt h.1
    have k' : ¬(ml = plen ∨ ml ≠ ml) := fun h => h.elim (Nat.ne_of_lt hlt) fun h => h rfl
    rw [if_neg k', if_neg k, if_neg (Nat.lt_irrefl _)]
    by_cases hbit : getBitAt data ml = 0
    · rw [if_pos hbit, if_pos hbit]
      refine {
        ne_nil := nofun
        wf := ⟨hcn, fun h => ⟨i0.ne_nil, (himg h).2⟩, i0.below nd ml 0 ⟨hlt, hag, hbit⟩ hB0, hB1, i0.wf, hw1⟩
        below := fun d p b hb hall => ⟨hall.1, i0.below d p b hb hall.2.1, hall.2.2⟩
        mem := fun d' p' v' => ?_
        delta := i0.delta
        length := by have := i0.length; simp only [preorder, List.length_append] at this ⊢; omega }
      have k1 : (d', p', v') ∈ preorder c1 → getBitAt d' ml = 1 := fun h => (hB1.mem _ h).bit
      have im := i0.mem d' p' v'
      rw [mem_preorder_node, mem_preorder_node, im]
      -- the entries of `c1` have bit `ml` set (`k1`), the new key has not (`hbit`); with `hlt` for the node's own
      -- entry the rest is propositional, on a context cleared for `grind`
      clear i0 i1 im hw0 hw1 hB0 hB1 hcov himg hcn hwf
      grind
    · rw [if_neg hbit, if_neg hbit]
      refine {
        ne_nil := nofun
        wf := ⟨hcn, fun h => ⟨(himg h).1, i1.ne_nil⟩, hB0, i1.below nd ml 1 ⟨hlt, hag, getBitAt_eq_one hbit⟩ hB1, hw0, i1.wf⟩
        below := fun d p b hb hall => ⟨hall.1, hall.2.1, i1.below d p b hb hall.2.2⟩
        mem := fun d' p' v' => ?_
        delta := i1.delta
        length := by have := i1.length; simp only [preorder, List.length_append] at this ⊢; omega }
      have k0 : (d', p', v') ∈ preorder c0 → getBitAt d' ml = 0 := fun h => (hB0.mem _ h).bit
      have im := i1.mem d' p' v'
      rw [mem_preorder_node, mem_preorder_node, im]
      clear i0 i1 im hw0 hw1 hB0 hB1 hcov himg hcn hwf
      grind

end Sdb.Lpm
