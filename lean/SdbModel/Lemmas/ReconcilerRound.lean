import SdbModel.Lemmas.ReconcilerConsume

/-!
  A whole round of `Model.Reconciler` and the loops around it.  A round is `Next` and the change
  loop (up to the state `round3`), then the tail `roundTail` (status commit, due retries, status
  commit); between rounds no result is waiting (`RInv`).  `quiesceW` / `advanceW` are `quiesce` /
  `advance` over an arbitrary round function, so that single and batch rounds share their
  induction principles.
-/
namespace Sdb.Rec

theorem round_eq (r : R) : r.round =
    let nc := r.nextChanges
    let co := nc.1.consume nc.2 0
    let r3 : R := { co.1 with pending := if nc.2.isEmpty ∧ co.1.pending.isNone then none else
                                if (co.2.1.isEmpty ∧ co.1.numReconciled < co.1.cfg.roundSize) then none else some co.2.1 }
    let r4 := r3.commitStatus
    let r5 := r4.processRetries (r4.items.length + 1)
    let r6 := r5.commitStatus
    { r6 with numReconciled := 0, progressRev := if co.2.2 > r6.progressRev then co.2.2 else r6.progressRev,
              progressLW := r5.lowWatermark } := by
  -- with the result of `Next` abstracted, closing by `rfl` does not unfold it
  generalize hn : r.nextChanges = nc
  unfold R.round
  rw [hn]

/-- the invariant of the states between rounds -/
structure RInv (r : R) : Prop where
  inv : InvL r []
  res : r.results = []
  num : r.numReconciled = 0
  sync : Sync r

theorem commitStatus_results (r : R) : r.commitStatus.results = [] := rfl

/-- the part of a round after the change stream was consumed -/
def roundTail (r3 : R) (last : Nat) : R :=
  let r4 := r3.commitStatus
  let r5 := r4.processRetries (r4.items.length + 1)
  let r6 := r5.commitStatus
  { r6 with numReconciled := 0, progressRev := if last > r6.progressRev then last else r6.progressRev,
            progressLW := r5.lowWatermark }

/-- what the tail of a round leaves alone -/
structure TailRel (r r' : R) : Prop where
  itRev : r'.itRev = r.itRev
  itDelRev : r'.itDelRev = r.itDelRev
  refreshedAt : r'.refreshedAt = r.refreshedAt
  pending : r'.pending = r.pending
  cfg : r'.cfg = r.cfg
  now : r'.now = r.now
  failing : r'.failing = r.failing
  tableRev : r.tableRev ≤ r'.tableRev
  objs : ∀ o ∈ r'.objs, o ∈ r.objs ∨ (o.rev > r.tableRev ∧ ¬ needs o.kind)
  dels : ∀ d ∈ r'.dels, d ∈ r.dels

theorem TailRel.refl (r : R) : TailRel r r :=
  ⟨rfl, rfl, rfl, rfl, rfl, rfl, rfl, Nat.le_refl _, fun _ h => Or.inl h, fun _ h => h⟩

theorem TailRel.trans {a b c : R} (h1 : TailRel a b) (h2 : TailRel b c) : TailRel a c :=
  ⟨h2.itRev.trans h1.itRev, h2.itDelRev.trans h1.itDelRev, h2.refreshedAt.trans h1.refreshedAt, h2.pending.trans h1.pending,
    h2.cfg.trans h1.cfg, h2.now.trans h1.now, h2.failing.trans h1.failing, Nat.le_trans h1.tableRev h2.tableRev,
    fun o ho => (h2.objs o ho).elim (h1.objs o) (fun a => Or.inr ⟨Nat.lt_of_le_of_lt h1.tableRev a.1, a.2⟩),
    fun d hd => h1.dels d (h2.dels d hd)⟩

theorem TailRel.commitStatus (r : R) : TailRel r r.commitStatus :=
  have h := commitRel_foldl r.results r
  ⟨h.itRev, h.itDelRev, h.refreshedAt, h.pending, h.cfg, h.now, h.failing, h.tableRev, h.objs, h.dels⟩

theorem FrameT.tailRel {r r' : R} (h : FrameT r r') : TailRel r r' :=
  ⟨h.itRev, h.itDelRev, h.refreshedAt, h.pending, h.cfg, h.now, h.failing, Nat.le_of_eq h.tableRev.symm,
    fun _ ho => Or.inl (h.objs ▸ ho), fun _ hd => h.dels ▸ hd⟩

theorem commitStatus_caughtUp {r : R} (hcu : r.numReconciled < r.cfg.roundSize → CaughtUp r) :
    r.commitStatus.numReconciled < r.commitStatus.cfg.roundSize → CaughtUp r.commitStatus := by
  have h := commitRel_foldl r.results r
  intro hlt
  have hlt : (r.results.foldl R.commitOne r).numReconciled < (r.results.foldl R.commitOne r).cfg.roundSize := hlt
  rw [h.numReconciled, h.cfg] at hlt
  exact (h.caughtUp (hcu hlt)).congr rfl rfl rfl rfl

theorem roundTail_ind {Q : R → Prop} {r3 : R} (last : Nat) (h3 : Q r3)
    (hc : ∀ x, Q x → Q x.commitStatus)
    (hp : Q r3.commitStatus → Q (r3.commitStatus.processRetries (r3.commitStatus.items.length + 1)))
    (hfin : ∀ x n p l, Q x → Q { x with numReconciled := n, progressRev := p, progressLW := l }) :
    Q (roundTail r3 last) :=
  hfin _ _ _ _ (hc _ (hp (hc _ h3)))

theorem roundTail_steps {P : R → Prop}
    (hc : ∀ x, InvL x x.results → P x → P x.commitStatus)
    (hp : ∀ x fuel, InvL x x.results → (x.numReconciled < x.cfg.roundSize → CaughtUp x) → P x → P (x.processRetries fuel))
    (hfin : ∀ x n p l, P x → P { x with numReconciled := n, progressRev := p, progressLW := l })
    {r3 : R} (last : Nat) (hI3 : InvL r3 r3.results) (hcu3 : r3.numReconciled < r3.cfg.roundSize → CaughtUp r3) (h3 : P r3) :
    InvL (roundTail r3 last) [] ∧ (roundTail r3 last).results = [] ∧ (roundTail r3 last).numReconciled = 0 ∧
    TailRel r3 (roundTail r3 last) ∧ P (roundTail r3 last) := by
  have hcu4 := commitStatus_caughtUp hcu3
  obtain ⟨hI, hT, h⟩ := roundTail_ind (Q := fun x => InvL x x.results ∧ TailRel r3 x ∧ P x) last ⟨hI3, TailRel.refl r3, h3⟩
    (fun x ⟨hI, hT, h⟩ => ⟨hI.commitStatus, hT.trans (TailRel.commitStatus x), hc x hI h⟩)
    (fun ⟨hI, hT, h⟩ => ⟨(hI.processRetries _ hcu4).1, hT.trans (hI.processRetries _ hcu4).2.tailRel, hp _ _ hI hcu4 h⟩)
    (fun x n p l ⟨hI, hT, h⟩ => ⟨hI.congr rfl rfl rfl rfl rfl rfl rfl rfl rfl, hT.trans ⟨rfl, rfl, rfl, rfl, rfl, rfl, rfl, Nat.le_refl _, fun _ h => Or.inl h, fun _ h => h⟩,
      hfin x n p l h⟩)
  exact ⟨hI, rfl, rfl, hT, h⟩

theorem RInv.next {r : R} (h : RInv r) : ∃ v, r.nextChanges.1 = { r with refreshedAt := v } ∧
    InvL { r with refreshedAt := v } [] ∧ ChOK { r with refreshedAt := v } [] r.nextChanges.2 := by
  have hch := chOK_nextChanges h.inv.tinv h.sync
  rcases nextChanges_fst r with e | e <;> rw [e] at hch
  · exact ⟨r.refreshedAt, e, h.inv, hch⟩
  · exact ⟨r.tableRev, e, h.inv.set_refreshedAt _ (Nat.le_refl _), hch⟩

theorem ChOK.nil_caughtUp {x : R} {rs : List Res} (h : ChOK x rs []) :
    (∀ o ∈ x.objs, o.rev ≤ x.itRev) ∧ (∀ d ∈ x.dels, d.2 ≤ x.itDelRev) :=
  ⟨fun o ho => (h.covO o ho).elim id (fun ⟨_, hc, _⟩ => nomatch hc),
   fun d hd => (h.covD d hd).elim id (fun ⟨_, hc, _⟩ => nomatch hc)⟩

/-- the state of a single round before its tail (status commit, retries): the change stream is consumed -/
def round3 (r : R) : R :=
  { (r.nextChanges.1.consume r.nextChanges.2 0).1 with
      pending := if r.nextChanges.2.isEmpty ∧ (r.nextChanges.1.consume r.nextChanges.2 0).1.pending.isNone then none else
        if ((r.nextChanges.1.consume r.nextChanges.2 0).2.1.isEmpty ∧
            (r.nextChanges.1.consume r.nextChanges.2 0).1.numReconciled < (r.nextChanges.1.consume r.nextChanges.2 0).1.cfg.roundSize) then none
        else some (r.nextChanges.1.consume r.nextChanges.2 0).2.1 }

/-- the part of the change stream the round left for the next one -/
def roundRest (r : R) : List Change := (r.nextChanges.1.consume r.nextChanges.2 0).2.1

/-- the revision of the last change the round consumed (0: none) -/
def roundLast (r : R) : Nat := (r.nextChanges.1.consume r.nextChanges.2 0).2.2

theorem round3_eq (r : R) : ∃ p, round3 r = { (r.nextChanges.1.consume r.nextChanges.2 0).1 with pending := p } := ⟨_, rfl⟩

theorem round_eq3 (r : R) : r.round = roundTail (round3 r) (roundLast r) := round_eq r

theorem round3_pending_none {r : R} (h : (round3 r).pending = none) :
    (r.nextChanges.1.consume r.nextChanges.2 0).2.1 = [] := by
  unfold round3 at h
  dsimp only at h
  split at h
  · rename_i h1; rw [List.isEmpty_iff.1 h1.1, consume_nil]
  · split at h
    · rename_i h1; exact List.isEmpty_iff.1 h1.1
    · cases h

/-- all the tail of a round needs to know about the state `x` before it -/
structure MidOK (x : R) : Prop where
  inv : InvL x x.results
  cu : x.numReconciled < x.cfg.roundSize → CaughtUp x
  sync : x.pending = none → (∀ o ∈ x.objs, o.rev ≤ x.itRev) ∧ (∀ d ∈ x.dels, d.2 ≤ x.itDelRev)

theorem RInv.single_mid {r : R} (h : RInv r) : MidOK (round3 r) := by
  obtain ⟨v, e, hI1, hch⟩ := h.next
  have hrest := round3_pending_none (r := r)
  obtain ⟨p, e3⟩ := round3_eq r
  rw [e3, e] at hrest ⊢
  have hx : ({ r with refreshedAt := v } : R).results = [] := h.res
  generalize ({ r with refreshedAt := v } : R) = x1 at hI1 hch hx hrest ⊢
  obtain ⟨hI2, hC2, -, hfull⟩ := InvL.consume r.nextChanges.2 0 (InvL.cast_results hx hI1) (by rw [hx]; exact hch)
  generalize x1.consume r.nextChanges.2 0 = co at hI2 hC2 hfull hrest ⊢
  refine ⟨hI2.congr rfl rfl rfl rfl rfl rfl rfl rfl rfl, fun hlt => ?_, fun hp => ?_⟩
  · have hC := hfull hlt ▸ hC2
    exact ⟨fun o ho _ => hC.nil_caughtUp.1 o ho, hC.nil_caughtUp.2⟩
  · exact (hrest hp ▸ hC2).nil_caughtUp

theorem MidOK.tail {x : R} (h : MidOK x) (last : Nat) : RInv (roundTail x last) := by
  obtain ⟨hI, hres, hnum, hT, _⟩ := roundTail_steps (P := fun _ => True) (fun _ _ _ => trivial) (fun _ _ _ _ _ => trivial)
    (fun _ _ _ _ _ => trivial) last h.inv h.cu trivial
  refine ⟨hI, hres, hnum, fun hpn => ?_⟩
  obtain ⟨s1, s2⟩ := h.sync (hT.pending ▸ hpn)
  rw [hT.itRev, hT.itDelRev, hT.refreshedAt]
  refine ⟨fun o ho => (hT.objs o ho).imp (s1 o) (fun a => ?_), fun d hd => Or.inl (s2 d (hT.dels d hd))⟩
  exact Nat.lt_of_le_of_lt h.inv.tinv.ref_le a.1

theorem RInv.round {r : R} (h : RInv r) : RInv r.round :=
  round_eq3 r ▸ h.single_mid.tail _

theorem RInv.congr {r r' : R} (h : RInv r) (hobjs : r'.objs = r.objs) (hdels : r'.dels = r.dels) (htableRev : r'.tableRev = r.tableRev)
    (hitRev : r'.itRev = r.itRev) (hitDelRev : r'.itDelRev = r.itDelRev) (hrefreshedAt : r'.refreshedAt = r.refreshedAt)
    (hitems : r'.items = r.items) (hlog : r'.log = r.log) (hinjects : r'.injects = r.injects)
    (hresults : r'.results = r.results) (hnumReconciled : r'.numReconciled = r.numReconciled) (hpending : r'.pending = r.pending) : RInv r' := by
  refine ⟨h.inv.congr hobjs hdels htableRev hitRev hitDelRev hrefreshedAt hitems hlog hinjects, hresults.trans h.res, hnumReconciled.trans h.num, ?_⟩
  unfold Sync
  rw [hobjs, hdels, hitRev, hitDelRev, hrefreshedAt, hpending]
  exact h.sync

theorem fireTimer_eq (r : R) : ∃ t, r.fireTimer = { r with timer := t } := by
  unfold R.fireTimer
  split
  · split
    · exact ⟨_, rfl⟩
    · exact ⟨r.timer, rfl⟩
  · exact ⟨r.timer, rfl⟩

theorem RInv.fireTimer {r : R} (h : RInv r) : RInv r.fireTimer := by
  obtain ⟨t, e⟩ := fireTimer_eq r
  rw [e]
  exact h.congr rfl rfl rfl rfl rfl rfl rfl rfl rfl rfl rfl rfl

/-- `R.quiesce` / `R.quiesceB` over the round function -/
def quiesceW (round : R → R) : R → Nat → R
  | r, 0 => r
  | r, fuel + 1 => if r.fireTimer.triggered then quiesceW round (round r.fireTimer) fuel else r.fireTimer

/-- `R.advance` / `R.advanceB` over the round function -/
def advanceW (round : R → R) : R → Nat → Nat → R
  | r, ms, 0 => { r with now := r.now + ms }
  | r, ms, fuel + 1 =>
    match r.timer with
    | .armed t =>
      if t ≤ r.now + ms then
        advanceW round (quiesceW round { r with now := max t r.now } 64)
          (r.now + ms - (quiesceW round { r with now := max t r.now } 64).now) fuel
      else { r with now := r.now + ms }
    | _ => { r with now := r.now + ms }

theorem quiesce_eq (r : R) (fuel : Nat) : r.quiesce fuel = quiesceW R.round r fuel := by
  induction fuel generalizing r with
  | zero => rfl
  | succ n ih => rw [R.quiesce, quiesceW]; simp only [ih]

theorem advance_eq (r : R) (ms fuel : Nat) : r.advance ms fuel = advanceW R.round r ms fuel := by
  induction fuel generalizing r ms with
  | zero => rfl
  | succ n ih =>
    rw [R.advance, advanceW]
    simp only [ih, quiesce_eq]
    cases r.timer <;> rfl

theorem quiesceW_ind {P : R → Prop} {round : R → R} (hfire : ∀ r, P r → P r.fireTimer)
    (hround : ∀ r, P r → r.triggered = true → P (round r)) (r : R) (fuel : Nat) (h : P r) : P (quiesceW round r fuel) := by
  induction fuel generalizing r with
  | zero => exact h
  | succ n ih =>
    rw [quiesceW]
    split
    · rename_i htr; exact ih _ (hround _ (hfire r h) htr)
    · exact hfire r h

theorem advanceW_ind {P : R → Prop} {round : R → R} (hnow : ∀ r t, P r → r.now ≤ t → P { r with now := t })
    (hq : ∀ r, P r → P (quiesceW round r 64)) (r : R) (ms fuel : Nat) (h : P r) : P (advanceW round r ms fuel) := by
  induction fuel generalizing r ms with
  | zero => exact hnow r _ h (Nat.le_add_right _ _)
  | succ n ih =>
    rw [advanceW]
    split
    · split
      · exact ih _ _ (hq _ (hnow r _ h (Nat.le_max_right _ _)))
      · exact hnow r _ h (Nat.le_add_right _ _)
    · exact hnow r _ h (Nat.le_add_right _ _)

theorem advanceW_now {P : R → Prop} {round : R → R} (hnow : ∀ r t, P r → r.now ≤ t → P { r with now := t })
    (hq : ∀ r, P r → P (quiesceW round r 64) ∧ (quiesceW round r 64).now = r.now) (r : R) (ms fuel : Nat) (h : P r) :
    P (advanceW round r ms fuel) ∧ (advanceW round r ms fuel).now = r.now + ms := by
  induction fuel generalizing r ms with
  | zero => exact ⟨hnow r _ h (Nat.le_add_right _ _), rfl⟩
  | succ n ih =>
    rw [advanceW]
    split
    · rename_i t _
      split
      · rename_i hle
        obtain ⟨h1, e1⟩ := hq _ (hnow r (max t r.now) h (Nat.le_max_right _ _))
        obtain ⟨h2, e2⟩ := ih _ (r.now + ms - (quiesceW round { r with now := max t r.now } 64).now) h1
        refine ⟨h2, ?_⟩
        rw [e2, e1]
        show max t r.now + (r.now + ms - max t r.now) = r.now + ms
        omega
      · exact ⟨hnow r _ h (Nat.le_add_right _ _), rfl⟩
    · exact ⟨hnow r _ h (Nat.le_add_right _ _), rfl⟩

theorem quiesce_ind {P : R → Prop} (hf : ∀ r, P r → P r.fireTimer) (hr : ∀ r, P r → P r.round) {r : R} (h : P r) (fuel : Nat) :
    P (r.quiesce fuel) :=
  quiesce_eq r fuel ▸ quiesceW_ind hf (fun r h _ => hr r h) r fuel h

theorem advance_ind {P : R → Prop} (hn : ∀ r t, r.now ≤ t → P r → P { r with now := t }) (hq : ∀ r fuel, P r → P (r.quiesce fuel))
    {r : R} (h : P r) (ms fuel : Nat) : P (r.advance ms fuel) :=
  advance_eq r ms fuel ▸ advanceW_ind (fun r t h ht => hn r t ht h) (fun r h => quiesce_eq r 64 ▸ hq r 64 h) r ms fuel h

theorem RInv.setNow {r : R} (h : RInv r) (t : Nat) : RInv { r with now := t } :=
  h.congr rfl rfl rfl rfl rfl rfl rfl rfl rfl rfl rfl rfl

theorem RInv.setFailing {r : R} (h : RInv r) (l : List Nat) : RInv { r with failing := l } :=
  h.congr rfl rfl rfl rfl rfl rfl rfl rfl rfl rfl rfl rfl

theorem RInv.quiesce {r : R} (h : RInv r) (fuel : Nat) : RInv (r.quiesce fuel) :=
  quiesce_ind (fun _ h => h.fireTimer) (fun _ h => h.round) h fuel

theorem RInv.advance {r : R} (h : RInv r) (ms fuel : Nat) : RInv (r.advance ms fuel) :=
  advance_ind (fun _ t _ h => h.setNow t) (fun _ fuel h => h.quiesce fuel) h ms fuel

theorem RInv.init (c : Cfg) : RInv { cfg := c } := {
  inv := {
    tinv := ⟨.nil, .nil, by simp, by simp, by simp, Nat.le_refl _, Nat.le_refl _, Nat.le_refl _⟩
    noinj := rfl
    items_pw := .nil
    objOK := by simp
    delOK := by simp
    itemOK := by simp
    resOK := by simp }
  res := rfl
  num := rfl
  sync := fun _ => ⟨by simp, by simp⟩ }

/-- what a write adds lies beyond the last refresh -/
theorem Sync.setObj {r : R} (hs : Sync r) (ht : TInv r) (o : RObj) : Sync (r.setObj o) := fun hp =>
  ⟨fun _ hx => ((mem_setObj_objs ..).1 hx).elim (fun a => hs.objs hp a.1) fun e => e ▸ Or.inr (Nat.lt_succ_of_le ht.ref_le),
    fun _ hd => hs.dels hp (List.mem_filter.1 hd).1⟩

theorem Sync.delObj {r : R} (hs : Sync r) (ht : TInv r) (id : Nat) : Sync (r.delObj id) := by
  cases hg : r.get id with
  | none => rw [delObj_of_none hg]; exact hs
  | some o =>
    rw [delObj_of_get hg]
    exact fun hp => ⟨fun x hx => hs.objs hp (List.mem_filter.1 hx).1, fun d hd => (List.mem_append.1 hd).elim (hs.dels hp)
      fun e => Or.inr (Nat.lt_of_lt_of_eq (Nat.lt_succ_of_le ht.ref_le) (congrArg Prod.snd (List.mem_singleton.1 e)).symm)⟩

theorem RInv.userPut {r : R} (h : RInv r) (id data : Nat) : RInv (r.userPut id data) := by
  have hI := h.inv.userPut id data
  obtain ⟨other, he⟩ := userPut_eq r id data
  rw [he] at hI ⊢
  exact ⟨hI, h.res, h.num, h.sync.setObj h.inv.tinv _⟩

theorem RInv.delObj {r : R} (h : RInv r) (id : Nat) : RInv (r.delObj id) := by
  have hS := h.sync.delObj h.inv.tinv id
  cases hg : r.get id with
  | none => rw [delObj_of_none hg]; exact h
  | some o =>
    rw [delObj_of_get hg] at hS ⊢
    exact ⟨delObj_of_get hg ▸ h.inv.delObj id, h.res, h.num, hS⟩

theorem RInv.touch {r : R} (h : RInv r) (id : Nat) (hne : ∀ o, r.get id = some o → o.kind ≠ .error) : RInv (r.touch id) := by
  have hI := h.inv.touch id hne
  cases hg : r.get id with
  | none => rw [touch_of_none hg]; exact h
  | some o =>
    rw [touch_of_get hg] at hI ⊢
    exact ⟨hI, h.res, h.num, h.sync.setObj h.inv.tinv _⟩

end Sdb.Rec
