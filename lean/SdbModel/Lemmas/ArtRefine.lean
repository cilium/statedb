import SdbModel.Lemmas.ArtInsert
import SdbModel.Lemmas.ArtDelete
import SdbModel.Lemmas.ArtSorted
import SdbModel.Lemmas.ArtRange

/-! The root level: reads from a root pointer are `look` / filters of `allRoot`; `Txn.insert` and `Txn.delete` act
    on `allRoot` exactly like `sinsert` / `sdelete` on the reference sorted association list, and keep `TxnWF`. -/
namespace Sdb.Art

def RootWF : Option Node → Prop
  | none => True
  | some r => WFNode [] r

/-- the invariant of a transaction and of a committed tree: well-formed root and an exact `Len` -/
def TxnWF (x : Txn) : Prop := RootWF x.root ∧ x.size = (allRoot x.root).length

theorem TxnWF.rootWF {x : Txn} (h : TxnWF x) : RootWF x.root := h.1

theorem TxnWF.size_eq {x : Txn} (h : TxnWF x) : x.size = (allRoot x.root).length := h.2

def TreeWF (t : Tree) : Prop := RootWF t.root ∧ t.size = (allRoot t.root).length

theorem TreeWF.rootWF {t : Tree} (h : TreeWF t) : RootWF t.root := h.1

theorem TreeWF.size_eq {t : Tree} (h : TreeWF t) : t.size = (allRoot t.root).length := h.2

theorem allRoot_sorted (root : Option Node) (h : RootWF root) : Sorted (allRoot root) := by
  cases root with
  | none => simp [allRoot, Sorted]
  | some r => exact entries_sorted [] r h

theorem getRoot_look (root : Option Node) (h : RootWF root) (w : Nat) (k : List Nat) :
    (getRoot root w k).1 = look (allRoot root) k := by
  cases root with
  | none => rfl
  | some r => exact searchNode_look [] r h w k

theorem prefixRoot_filter (root : Option Node) (h : RootWF root) (w : Nat) (p : List Nat) :
    (prefixRoot root w p).1 = (allRoot root).filter (fun e => hasPrefix e.1 p) := by
  cases root with
  | none => rfl
  | some r => exact prefixNode_eq [] r h w p

theorem lbRoot_filter (root : Option Node) (h : RootWF root) (k : List Nat) :
    lbRoot root k = (allRoot root).filter (fun e => decide (cmpL e.1 k ≠ .lt)) := by
  cases root with
  | none => rfl
  | some r => exact lbNode_eq [] r h k

theorem insNode_entries (P : ArtParams) (st : St) (acc : List Nat) (n : Node) (key full : List Nat) (val : Nat)
    (mod : Option (Nat → Nat → Nat)) (hwf : WFNode acc n) (hfull : full = acc ++ key) :
    entries (insNode P st n key full val mod).node =
      sinsert (entries n) full (insNode P st n key full val mod).newVal := by
  have hok := insNode_ok P acc n st key full val mod hwf hfull
  apply sorted_ext _ _ (entries_sorted acc _ hok.wf) (sinsert_sorted _ (entries_sorted acc n hwf) _ _)
  intro e
  rw [hok.mem, mem_sinsert _ (entries_sorted acc n hwf)]

/-- what `Txn.insert` returns, `r = (x', old, stored, watch)`, against the reference list -/
structure TxnInsOK (x : Txn) (k : List Nat) (v : Nat) (mod : Option (Nat → Nat → Nat))
    (r : Txn × Option Nat × Nat × Nat) : Prop where
  wf : TxnWF r.1
  old : r.2.1 = look (allRoot x.root) k
  nv : r.2.2.1 = mergedVal mod r.2.1 v
  all : allRoot r.1.root = sinsert (allRoot x.root) k r.2.2.1

theorem Txn_insert_spec (P : ArtParams) (x : Txn) (k : List Nat) (v : Nat) (mod : Option (Nat → Nat → Nat))
    (h : TxnWF x) : TxnInsOK x k v mod (x.insert P k v mod) := by
  obtain ⟨root, rootWatch, size, dirty, st⟩ := x
  have hs : size = (allRoot root).length := h.size_eq
  unfold Txn.insert
  cases root with
  | none =>
    exact { wf := ⟨rfl, congrArg (· + 1) hs⟩, old := rfl, nv := rfl, all := rfl }
  | some r =>
    have hr : WFNode [] r := h.rootWF
    have hok := insNode_ok P [] r st k k v mod hr rfl
    have hent := insNode_entries P st [] r k k v mod hr rfl
    refine { wf := ⟨hok.wf, ?_⟩, old := hok.old, nv := hok.nv, all := hent }
    show (if _ then _ else _) = (entries _).length
    rw [hent, length_sinsert _ (entries_sorted [] r hr), hok.old, hs]; rfl

/-- what `Txn.delete` returns, `r = (x', old)`, against the reference list -/
structure TxnDelOK (x : Txn) (k : List Nat) (r : Txn × Option Nat) : Prop where
  wf : TxnWF r.1
  old : r.2 = look (allRoot x.root) k
  all : allRoot r.1.root = sdelete (allRoot x.root) k
  same : r.2 = none → r.1 = x

theorem Txn_delete_spec (P : ArtParams) (x : Txn) (k : List Nat) (h : TxnWF x) : TxnDelOK x k (x.delete P k) := by
  obtain ⟨root, rootWatch, size, dirty, st⟩ := x
  have hs : size = (allRoot root).length := h.size_eq
  unfold Txn.delete
  cases root with
  | none => exact { wf := h, old := rfl, all := rfl, same := fun _ => rfl }
  | some r =>
    have hr : WFNode [] r := h.rootWF
    have hsorted := entries_sorted [] r hr
    have hok := delNode_ok P [] r st k k hr rfl
    dsimp only
    generalize delNode P st r k = res at hok ⊢
    cases hok with
    | notFound habs =>
      exact { wf := h, old := habs.symm, all := (sdelete_of_look_none _ _ habs).symm, same := fun _ => rfl }
    | @replaced st' n' old hold hn' _ hmem =>
      have hent : entries n' = sdelete (entries r) k := by
        apply sorted_ext _ _ (entries_sorted [] n' hn') (sdelete_sorted _ hsorted k)
        intro e; rw [hmem, mem_sdelete]
      refine { wf := ⟨hn', ?_⟩, old := hold.symm, all := hent, same := fun hn => nomatch hn }
      show size - 1 = (entries n').length
      rw [hent, length_sdelete _ hsorted, hold, hs]; rfl
    | @removed st' old honly =>
      have hlen : size = 1 := hs.trans (congrArg List.length honly)
      exact { wf := ⟨trivial, by rw [hlen]; rfl⟩,
              old := by show _ = look (entries r) k; rw [honly, look_cons, if_pos rfl],
              all := by show [] = sdelete (entries r) k; rw [honly, sdelete_single, if_pos rfl],
              same := fun hn => nomatch hn }

end Sdb.Art
