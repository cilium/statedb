import SdbModel.Lemmas.ReconcilerInjectTimer

/-!
  The reconciler writes nothing but the status: up to status (kind, status id) and revision,
  the table after a round is the table the user's writes alone, those that landed during the
  round's Updates, in the order they landed, would have left (`Sim`).  `absT` is the user's view
  of a table; a user write is a function of it (`absT_applyInject`), a status write leaves it
  alone (`teq_writeStatus`).  Also here: a user write during an Update makes its result stale
  (`freshObj_of_write`).
-/
namespace Sdb.Rec

/-- what the user (and foreign writers) own of an object: id, data, the foreign field -/
def core (o : RObj) : Nat × Nat × Nat := (o.id, o.data, o.other)

/-- equal tables up to status and revision -/
def TEq (a b : R) : Prop :=
  a.objs.map core = b.objs.map core ∧ a.dels.map (fun d => core d.1) = b.dels.map (fun d => core d.1)

theorem TEq.refl (a : R) : TEq a a := ⟨rfl, rfl⟩
theorem TEq.symm {a b : R} (h : TEq a b) : TEq b a := ⟨h.1.symm, h.2.symm⟩
theorem TEq.trans {a b c : R} (h1 : TEq a b) (h2 : TEq b c) : TEq a c := ⟨h1.1.trans h2.1, h1.2.trans h2.2⟩
theorem TEq.of_eq {a b : R} (h1 : b.objs = a.objs) (h2 : b.dels = a.dels) : TEq a b := ⟨by rw [h1], by rw [h2]⟩

/-- the user's view of a table: objects and graveyard without status and revision -/
abbrev UTab := List (Nat × Nat × Nat) × List (Nat × Nat × Nat)

def absT (r : R) : UTab := (r.objs.map core, r.dels.map (fun d => core d.1))

theorem teq_iff {a b : R} : TEq a b ↔ absT a = absT b := by
  unfold TEq absT; rw [Prod.mk.injEq]

def getC (t : UTab) (k : Nat) : Option (Nat × Nat × Nat) := t.1.find? (·.1 = k)

/-- `R.setObj` on the user's view -/
def putC (t : UTab) (c : Nat × Nat × Nat) : UTab :=
  (if t.1.any (·.1 = c.1) then t.1.map (fun x => if x.1 = c.1 then c else x) else t.1 ++ [c], t.2.filter (·.1 ≠ c.1))

/-- `R.applyInject` on the user's view -/
def applyC (t : UTab) : Inject → UTab
  | .put id data => putC t (id, data, match getC t id with | some c => c.2.2 | none => 0)
  | .del id => match getC t id with | some c => (t.1.filter (·.1 ≠ id), t.2 ++ [c]) | none => t
  | .touch id => match getC t id with | some c => putC t (c.1, c.2.1, c.2.2 + 1) | none => t

theorem absT_get (r : R) (k : Nat) : (r.get k).map core = getC (absT r) k := by
  unfold R.get getC absT
  rw [List.find?_map]; rfl

theorem absT_setObj (r : R) (o : RObj) (n : Nat) : absT { (r.setObj o) with nextSid := n } = putC (absT r) (core o) := by
  unfold R.setObj absT putC
  simp only [List.any_map, List.filter_map, List.map_map]
  refine Prod.ext ?_ rfl
  show (if _ then _ else _ : List RObj).map core = _
  split
  · rw [if_pos (by assumption), List.map_map]
    exact List.map_congr_left (fun x _ => by
      show core (if x.id = o.id then _ else x) = if x.id = o.id then core o else core x
      split <;> rfl)
  · rw [if_neg (by assumption)]; simp [core]

theorem applyInject_put (r : R) (id data : Nat) : r.applyInject (.put id data) = r.userPut id data := rfl
theorem applyInject_del (r : R) (id : Nat) : r.applyInject (.del id) = r.delObj id := rfl
theorem applyInject_touch (r : R) (id : Nat) : r.applyInject (.touch id) = r.touch id := rfl

theorem absT_applyInject (r : R) (x : Inject) : absT (r.applyInject x) = applyC (absT r) x := by
  cases x with
  | put id data =>
    rw [applyInject_put]
    unfold R.userPut; simp only [applyC]
    rw [absT_setObj, ← absT_get]
    cases r.get id <;> rfl
  | del id =>
    rw [applyInject_del]
    simp only [applyC]
    rw [← absT_get]
    cases hg : r.get id with
    | none => rw [delObj_of_none hg]; rfl
    | some o =>
      rw [delObj_of_get hg]
      unfold absT
      simp only [List.filter_map, List.map_append, List.map_cons, List.map_nil]
      rfl
  | touch id =>
    rw [applyInject_touch]
    simp only [applyC]
    rw [← absT_get]
    cases hg : r.get id with
    | none => rw [touch_of_none hg]; rfl
    | some o => rw [touch_of_get hg]; exact absT_setObj r _ r.nextSid

theorem absT_landAll (acts : List (Nat × Inject)) (r : R) : absT (r.landAll acts) = (acts.map (·.2)).foldl applyC (absT r) := by
  induction acts generalizing r with
  | nil => rfl
  | cons a as ih => rw [landAll_cons, ih, absT_applyInject]; rfl

theorem TEq.get {a b : R} (h : TEq a b) (k : Nat) : (a.get k).map core = (b.get k).map core := by
  rw [absT_get, absT_get, teq_iff.1 h]

theorem TEq.get_none {a b : R} (h : TEq a b) {k : Nat} (hb : ∀ o ∈ b.objs, o.id ≠ k) : a.get k = none := by
  have := h.get k
  rwa [(get_eq_none_iff b k).2 hb, Option.map_none, Option.map_eq_none_iff] at this

theorem TEq.setObj {a b : R} (h : TEq a b) (oa ob : RObj) (ho : core oa = core ob) (na nb : Nat) :
    TEq { (a.setObj oa) with nextSid := na } { (b.setObj ob) with nextSid := nb } :=
  teq_iff.2 (by rw [absT_setObj, absT_setObj, teq_iff.1 h, ho])

theorem TEq.applyInject {a b : R} (h : TEq a b) (x : Inject) : TEq (a.applyInject x) (b.applyInject x) :=
  teq_iff.2 (by rw [absT_applyInject, absT_applyInject, teq_iff.1 h])

theorem TEq.landAll {a b : R} (h : TEq a b) (acts : List (Nat × Inject)) : TEq (a.landAll acts) (b.landAll acts) :=
  teq_iff.2 (by rw [absT_landAll, absT_landAll, teq_iff.1 h])

theorem map_replace_same (l : List RObj) (k : Nat) (n : RObj) (hn : ∀ x ∈ l, x.id = k → core n = core x) :
    (l.map (fun x => if x.id = k then n else x)).map core = l.map core := by
  induction l with
  | nil => rfl
  | cons a as ih =>
    simp only [List.map_cons, List.cons.injEq]
    refine ⟨?_, ih (fun x hx => hn x (List.mem_cons_of_mem _ hx))⟩
    split
    · rename_i h; exact hn a (List.mem_cons_self ..) h
    · rfl

theorem teq_setObj_status {r : R} (ht : TInv r) (cur o : RObj) (hcur : cur ∈ r.objs) (ho : core o = core cur) (n : Nat) :
    TEq r { (r.setObj o) with nextSid := n } := by
  have hid : o.id = cur.id := congrArg (·.1) ho
  constructor
  · show r.objs.map core = (r.setObj o).objs.map core
    rw [setObj_objs_of_mem r o cur hcur hid.symm]
    symm
    refine map_replace_same _ _ _ (fun x hx hxid => ?_)
    have : x = cur := ht.obj_eq hx hcur (by omega)
    rw [this]
    simp only [core] at ho ⊢; exact ho
  · show r.dels.map (fun d => core d.1) = (r.setObj o).dels.map (fun d => core d.1)
    simp only [setObj_dels]
    congr 1
    symm
    rw [List.filter_eq_self]
    intro d hd
    have := ht.disj cur hcur d hd
    simp; omega

theorem teq_writeStatus {r : R} (ht : TInv r) (cur base orig : RObj) (hcur : cur ∈ r.objs) (hb : core base = core cur)
    (rev : Nat) (f : Bool) : TEq r (r.writeStatus base orig rev f) := by
  cases f
  · exact teq_setObj_status ht cur { base with kind := .done, sid := r.nextSid } hcur hb (r.nextSid + 1)
  · exact (teq_setObj_status ht cur { base with kind := .error, sid := r.nextSid } hcur hb (r.nextSid + 1)).trans
      (TEq.of_eq rfl rfl)

theorem teq_commitOne {r : R} {res : Res} {rs : List Res} (h : JInv r (res :: rs)) : TEq r (r.commitOne res) := by
  rcases h.commitOne_cases with ⟨e, _⟩ | ⟨cur, base, hcur, _, _, ⟨b1, b2, b3, _⟩, e⟩ <;> rw [e]
  · exact TEq.refl r
  · exact teq_writeStatus h.tinv cur base base hcur (by simp only [core, b1, b2, b3]) _ _

theorem teq_foldl_commitOne (rs : List Res) {r : R} (h : JInv r rs) : TEq r (rs.foldl R.commitOne r) := by
  induction rs generalizing r with
  | nil => exact TEq.refl r
  | cons x xs ih => exact (teq_commitOne h).trans (ih h.commitOne)

theorem teq_commitStatus {r : R} (h : JInv r r.results) : TEq r r.commitStatus :=
  (teq_foldl_commitOne r.results h).trans (TEq.of_eq rfl rfl)

/-- `r'` is, up to status and revision, what the user's writes `lp` (those of
    `r0.injects` that have landed, in the order they landed) alone make of the
    table of `r0`; the others are still queued -/
def Sim (r0 r' : R) : Prop :=
  ∃ lp : List (Nat × Inject), (lp ++ r'.injects).Perm r0.injects ∧ TEq r' (r0.landAll lp) ∧
    ∀ k, lp.filter (fun (a : Nat × Inject) => a.1 = k) ++ r'.injects.filter (fun (a : Nat × Inject) => a.1 = k) =
      r0.injects.filter (fun (a : Nat × Inject) => a.1 = k)

theorem Sim.refl (r : R) : Sim r r := ⟨[], by simp, TEq.refl r, fun _ => by simp⟩

theorem Sim.teq {r0 r r' : R} (h : Sim r0 r) (ht' : TEq r r') (h3 : r'.injects = r.injects) : Sim r0 r' := by
  obtain ⟨lp, hp, ht, ho⟩ := h
  exact ⟨lp, by rw [h3]; exact hp, ht'.symm.trans ht, by rw [h3]; exact ho⟩

theorem Sim.same {r0 r r' : R} (h : Sim r0 r) (h1 : r'.objs = r.objs) (h2 : r'.dels = r.dels) (h3 : r'.injects = r.injects) :
    Sim r0 r' :=
  h.teq (TEq.of_eq h1 h2) h3

theorem Sim.processSingle {r0 r : R} (h : Sim r0 r) (obj : RObj) (rev : Nat) (del : Bool) :
    Sim r0 (r.processSingle obj rev del) := by
  cases del with
  | true =>
    rw [processSingle_delete]
    split
    · exact h.same rfl rfl rfl
    · exact h.same (by simp) (by simp) (by simp)
  | false =>
    obtain ⟨lp, hp, ht, ho⟩ := h
    rw [processSingle_update_land]
    have p := preUpdate_facts r obj rev
    refine ⟨lp ++ r.injects.filter (fun (a : Nat × Inject) => a.1 = obj.id), ?_, ?_, ?_⟩
    · rw [(frameW_landAll _ _).injects, p.injects, List.append_assoc]
      refine List.Perm.trans (List.Perm.append_left lp ?_) hp
      have hfe : r.injects.filter (fun (a : Nat × Inject) => a.1 ≠ obj.id) =
          r.injects.filter (fun (a : Nat × Inject) => !decide (a.1 = obj.id)) := by
        apply List.filter_congr; intro a _; simp
      rw [hfe]
      exact List.filter_append_perm _ _
    · rw [landAll_append]
      exact ((TEq.of_eq p.objs p.dels).symm.trans ht).landAll _
    · intro k
      rw [(frameW_landAll _ _).injects, p.injects, ← ho k, List.filter_append, List.append_assoc]
      congr 1
      rw [List.filter_filter, List.filter_filter]
      by_cases hk : k = obj.id
      · subst hk
        have e1 : r.injects.filter (fun (a : Nat × Inject) => (decide (a.1 = obj.id) && decide (a.1 = obj.id))) =
            r.injects.filter (fun (a : Nat × Inject) => a.1 = obj.id) := by
          apply List.filter_congr; intro a _; simp
        have e2 : r.injects.filter (fun (a : Nat × Inject) => (decide (a.1 = obj.id) && decide (a.1 ≠ obj.id))) = [] := by
          rw [List.filter_eq_nil_iff]; intro a _; simp
        rw [e1, e2, List.append_nil]
      · have e1 : r.injects.filter (fun (a : Nat × Inject) => (decide (a.1 = k) && decide (a.1 = obj.id))) = [] := by
          rw [List.filter_eq_nil_iff]; intro a _; simp; omega
        have e2 : r.injects.filter (fun (a : Nat × Inject) => (decide (a.1 = k) && decide (a.1 ≠ obj.id))) =
            r.injects.filter (fun (a : Nat × Inject) => a.1 = k) := by
          apply List.filter_congr; intro a _; simp; omega
        rw [e1, e2, List.nil_append]

theorem Sim.setNum {r0 x : R} (h : Sim r0 x) (n : Nat) : Sim r0 { x with numReconciled := n } := h.same rfl rfl rfl

theorem Sim.consume {r0 : R} (cs : List Change) {r : R} (last : Nat) (h : Sim r0 r) : Sim r0 (r.consume cs last).1 :=
  consume_inv (P := fun x _ _ => Sim r0 x) (fun _ _ _ _ h _ _ => h.same rfl rfl rfl)
    (fun x c _ _ h _ => (((h.same (r' := R.retryClear { x with itDelRev := c.rev } c.obj.id)
      (retryClear_objs _ _) (retryClear_dels _ _) (retryClear_injects _ _)).processSingle c.obj c.rev true).setNum _))
    (fun x c _ _ h _ _ => (((h.same (r' := R.retryClear { x with itRev := c.rev } c.obj.id)
      (retryClear_objs _ _) (retryClear_dels _ _) (retryClear_injects _ _)).processSingle c.obj c.rev false).setNum _))
    cs r last h

theorem Sim.processRetries {r0 : R} (fuel : Nat) {r : R} (h : Sim r0 r) : Sim r0 (r.processRetries fuel) :=
  processRetries_inv (P := fun x => Sim r0 x)
    (fun x it0 h _ _ _ => (((h.same (r' := x.retryPop) (retryPop_objs _) (retryPop_dels _) (retryPop_injects _)).processSingle
      it0.obj it0.rev it0.delete).setNum _))
    fuel r h

theorem Sim.commitStatus {r0 r : R} (h : Sim r0 r) (hI : JInv r r.results) : Sim r0 r.commitStatus :=
  h.teq (teq_commitStatus hI) (commitStatus_injects r)

theorem Sim.single_mid (r : R) : Sim r (round3 r) := by
  have h1 : Sim r r.nextChanges.1 := by
    rcases nextChanges_fst r with e | e <;> rw [e]
    · exact Sim.refl r
    · exact (Sim.refl r).same rfl rfl rfl
  obtain ⟨p, e⟩ := round3_eq r
  rw [e]
  exact (h1.consume r.nextChanges.2 0).same rfl rfl rfl

theorem Sim.tail {r0 r3 : R} (last : Nat) (hS3 : Sim r0 r3) (hI3 : JInv r3 r3.results) (hs2 : r3.tailSafe) :
    Sim r0 (roundTail r3 last) :=
  (roundTail_ind (Q := fun x => JInv x x.results ∧ Sim r0 x) last ⟨hI3, hS3⟩
    (fun _ ⟨hI, hS⟩ => ⟨hI.commitStatus, hS.commitStatus hI⟩)
    (fun ⟨hI, hS⟩ => ⟨(hI.processRetries _ hs2).1, hS.processRetries _⟩)
    (fun _ _ _ _ ⟨hI, hS⟩ => ⟨hI.congr rfl rfl rfl rfl rfl rfl rfl rfl rfl, hS.same rfl rfl rfl⟩)).2

theorem JRInv.round_sim {r : R} (h : JRInv r) (hs : r.roundSafe) : Sim r r.round :=
  round_eq3 r ▸ Sim.tail _ (Sim.single_mid r) (h.single_mid hs).1 hs.2

def FreshObj (X T N : Nat) (r : R) : Prop := ∀ cur, r.get X = some cur → T < cur.rev ∧ N ≤ cur.sid

theorem freshObj_userPut (X T N : Nat) (r : R) (d : Nat) (hT : T ≤ r.tableRev) (hN : N ≤ r.nextSid) :
    FreshObj X T N (r.userPut X d) := by
  intro cur hcur
  obtain ⟨other, he⟩ := userPut_eq r X d
  rw [he] at hcur
  have hcur' : (r.setObj { id := X, data := d, kind := .pending, sid := r.nextSid, other := other, rev := 0 }).get X = some cur := hcur
  have e := get_setObj_eq r { id := X, data := d, kind := .pending, sid := r.nextSid, other := other, rev := 0 }
  simp only at e
  rw [e] at hcur'
  cases hcur'
  exact ⟨by simp only; omega, hN⟩

theorem freshObj_applyInject (X T N : Nat) (r : R) (a : Inject) (h : FreshObj X T N r) (hT : T ≤ r.tableRev) (hN : N ≤ r.nextSid) :
    FreshObj X T N (r.applyInject a) := by
  cases a with
  | put id data =>
    by_cases hid : id = X
    · subst hid; exact freshObj_userPut id T N r data hT hN
    · intro cur hcur
      obtain ⟨other, he⟩ := userPut_eq r id data
      rw [applyInject_put, he] at hcur
      exact h cur ((get_setObj_ne _ _ _ (by simp only; omega)).symm.trans hcur)
  | del id =>
    intro cur hcur
    rw [applyInject_del] at hcur
    by_cases hid : id = X
    · subst hid; rw [get_delObj_self] at hcur; cases hcur
    · rw [get_delObj_ne _ _ _ (by omega)] at hcur
      exact h cur hcur
  | touch id =>
    intro cur hcur
    rw [applyInject_touch] at hcur
    cases hg : r.get id with
    | none => rw [touch_of_none hg] at hcur; exact h cur hcur
    | some o =>
      rw [touch_of_get hg] at hcur
      have hoid : o.id = id := by simpa using List.find?_some hg
      by_cases hid : id = X
      · subst hid
        have e := get_setObj_eq r { o with other := o.other + 1 }
        simp only at e
        rw [← hoid, e] at hcur
        cases hcur
        exact ⟨by simp only; omega, (h o hg).2⟩
      · rw [get_setObj_ne _ _ _ (by simp only; omega)] at hcur
        exact h cur hcur

theorem freshObj_landAll (X T N : Nat) (acts : List (Nat × Inject)) (r : R) (h : FreshObj X T N r) (hT : T ≤ r.tableRev)
    (hN : N ≤ r.nextSid) : FreshObj X T N (r.landAll acts) := by
  induction acts generalizing r with
  | nil => exact h
  | cons a as ih =>
    have hg := grow_applyInject r a.2
    rw [landAll_cons]
    exact ih _ (freshObj_applyInject X T N r a.2 h hT hN) (Nat.le_trans hT hg.tableRev) (Nat.le_trans hN hg.nextSid)

/-- once a `put X` or a `del X` is among the writes that land, whatever else lands before or
    after, the object `X`, if it exists afterwards, is newer than everything the reconciler has
    seen and carries a fresh status id: the result of the Update is stale -/
theorem freshObj_of_write (X : Nat) (acts : List (Nat × Inject)) (r : R)
    (hw : ∃ a ∈ acts, (∃ d, a.2 = .put X d) ∨ a.2 = .del X) : FreshObj X r.tableRev r.nextSid (r.landAll acts) := by
  obtain ⟨a, ha, hk⟩ := hw
  obtain ⟨l1, l2, rfl⟩ := List.append_of_mem ha
  rw [landAll_append, landAll_cons]
  have hg := grow_landAll l1 r
  have hg2 := grow_applyInject (r.landAll l1) a.2
  refine freshObj_landAll X _ _ l2 _ ?_ (by have := hg.tableRev; have := hg2.tableRev; omega) (by have := hg.nextSid; have := hg2.nextSid; omega)
  rcases hk with ⟨d, e⟩ | e
  · rw [e]; exact freshObj_userPut X _ _ _ d hg.tableRev hg.nextSid
  · rw [e, applyInject_del]
    intro cur hcur
    rw [get_delObj_self] at hcur; cases hcur

/-- the state after the change loop of a round (`round3`): here `commitStatus` runs first -/
def R.roundMid (r : R) : R :=
  { (r.nextChanges.1.consume r.nextChanges.2 0).1 with
      pending := if r.nextChanges.2.isEmpty ∧ (r.nextChanges.1.consume r.nextChanges.2 0).1.pending.isNone then none else
        if ((r.nextChanges.1.consume r.nextChanges.2 0).2.1.isEmpty ∧
            (r.nextChanges.1.consume r.nextChanges.2 0).1.numReconciled < (r.nextChanges.1.consume r.nextChanges.2 0).1.cfg.roundSize) then none
        else some (r.nextChanges.1.consume r.nextChanges.2 0).2.1 }

/-- the state after the retry loop of a round: here `commitStatus` runs again -/
def R.roundMid2 (r : R) : R := r.roundMid.commitStatus.processRetries (r.roundMid.commitStatus.items.length + 1)

theorem round_eq_mid (r : R) : r.round =
    (let last := (r.nextChanges.1.consume r.nextChanges.2 0).2.2
     let r6 := r.roundMid2.commitStatus
     { r6 with numReconciled := 0, progressRev := if last > r6.progressRev then last else r6.progressRev,
               progressLW := r.roundMid2.lowWatermark }) := round_eq3 r

theorem JRInv.round_stages {r : R} (h : JRInv r) (hs : r.roundSafe) :
    JInv r.roundMid r.roundMid.results ∧ JInv r.roundMid2 r.roundMid2.results :=
  ⟨(h.single_mid hs).1, ((h.single_mid hs).1.commitStatus.processRetries _ hs.2).1⟩

end Sdb.Rec
