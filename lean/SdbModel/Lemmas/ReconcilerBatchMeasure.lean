import SdbModel.Lemmas.ReconcilerBatch

/-!
  The retry timer and the measure through a batch round.  Both batches are loops of
  `processSingle` over the collected entries, so the timer invariant passes through the batch
  phase by the lemma of the single operation, with or without writes landing.  The measure
  argument is that of the single round, replayed (`Quiet.replay`): once nothing fails, every
  triggered batch round strictly decreases `Mz`, so `quiesceB` goes idle.
-/
namespace Sdb.Rec

theorem QRJ.read_del {P : Nat → Prop} {r : R} (h : QRJ P r) (c : Change) : QRJ P (readD r c) ∧ NCF r (readD r c) := by
  unfold readD
  have h1 : QRJ P { r with itDelRev := c.rev } := h.congr rfl rfl rfl rfl rfl rfl
  refine ⟨(h1.retryClear c.obj.id).congr rfl rfl rfl rfl rfl rfl, ?_⟩
  exact ⟨by simp, by simp, by simp⟩

theorem QRJ.read_upd {P : Nat → Prop} {r : R} (h : QRJ P r) (c : Change) : QRJ P (readU r c) ∧ NCF r (readU r c) := by
  unfold readU
  have h1 : QRJ P { r with itRev := c.rev } := h.congr rfl rfl rfl rfl rfl rfl
  refine ⟨(h1.retryClear c.obj.id).congr rfl rfl rfl rfl rfl rfl, ?_⟩
  exact ⟨by simp, by simp, by simp⟩

theorem QRJ.consumeB {P : Nat → Prop} (cs : List Change) {r : R} (last : Nat) (ds us : List BEntry) (h : QRJ P r) :
    QRJ P (r.consumeB cs last ds us).1 ∧ NCF r (r.consumeB cs last ds us).1 :=
  (consumeB_ind (P := fun x _ _ _ => QRJ P x ∧ NCF r x)
    (fun _ _ _ _ _ h _ _ => ⟨h.1.congr rfl rfl rfl rfl rfl rfl, h.2.trans ⟨rfl, rfl, rfl⟩⟩)
    (fun _ c _ _ _ h _ => ⟨(h.1.read_del c).1, h.2.trans (h.1.read_del c).2⟩)
    (fun _ c _ _ _ h _ _ => ⟨(h.1.read_upd c).1, h.2.trans (h.1.read_upd c).2⟩)
    cs r last ds us ⟨h, NCF.refl r⟩).1

theorem QR.consumeB {P : Nat → Prop} (cs : List Change) {r : R} (last : Nat) (ds us : List BEntry) (h : QR P r) :
    QR P (r.consumeB cs last ds us).1 ∧ NCF r (r.consumeB cs last ds us).1 := by
  obtain ⟨a, n⟩ := h.toJ.consumeB cs last ds us
  exact ⟨a.toQR ((consumeB_frame cs r last ds us).1.injects.trans h.noinj), n⟩

theorem QRJ.foldl_stepD {P : Nat → Prop} (dl : List BEntry) {x : R} (h : QRJ P x)
    (hids : dl.Pairwise (fun e e' => e.1.id ≠ e'.1.id)) (hclr : ∀ e ∈ dl, ∀ it ∈ x.items, it.id ≠ e.1.id) :
    QRJ P (dl.foldl (stepD x.failing) x) ∧ NCF x (dl.foldl (stepD x.failing) x) := by
  induction dl generalizing x with
  | nil => exact ⟨h, NCF.refl x⟩
  | cons e dl ih =>
    rw [List.pairwise_cons] at hids
    have hclre := hclr e (List.mem_cons_self ..)
    rw [List.foldl_cons, stepD_eq_processSingle x e hclre]
    obtain ⟨h1, n1⟩ := h.processSingle e.1 e.2 true (fun _ it hit hid => absurd hid (hclre it hit))
    have hfl : (x.processSingle e.1 e.2 true).failing = x.failing := n1.2.2
    rw [← hfl]
    obtain ⟨a, b⟩ := ih h1 hids.2 (processSingle_delete_clear hids.1 fun e' he' => hclr e' (List.mem_cons_of_mem _ he'))
    exact ⟨a, n1.trans b⟩

theorem QRJ.foldl_processSingle {P : Nat → Prop} (ul : List BEntry) {x : R} (h : QRJ P x) :
    QRJ P (ul.foldl (fun (x : R) (e : BEntry) => x.processSingle e.1 e.2 false) x) ∧
    NCF x (ul.foldl (fun (x : R) (e : BEntry) => x.processSingle e.1 e.2 false) x) := by
  induction ul generalizing x with
  | nil => exact ⟨h, NCF.refl x⟩
  | cons e ul ih =>
    obtain ⟨h1, n1⟩ := h.processSingle e.1 e.2 false (fun e' => by cases e')
    obtain ⟨a, b⟩ := ih h1
    exact ⟨a, n1.trans b⟩

theorem consumeB_ds_facts {n : R} {cs : List Change} (ht : TInv n) (hch : ChOK n [] cs) (last : Nat) :
    (n.consumeB cs last [] []).2.2.2.1.Pairwise (fun e e' => e.1.id ≠ e'.1.id) ∧
    ∀ e ∈ (n.consumeB cs last [] []).2.2.2.1, ∀ it ∈ (n.consumeB cs last [] []).1.items, it.id ≠ e.1.id := by
  obtain ⟨pre, hx⟩ := Collected.consumeB n cs last
  have hids := hch.ids ht
  rw [hx.split] at hids
  rw [hx.ds_eq]
  refine ⟨List.pairwise_map.2 ((List.pairwise_append.1 hids).1.sublist List.filter_sublist), fun e he => ?_⟩
  obtain ⟨c, hc, rfl⟩ := List.mem_map.1 he
  exact hx.clr c (List.mem_filter.1 hc).1 (Or.inl (List.mem_filter.1 hc).2)

theorem QRJ.batch_phase {P : Nat → Prop} {n : R} {cs : List Change} (hq : QRJ P n) (ht : TInv n) (hch : ChOK n [] cs)
    (last : Nat) (pend : Option (List Change)) :
    QRJ P (batchOps (n.consumeB cs last [] []) pend) ∧ NCF n (batchOps (n.consumeB cs last [] []) pend) := by
  obtain ⟨hids, hclr⟩ := consumeB_ds_facts ht hch last
  obtain ⟨hq1, n1⟩ := hq.consumeB cs last [] []
  rw [batchOps_eq]
  generalize n.consumeB cs last [] [] = co at hq1 n1 hids hclr ⊢
  have hq2 : QRJ P { co.1 with pending := pend } := hq1.congr rfl rfl rfl rfl rfl rfl
  have n2 : NCF co.1 { co.1 with pending := pend } := ⟨rfl, rfl, rfl⟩
  obtain ⟨hq3, n3⟩ := hq2.foldl_stepD co.2.2.2.1 hids hclr
  obtain ⟨hq4, n4⟩ := hq3.foldl_processSingle co.2.2.2.2
  exact ⟨hq4, ((n1.trans n2).trans n3).trans n4⟩

/-- unlike `QInv.single_mid` this asks for the table invariant: the collected deletions have distinct ids by it -/
theorem QInv.batch_mid {P : Nat → Prop} {r : R} (h : QInv P r) (hres : r.results = []) (hp : r.failing ≠ [] → PAdd P r)
    (ht : TInv r) (hs : Sync r) : QRJ P (batchMid r) ∧ NCF r (batchMid r) := by
  have h1 := QRJ.next ⟨h, hp, hres ▸ fun _ hr => nomatch hr⟩
  obtain ⟨a, n⟩ := h1.1.batch_phase ht.next (chOK_nextChanges ht hs) 0
    (pendAfter r.nextChanges.2 (collectB r))
  exact ⟨a, h1.2.trans n⟩

theorem QInv.roundB {P : Nat → Prop} {r : R} (h : QInv P r) (hr : RInv r)
    (hp : r.failing ≠ [] → PAdd P r) : QInv P r.roundB ∧ r.roundB.now = r.now ∧ r.roundB.cfg = r.cfg ∧ r.roundB.failing = r.failing := by
  obtain ⟨h3, n3⟩ := h.batch_mid hr.res hp hr.inv.tinv hr.sync
  rw [roundB_eq]
  obtain ⟨hq, n4⟩ := roundTail_q _ hr.roundB_mid.inv hr.roundB_mid.cu h3
  exact ⟨hq, n3.trans n4⟩

theorem WInv.roundB {r : R} (h : WInv r) : WInv r.roundB := by
  obtain ⟨hq, (n : NCF r r.roundB)⟩ := h.q.roundB h.rinv (fun _ => pAdd_bound r)
  refine ⟨h.rinv.roundB, ?_⟩
  rw [n.now, n.cfg]; exact hq

theorem WInv.quiesceB {r : R} (h : WInv r) (fuel : Nat) : WInv (r.quiesceB fuel) :=
  quiesceB_eq r fuel ▸ h.quiesceW (fun _ h => h.roundB) fuel

theorem WInv.advanceB {r : R} (h : WInv r) (ms fuel : Nat) : WInv (r.advanceB ms fuel) :=
  advanceB_eq r ms fuel ▸ h.advanceW (fun _ h => h.roundB) ms fuel

theorem SInv.roundB {B : Nat} {r : R} (h : SInv B r) : SInv B r.roundB ∧ r.roundB.now = r.now := by
  obtain ⟨hq, (n : NCF r r.roundB)⟩ := h.q.roundB h.rinv (fun e => absurd h.nofail e)
  exact ⟨⟨h.rinv.roundB, hq, n.failing.trans h.nofail⟩, n.now⟩

theorem SInv.quiesceB {B : Nat} {r : R} (h : SInv B r) (fuel : Nat) : SInv B (r.quiesceB fuel) ∧ (r.quiesceB fuel).now = r.now :=
  quiesceB_eq r fuel ▸ h.quiesceW (fun _ h => h.roundB) fuel

theorem SInv.advanceB {B : Nat} {r : R} (h : SInv B r) (ms fuel : Nat) :
    SInv B (r.advanceB ms fuel) ∧ (r.advanceB ms fuel).now = r.now + ms :=
  advanceB_eq r ms fuel ▸ h.advanceW (fun _ h => h.roundB) ms fuel

theorem length_reorder (pre rest : List Change) :
    (pre.filter (·.deleted) ++ (pre.filter (fun c => !c.deleted) ++ rest)).length = (pre ++ rest).length := by
  rw [← List.append_assoc, List.length_append (bs := rest), List.length_append (bs := rest),
    (List.filter_append_perm (·.deleted) pre).length_eq]

theorem Quiet.replay (N M : Nat) : Replay (fun r rs cs => Quiet r ∧ ChOK r rs cs ∧ M1r r + N ≤ M + cs.length) where
  toLoopInv := Quiet.loopInv N M
  clear id h _ := ⟨h.1.retryClear id, h.2.1.congr (retryClear_objs ..) (retryClear_dels ..) (retryClear_itRev ..) (retryClear_itDelRev ..),
    Nat.le_trans (Nat.add_le_add_right (m1r_retryClear _ id) N) h.2.2⟩
  setPending p h := ⟨h.1.setPending p, h.2.1.congr rfl rfl rfl rfl, h.2.2⟩
  reorder h := ⟨h.1, h.2.1.reorder, by rw [length_reorder]; exact h.2.2⟩

theorem consumeB_rest_lt {cs : List Change} (hne : cs ≠ []) (x : R) (last : Nat) (ds us : List BEntry) :
    (x.consumeB cs last ds us).2.1.length < cs.length := by
  obtain ⟨k, _, hk, a, _⟩ := consumeB_steps (P := fun k _ cs' _ _ => cs'.length + k = cs.length)
    (fun _ _ _ _ _ _ h _ _ => by rw [← h, List.length_cons]; omega) (fun _ _ _ _ _ _ h _ => by rw [← h, List.length_cons]; omega)
    (fun _ _ _ _ _ _ h _ _ => by rw [← h, List.length_cons]; omega) cs 0 x last ds us rfl
  have := hk hne
  omega

theorem Quiet.batch_phase {n : R} {cs : List Change} (hq : Quiet n) (hres : n.results = []) (hch : ChOK n [] cs) (last : Nat)
    (pend : Option (List Change)) :
    Quiet (batchOps (n.consumeB cs last [] []) pend) ∧
    M1r (batchOps (n.consumeB cs last [] []) pend) + cs.length ≤ M1r n + (n.consumeB cs last [] []).2.1.length := by
  obtain ⟨⟨q, _, m⟩, _⟩ := (Quiet.replay cs.length (M1r n)).batch_phase ⟨hq, hch, Nat.le_refl _⟩ hres hq.tinv hch last pend
    (batchSafe_deleteBatch _ _ _ (noTouch_nil ((consumeB_frame cs n last [] []).1.injects.trans hq.noinj)))
  exact ⟨q, m⟩

theorem roundB_eq_round_of_nil (r : R) (h : r.nextChanges.2 = []) : r.roundB = r.round := by
  rw [roundB_eq, round_eq3, round3, roundLast, batchMid, collectB, h, consumeB_nil, consume_nil]
  rfl

theorem mz_roundB_of {P : Nat → Prop} {r : R} (ht : TInv r) (hs : Sync r) (hres : r.results = [])
    (hnum : r.numReconciled = 0) (hq : QInv P r) (hf : r.failing = []) (hinj : r.injects = [])
    (hrs : 1 ≤ r.cfg.roundSize) (htr : r.triggered = true) : Mz r.roundB < Mz r := by
  by_cases hcs : r.nextChanges.2 = []
  · rw [roundB_eq_round_of_nil r hcs]; exact mz_round_of ht hs hres hnum hq hf hinj hrs htr
  · have h0 : Quiet r := ⟨ht, hq.objid, hf, hinj, hres ▸ fun _ h => nomatch h⟩
    have hr1 : r.nextChanges.1.results = [] ∧ M1r r.nextChanges.1 = M1 r 0 := by
      rcases nextChanges_fst r with e | e <;> rw [e] <;> exact ⟨hres, by unfold M1r; rw [hres]; rfl⟩
    obtain ⟨q3, m3⟩ := h0.next.batch_phase hr1.1 (chOK_nextChanges ht hs) 0
      (pendAfter r.nextChanges.2 (collectB r))
    have hlt := consumeB_rest_lt hcs r.nextChanges.1 0 [] []
    rw [hr1.2] at m3
    rw [roundB_eq]
    -- the batch phase lowers `M1` by one per change read (`m3`), at least one (`hlt`); the tail does not raise it
    exact mz_lt_of_m1 (Nat.le_trans (Nat.succ_le_succ (m1_roundTail _ q3).1) (by omega))

theorem mz_roundB {P : Nat → Prop} {r : R} (hr : RInv r) (hq : QInv P r) (hf : r.failing = [])
    (hrs : 1 ≤ r.cfg.roundSize) (htr : r.triggered = true) : Mz r.roundB < Mz r :=
  mz_roundB_of hr.inv.tinv hr.sync hr.res hr.num hq hf hr.inv.noinj hrs htr

theorem SInv.roundB_cfg {B : Nat} {r : R} (h : SInv B r) : r.roundB.cfg = r.cfg :=
  NCF.cfg (h.q.roundB h.rinv (fun e => absurd h.nofail e)).2

theorem sround_batch (B : Nat) : SRound B R.roundB :=
  ⟨fun _ h => h.roundB, fun _ h => h.roundB_cfg, fun _ h hrs htr => mz_roundB h.rinv h.q h.nofail hrs htr⟩

theorem SInv.quiesceB_idle {B : Nat} {r : R} (h : SInv B r) (hrs : 1 ≤ r.cfg.roundSize) (fuel : Nat) (hfuel : Mz r < fuel) :
    (r.quiesceB fuel).triggered = false ∧ Mz (r.quiesceB fuel) ≤ Mz r ∧
    (r.fireTimer.triggered = true → Mz (r.quiesceB fuel) < Mz r) :=
  quiesceB_eq r fuel ▸ (sround_batch B).quiesce_idle h hrs fuel hfuel

end Sdb.Rec
