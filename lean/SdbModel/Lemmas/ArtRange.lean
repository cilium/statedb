import SdbModel.Lemmas.ArtSorted

/-! `prefixNode` and `lbNode` return the entries selected by a filter on the keys, in the same order. -/
namespace Sdb.Art

theorem prefixQuery_cases (q p : List Nat) : q <+: p ∨ (∃ b r, q = p ++ b :: r) ∨ (¬ q <+: p ∧ ¬ p <+: q) := by
  by_cases h1 : q <+: p
  · exact .inl h1
  · by_cases h2 : p <+: q
    · obtain ⟨t, rfl⟩ := h2
      cases t with
      | nil => exact absurd ⟨[], by simp⟩ h1
      | cons b r => exact .inr (.inl ⟨b, r, rfl⟩)
    · exact .inr (.inr ⟨h1, h2⟩)

/-- what `prefixNode` compares with the query `q`: the node's prefix `p` cut to the shorter of the two lengths -/
theorem take_min_of_prefix {q p : List Nat} (h : q <+: p) : p.take (min q.length p.length) = q := by
  rw [Nat.min_eq_left h.length_le]; exact (List.prefix_iff_eq_take.mp h).symm

theorem take_min_of_le {q p : List Nat} (h : p.length ≤ q.length) : p.take (min q.length p.length) = p := by
  rw [Nat.min_eq_right h, List.take_length]

theorem prefixNode_of_prefix (n : Node) (w : Nat) (q : List Nat) (h : q <+: n.pfx) :
    (prefixNode n w q).1 = entries n := by
  unfold prefixNode
  simp only [take_min_of_prefix h, hasPrefix_self, List.drop_length]
  simp

theorem prefixNode_leaf_below (p : List Nat) (d : LeafD) (w b : Nat) (r : List Nat) :
    (prefixNode (.leaf p d) w (p ++ b :: r)).1 = [] := by
  unfold prefixNode
  simp only [Node.pfx, take_min_of_le (List.length_append ▸ Nat.le_add_right ..), hasPrefix_append_self, List.drop_left]
  simp

theorem prefixNode_inner_below (k : Nat) (p : List Nat) (lf : Option LeafD) (kids : Kids) (nw t w b : Nat)
    (r : List Nat) :
    ∃ w', (prefixNode (.inner k p lf kids nw t) w (p ++ b :: r)).1 = (prefixK kids b w' (b :: r)).1 := by
  unfold prefixNode
  simp only [Node.pfx, take_min_of_le (List.length_append ▸ Nat.le_add_right ..), hasPrefix_append_self, List.drop_left]
  exact ⟨_, by simp; rfl⟩

theorem prefixNode_diverge (n : Node) (w : Nat) (q : List Nat) (h1 : ¬ q <+: n.pfx) (h2 : ¬ n.pfx <+: q) :
    (prefixNode n w q).1 = [] := by
  have : hasPrefix q (n.pfx.take (min q.length n.pfx.length)) = false := by
    rw [Bool.eq_false_iff]
    intro h
    have hcp := (hasPrefix_iff _ _).mp h
    rcases Nat.le_total q.length n.pfx.length with hl | hl
    · -- the compared part is as long as the query: it is the query
      rw [Nat.min_eq_left hl] at hcp
      exact h1 (hcp.eq_of_length (List.length_take_of_le hl) ▸ List.take_prefix _ _)
    · rw [take_min_of_le hl] at hcp; exact h2 hcp
  unfold prefixNode; simp [this]

def pfxP (q : List Nat) (e : List Nat × Nat) : Bool := hasPrefix e.1 q

theorem filter_pfxP (l : List (List Nat × Nat)) (q : List Nat) : l.filter (pfxP q) = Tbl.OMap.prefixQ l q := rfl

theorem filter_pfx_all (acc : List Nat) (n : Node) (h : WFNode acc n) (q : List Nat) (hq : q <+: n.pfx) :
    (entries n).filter (pfxP (acc ++ q)) = entries n := by
  rw [List.filter_eq_self]
  intro e he
  obtain ⟨t, ht⟩ := entries_pfx acc n h e he
  obtain ⟨s, hs⟩ := hq
  simp only [pfxP, ht, ← hs, List.append_assoc, hasPrefix_append_left]
  exact hasPrefix_append_self q _

theorem filter_pfx_diverge (acc : List Nat) (n : Node) (h : WFNode acc n) (q : List Nat)
    (h1 : ¬ q <+: n.pfx) (h2 : ¬ n.pfx <+: q) : (entries n).filter (pfxP (acc ++ q)) = [] := by
  rw [List.filter_eq_nil_iff]
  intro e he hp
  obtain ⟨t, ht⟩ := entries_pfx acc n h e he
  simp only [pfxP, ht, List.append_assoc, hasPrefix_append_left] at hp
  have hq := (hasPrefix_iff _ _).mp hp
  have hn : n.pfx <+: n.pfx ++ t := List.prefix_append _ _
  rcases Nat.le_total q.length n.pfx.length with hl | hl
  · exact h1 (List.prefix_of_prefix_length_le hq hn hl)
  · exact h2 (List.prefix_of_prefix_length_le hn hq hl)

theorem filter_pfx_none_kids (acc : List Nat) (kids : Kids) (h : WFKids acc kids) (b : Nat) (rest : List Nat)
    (hb : b ∉ kids.keys) : (entriesK kids).filter (pfxP (acc ++ b :: rest)) = [] := by
  rw [List.filter_eq_nil_iff]
  intro e he
  obtain ⟨c, hc, t, ht⟩ := entriesK_pfx acc kids h e he
  have hcb : c ≠ b := fun e' => hb (e' ▸ hc)
  simp [pfxP, ht, hasPrefix_append_left, hasPrefix_cons_cons, hcb]

theorem filter_pfx_short {l : List (List Nat × Nat)} {x : List Nat} (h : ∀ e ∈ l, e.1 = x) (b : Nat) (r : List Nat) :
    l.filter (pfxP (x ++ b :: r)) = [] := by
  rw [List.filter_eq_nil_iff]
  intro e he hp
  have := ((hasPrefix_iff _ _).mp hp).length_le
  rw [h e he, List.length_append, List.length_cons] at this
  omega

mutual
theorem prefixNode_eq (acc : List Nat) (n : Node) (hwf : WFNode acc n) (w : Nat) (q : List Nat) :
    (prefixNode n w q).1 = (entries n).filter (pfxP (acc ++ q)) := by
  rcases prefixQuery_cases q n.pfx with hq | ⟨b, r, rfl⟩ | ⟨h1, h2⟩
  · rw [prefixNode_of_prefix n w q hq, filter_pfx_all acc n hwf q hq]
  · cases n with
    | leaf p d =>
      rw [Node.pfx, prefixNode_leaf_below, ← List.append_assoc]
      exact (filter_pfx_short (fun e he => List.mem_singleton.mp he ▸ hwf) b r).symm
    | inner k p lf kids nw t =>
      obtain ⟨w', e⟩ := prefixNode_inner_below k p lf kids nw t w b r
      obtain ⟨hlf, hk⟩ := hwf
      rw [Node.pfx, e, prefixK_eq (acc ++ p) kids hk b w' (b :: r) r rfl, entries_inner, List.filter_append,
        ← List.append_assoc, filter_pfx_short (lfList_key hlf) b r, List.nil_append]
  · rw [prefixNode_diverge n w q h1 h2, filter_pfx_diverge acc n hwf q h1 h2]
theorem prefixK_eq (acc : List Nat) : (kids : Kids) → WFKids acc kids → ∀ (b w : Nat) (q rest : List Nat),
    q = b :: rest → (prefixK kids b w q).1 = (entriesK kids).filter (pfxP (acc ++ q))
  | .nil, _ => by intro b w q rest _; rfl
  | .cons c n rs, hwf => by
    intro b w q rest hq
    obtain ⟨⟨tl, hpf⟩, hn, hlt, hrs⟩ := hwf
    subst hq
    rw [prefixK, entriesK, List.filter_append]
    by_cases hcb : c = b
    · subst hcb
      rw [if_pos rfl, prefixNode_eq acc n hn w _, filter_pfx_none_kids acc rs hrs c rest
        (not_mem_keys_of_le hlt (Nat.le_refl c)), List.append_nil]
    · -- a child under another byte parts from the query at that byte
      rw [if_neg hcb, filter_pfx_diverge acc n hn (b :: rest)
        (hpf ▸ fun h => hcb (List.cons_prefix_cons.mp h).1.symm)
        (hpf ▸ fun h => hcb (List.cons_prefix_cons.mp h).1), List.nil_append]
      by_cases hlt' : c < b
      · rw [if_pos hlt', prefixK_eq acc rs hrs b w (b :: rest) rest rfl]
      · rw [if_neg hlt', filter_pfx_none_kids acc rs hrs b rest (not_mem_keys_of_le hlt (Nat.not_lt.mp hlt'))]
end

/-- `lbNode` compares the node's prefix `x` with the key `y` cut to its length: that decides the order of every
    extension of `x` against `y`, unless `y` itself extends `x` -/
theorem lb_trunc (x y : List Nat) :
    (cmpL x (y.take (min y.length x.length)) = .lt → ∀ t, cmpL (x ++ t) y = .lt) ∧
    (cmpL x (y.take (min y.length x.length)) = .gt → ∀ t, cmpL (x ++ t) y = .gt) ∧
    (cmpL x (y.take (min y.length x.length)) = .eq → ∃ s, y = x ++ s) := by
  rw [Nat.min_comm, ← List.take_eq_take_min]
  induction x generalizing y with
  | nil => simp
  | cons a xs ih =>
    cases y with
    | nil => simp
    | cons b ys =>
      rw [List.length_cons, List.take_succ_cons]
      rcases Nat.lt_trichotomy a b with h | rfl | h
      · have hlt : ∀ u v, cmpL (a :: u) (b :: v) = .lt := fun u v => cmpL_diff_lt [] a b u v h
        exact ⟨fun _ _ => hlt _ _, fun e => (nomatch (hlt _ _).symm.trans e), fun e => (nomatch (hlt _ _).symm.trans e)⟩
      · simp only [List.cons_append, cmpL_cons_cons, Nat.lt_irrefl, if_false]
        obtain ⟨i1, i2, i3⟩ := ih ys
        exact ⟨i1, i2, fun h => (i3 h).imp fun s hs => congrArg (a :: ·) hs⟩
      · have hgt : ∀ u v, cmpL (a :: u) (b :: v) = .gt := fun u v => cmpL_diff_gt [] b a u v h
        exact ⟨fun e => (nomatch (hgt _ _).symm.trans e), fun _ _ => hgt _ _, fun e => (nomatch (hgt _ _).symm.trans e)⟩

def geP (k : List Nat) (e : List Nat × Nat) : Bool := decide (cmpL e.1 k ≠ .lt)

theorem filter_geP (l : List (List Nat × Nat)) (k : List Nat) : l.filter (geP k) = Tbl.OMap.lowerBound l k :=
  List.filter_congr fun ⟨a, _⟩ _ => by
    show decide (cmpL a k ≠ .lt) = (cmpL a k != .lt)
    cases cmpL a k <;> rfl

theorem lbNode_cases (n : Node) (key : List Nat) :
    ((∀ t, cmpL (n.pfx ++ t) key = .lt) ∧ lbNode n key = []) ∨
    ((∀ t, cmpL (n.pfx ++ t) key ≠ .lt) ∧ lbNode n key = entries n) ∨
    ∃ b r, key = n.pfx ++ b :: r := by
  obtain ⟨l1, l2, l3⟩ := lb_trunc n.pfx key
  cases hc : cmpL n.pfx (key.take (min key.length n.pfx.length)) with
  | lt => exact .inl ⟨l1 hc, by unfold lbNode; simp [hc]⟩
  | gt => exact .inr (.inl ⟨fun t => by rw [l2 hc t]; decide, by unfold lbNode; simp [hc]⟩)
  | eq =>
    obtain ⟨s, hs⟩ := l3 hc
    cases s with
    | nil =>
      rw [List.append_nil] at hs
      exact .inr (.inl ⟨fun t => cmpL_append_not_lt _ t _ (hs ▸ cmpL_lt_irrefl _),
        by unfold lbNode; simp only [hc]; simp [hs]⟩)
    | cons b r => exact .inr (.inr ⟨b, r, hs⟩)

theorem cmpL_cut_below (p : List Nat) (b : Nat) (r : List Nat) :
    cmpL p ((p ++ b :: r).take (min (p ++ b :: r).length p.length)) = .eq := by
  rw [Nat.min_eq_right (List.length_append ▸ Nat.le_add_right ..), List.take_left, cmpL_refl]

theorem lbNode_leaf_below (p : List Nat) (d : LeafD) (b : Nat) (r : List Nat) :
    lbNode (.leaf p d) (p ++ b :: r) = [] := by
  unfold lbNode; simp only [Node.pfx, cmpL_cut_below]; simp

theorem lbNode_inner_below (k : Nat) (p : List Nat) (lf : Option LeafD) (kids : Kids) (nw t b : Nat) (r : List Nat) :
    lbNode (.inner k p lf kids nw t) (p ++ b :: r) = lbK kids b (b :: r) := by
  unfold lbNode; simp only [Node.pfx, cmpL_cut_below]; simp

theorem filter_ge_none (acc : List Nat) (n : Node) (hwf : WFNode acc n) (key : List Nat)
    (h : ∀ t, cmpL (n.pfx ++ t) key = .lt) : (entries n).filter (geP (acc ++ key)) = [] := by
  rw [List.filter_eq_nil_iff]
  intro e he
  obtain ⟨t, ht⟩ := entries_pfx acc n hwf e he
  simp [geP, ht, List.append_assoc, cmpL_append_left, h t]

theorem filter_ge_all (acc : List Nat) (n : Node) (hwf : WFNode acc n) (key : List Nat)
    (h : ∀ t, cmpL (n.pfx ++ t) key ≠ .lt) : (entries n).filter (geP (acc ++ key)) = entries n := by
  rw [List.filter_eq_self]
  intro e he
  obtain ⟨t, ht⟩ := entries_pfx acc n hwf e he
  simp [geP, ht, List.append_assoc, cmpL_append_left, h t]

theorem filter_ge_all_kids (acc : List Nat) (kids : Kids) (h : WFKids acc kids) (b : Nat) (rest : List Nat)
    (hb : ∀ c ∈ kids.keys, b < c) : (entriesK kids).filter (geP (acc ++ b :: rest)) = entriesK kids := by
  rw [List.filter_eq_self]
  intro e he
  obtain ⟨c, hc, t, ht⟩ := entriesK_pfx acc kids h e he
  have : cmpL e.1 (acc ++ b :: rest) = .gt := by
    rw [ht]; exact cmpL_diff_gt acc b c _ _ (hb c hc)
  simp [geP, this]

theorem filter_ge_short {l : List (List Nat × Nat)} {x : List Nat} (h : ∀ e ∈ l, e.1 = x) (b : Nat) (r : List Nat) :
    l.filter (geP (x ++ b :: r)) = [] := by
  rw [List.filter_eq_nil_iff]
  intro e he
  simp [geP, h e he, cmpL_prefix_lt]

mutual
theorem lbNode_eq (acc : List Nat) (n : Node) (hwf : WFNode acc n) (key : List Nat) :
    lbNode n key = (entries n).filter (geP (acc ++ key)) := by
  rcases lbNode_cases n key with ⟨h, e⟩ | ⟨h, e⟩ | ⟨b, r, rfl⟩
  · rw [e, filter_ge_none acc n hwf key h]
  · rw [e, filter_ge_all acc n hwf key h]
  · cases n with
    | leaf p d =>
      rw [Node.pfx, lbNode_leaf_below, ← List.append_assoc]
      exact (filter_ge_short (fun e he => List.mem_singleton.mp he ▸ hwf) b r).symm
    | inner k p lf kids nw t =>
      obtain ⟨hlf, hk⟩ := hwf
      rw [Node.pfx, lbNode_inner_below, lbK_eq (acc ++ p) kids hk b (b :: r) r rfl, entries_inner, List.filter_append,
        ← List.append_assoc, filter_ge_short (lfList_key hlf) b r, List.nil_append]
theorem lbK_eq (acc : List Nat) : (kids : Kids) → WFKids acc kids → ∀ (b : Nat) (key rest : List Nat),
    key = b :: rest → lbK kids b key = (entriesK kids).filter (geP (acc ++ key))
  | .nil, _ => by intro b key rest _; rfl
  | .cons c n rs, hwf => by
    intro b key rest hkey
    obtain ⟨⟨tl, hpf⟩, hn, hlt, hrs⟩ := hwf
    subst hkey
    rw [lbK, entriesK, List.filter_append]
    by_cases hcb : c < b
    · -- a child under a smaller byte lies below the bound altogether
      rw [if_pos hcb, lbK_eq acc rs hrs b (b :: rest) rest rfl, filter_ge_none acc n hn (b :: rest)
        (fun t => by rw [hpf, List.cons_append, cmpL_cons_cons, if_pos hcb]), List.nil_append]
    · rw [if_neg hcb, lbNode_eq acc n hn (b :: rest), filter_ge_all_kids acc rs hrs b rest
        fun x hx => Nat.lt_of_le_of_lt (Nat.not_lt.mp hcb) (hlt x hx)]
end

end Sdb.Art
