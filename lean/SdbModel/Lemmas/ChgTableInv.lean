import SdbModel.Lemmas.ChgOMap
import SdbModel.Lemmas.TableOps

/-! The table invariant `TInv` of C07 / C08, which covers the graveyard pair `grave` / `graveRev` beside `primary` /
    `revIdx`; it holds of the tables reachable (`TReach`) by `modify`, `delete` and the collector's per-key step. -/
namespace Sdb.Chg
open Sdb.Tbl Sdb.Chg.OMap

/-- `Tbl.newObj`, under the name the statements of C07 / C08 use -/
def modNew (t : TableS) (o : Obj) (merge : Bool) : Obj :=
  match t.primary.get o.id, merge with
  | some oo, true => { o with rev := t.rev + 1, val := oo.val + o.val }
  | _, _ => { o with rev := t.rev + 1 }

theorem modNew_id (t o m) : (modNew t o m).id = o.id := newObj_id t o m
theorem modNew_rev (t o m) : (modNew t o m).rev = t.rev + 1 := newObj_rev t o m

theorem modify_spec (t : TableS) (g : Nat) (o : Obj) (m : Bool) :
    (modify t g o m).1 = t ∨
    (let t' := (modify t g o m).1
     let n := modNew t o m
     t'.rev = t.rev + 1 ∧
     t'.primary = t.primary.insert o.id n ∧
     t'.revIdx = (match t.primary.get o.id with
                  | some oo => t.revIdx.erase (revKey oo.rev) | none => t.revIdx).insert (revKey (t.rev + 1)) n ∧
     t'.grave = (match t.primary.get o.id, t.grave.get o.id with
                 | none, some _ => t.grave.erase o.id | _, _ => t.grave) ∧
     t'.graveRev = (match t.primary.get o.id, t.grave.get o.id with
                 | none, some g => t.graveRev.erase (revKey g.rev) | _, _ => t.graveRev)) := by
  match modify_outcome t g o m with
  | .notLocked (eq := h) .. | .notFound (eq := h) .. | .revNotEqual (eq := h) .. => exact Or.inl (by rw [h])
  | .ok (locked := hl) (guard := hok) (eq := h) (wrote := hm) .. =>
    have hg := modify_ok_grave t g o m hl hok
    rw [h] at hg ⊢
    exact Or.inr ⟨hm.rev, hm.primary, hm.revIdx, hg.1, hg.2⟩

/-- `primary` / `revIdx` and `grave` / `graveRev` are each a `Tbl.Pair` (`TInv.live`, `TInv.dead`), and no id and
    no revision key occurs in both.  `bound`: the next revision still fits the Go type `uint64`.
    Field names: `p` / `r` / `g` / `gr` for the four indexes, then `S` for sorted and `K` for what the keys are. -/
structure TInv (t : TableS) : Prop where
  bound : t.rev + 1 < 2 ^ 64
  pS : Sorted t.primary
  pK : ∀ k o, (k, o) ∈ t.primary → k = o.id
  rS : Sorted t.revIdx
  rK : ∀ k o, (k, o) ∈ t.revIdx → k = revKey o.rev ∧ o.rev ≤ t.rev
  rpos : ∀ k o, (k, o) ∈ t.revIdx → 0 < o.rev
  pr : ∀ o, (o.id, o) ∈ t.primary ↔ (revKey o.rev, o) ∈ t.revIdx
  gS : Sorted t.grave
  gK : ∀ k o, (k, o) ∈ t.grave → k = o.id
  grS : Sorted t.graveRev
  grK : ∀ k o, (k, o) ∈ t.graveRev → k = revKey o.rev ∧ o.rev ≤ t.rev
  gg : ∀ o, (o.id, o) ∈ t.grave ↔ (revKey o.rev, o) ∈ t.graveRev
  disj : ∀ k o o', (k, o) ∈ t.grave → (k, o') ∉ t.primary
  rdisj : ∀ k o o', (k, o) ∈ t.graveRev → (k, o') ∉ t.revIdx

theorem TInv.congr {t t' : TableS} (h : TInv t) (hrev : t'.rev = t.rev) (hp : t'.primary = t.primary)
    (hr : t'.revIdx = t.revIdx) (hg : t'.grave = t.grave) (hgr : t'.graveRev = t.graveRev) : TInv t' := by
  cases h
  constructor <;> simp only [hrev, hp, hr, hg, hgr] <;> assumption

theorem TInv.live {t : TableS} (h : TInv t) : Pair t.rev t.primary t.revIdx := ⟨h.pS, h.pK, h.rS, h.rK, h.pr⟩

theorem TInv.dead {t : TableS} (h : TInv t) : Pair t.rev t.grave t.graveRev := ⟨h.gS, h.gK, h.grS, h.grK, h.gg⟩

theorem TInv.of_pairs {t : TableS} (bound : t.rev + 1 < 2 ^ 64) (live : Pair t.rev t.primary t.revIdx)
    (rpos : ∀ k o, (k, o) ∈ t.revIdx → 0 < o.rev) (dead : Pair t.rev t.grave t.graveRev)
    (disj : ∀ k o o', (k, o) ∈ t.grave → (k, o') ∉ t.primary)
    (rdisj : ∀ k o o', (k, o) ∈ t.graveRev → (k, o') ∉ t.revIdx) : TInv t :=
  ⟨bound, live.pS, live.pK, live.rS, live.rK, rpos, live.pr, dead.pS, dead.pK, dead.rS, dead.rK, dead.pr, disj, rdisj⟩

structure ModMem (t : TableS) (o : Obj) (m : Bool) (t' : TableS) : Prop where
  rev : t'.rev = t.rev + 1
  primary : ∀ k x, (k, x) ∈ t'.primary ↔ (k = o.id ∧ x = modNew t o m) ∨ (k ≠ o.id ∧ (k, x) ∈ t.primary)
  grave : ∀ k x, (k, x) ∈ t'.grave ↔ (k, x) ∈ t.grave ∧ (t.primary.get o.id = none → k ≠ o.id)
  graveRev : ∀ k x, (k, x) ∈ t'.graveRev ↔ (k, x) ∈ t.graveRev ∧
    (t.primary.get o.id = none → ∀ g, t.grave.get o.id = some g → k ≠ revKey g.rev)

theorem modify_mem {t : TableS} (h : TInv t) (g : Nat) (o : Obj) (m : Bool) :
    (modify t g o m).1 = t ∨ ModMem t o m (modify t g o m).1 := by
  rcases modify_spec t g o m with e | ⟨hrev, hp, _, hg, hgr⟩
  · exact Or.inl e
  · right
    -- the two graveyard fields together: the same cases settle both
    refine And.elim (ModMem.mk hrev fun k x => by rw [hp, mem_insert h.pS]) ?_
    rw [hg, hgr]
    cases hold : t.primary.get o.id with
    | some oo => exact ⟨fun k x => by simp, fun k x => by simp⟩
    | none =>
      cases hgo : t.grave.get o.id with
      | none =>
        refine ⟨fun k x => ?_, fun k x => by simp⟩
        simp only [true_implies, iff_self_and]
        intro hm e; subst e
        exact (get_eq_none_iff h.gS _).mp hgo x hm
      | some g =>
        exact ⟨fun k x => by simp only [mem_erase h.gS, true_implies, and_comm],
          fun k x => by simp [mem_erase h.grS, and_comm]⟩

/-- `t.trackers.isEmpty = false` is the case in which the graveyard keeps a copy of `old` under the new revision -/
structure DelMem (t : TableS) (id : Key) (old : Obj) (t' : TableS) : Prop where
  rev : t'.rev = t.rev + 1
  primary : ∀ k x, (k, x) ∈ t'.primary ↔ k ≠ id ∧ (k, x) ∈ t.primary
  grave : ∀ k x, (k, x) ∈ t'.grave ↔ (t.trackers.isEmpty = false ∧ k = id ∧ x = { old with rev := t.rev + 1 }) ∨
    ((t.trackers.isEmpty = false → k ≠ id) ∧ (k, x) ∈ t.grave)
  graveRev : ∀ k x, (k, x) ∈ t'.graveRev ↔
    (t.trackers.isEmpty = false ∧ k = revKey (t.rev + 1) ∧ x = { old with rev := t.rev + 1 }) ∨
    ((t.trackers.isEmpty = false → k ≠ revKey (t.rev + 1)) ∧ (k, x) ∈ t.graveRev)

theorem delete_mem {t : TableS} (h : TInv t) (g : Nat) (id : Key) :
    (delete t g id).1 = t ∨ ∃ old, t.primary.get id = some old ∧ DelMem t id old (delete t g id).1 := by
  rcases delete_writes t g id with e | ⟨old, hold, hd⟩
  · exact Or.inl e
  · right
    refine ⟨old, hold, And.elim (DelMem.mk hd.rev fun k x => by rw [hd.primary, mem_erase h.pS]) ?_⟩
    rw [hd.graves.1, hd.graves.2]
    cases t.trackers.isEmpty with
    | true => exact ⟨fun k x => by simp, fun k x => by simp⟩
    | false =>
      exact ⟨fun k x => by simp only [Bool.false_eq_true, if_false, mem_insert h.gS, true_and, true_implies],
        fun k x => by simp only [Bool.false_eq_true, if_false, mem_insert h.grS, true_and, true_implies]⟩

theorem TInv.next_revKey_ne {t : TableS} (h : TInv t) {k : Key} {x : Obj}
    (hx : (k, x) ∈ t.revIdx ∨ (k, x) ∈ t.graveRev) : k ≠ revKey (t.rev + 1) := by
  have ⟨hk, hle⟩ : k = revKey x.rev ∧ x.rev ≤ t.rev := hx.elim (h.rK k x) (h.grK k x)
  have hb := h.bound
  intro e
  have := revKey_inj _ _ (by omega) (by omega) (hk.symm.trans e)
  omega

theorem TInv.revKey_ne_of_lt {t : TableS} (h : TInv t) {k : Key} {g : Obj} (hg : (k, g) ∈ t.grave) {ρ : Nat}
    (hlt : ρ < g.rev) : revKey g.rev ≠ revKey ρ := by
  intro e
  have hr := (h.grK _ _ ((h.gg g).mp (h.gK _ _ hg ▸ hg))).2
  have hb := h.bound
  have := revKey_inj _ _ (by omega) (by omega) e
  omega

theorem tinv_modify {t : TableS} (h : TInv t) (g : Nat) (o : Obj) (m : Bool)
    (hb : (modify t g o m).1.rev + 1 < 2 ^ 64) : TInv (modify t g o m).1 := by
  rcases modify_spec t g o m with e | ⟨hrev, hp, hr, hg, hgr⟩
  · rw [e]; exact h
  rcases modify_mem h g o m with e | w
  · rw [e]; exact h
  generalize (modify t g o m).1 = t' at *
  have live : Pair t'.rev t'.primary t'.revIdx := by
    rw [hrev, hp, hr]; exact h.live.put h.bound (modNew_id t o m) (modNew_rev t o m)
  -- a key that returns from the graveyard leaves both graveyard indexes
  have dead : Pair t'.rev t'.grave t'.graveRev := by
    rw [hrev, hg, hgr]
    cases t.primary.get o.id with
    | some _ => exact h.dead.mono (Nat.le_succ _)
    | none =>
      cases hgo : t.grave.get o.id with
      | none => exact h.dead.mono (Nat.le_succ _)
      | some x =>
        have hx := (get_eq_some_iff h.gS _ _).mp hgo
        have hid := h.gK _ _ hx
        rw [hid] at hx ⊢
        exact (h.dead.erase hx).mono (Nat.le_succ _)
  have hR : ∀ k x, (k, x) ∈ t'.revIdx → k = revKey (t.rev + 1) ∧ x.rev = t.rev + 1 ∨ (k, x) ∈ t.revIdx := by
    intro k x hx
    have ⟨hk, hx'⟩ := live.of_mem_R hx
    rcases (w.primary _ _).mp hx' with ⟨_, e⟩ | ⟨_, hx'⟩
    · rw [hk, e, modNew_rev]; exact Or.inl ⟨rfl, rfl⟩
    · rw [hk]; exact Or.inr ((h.pr x).mp hx')
  refine TInv.of_pairs hb live (fun k x hx => ?_) dead (fun k x x' hx hx' => ?_) (fun k x x' hx hx' => ?_)
  · rcases hR k x hx with ⟨_, e⟩ | hx
    · omega
    · exact h.rpos k x hx
  · have ⟨hx, hne⟩ := (w.grave k x).mp hx
    rcases (w.primary k x').mp hx' with ⟨e, _⟩ | ⟨_, hx'⟩
    · cases hold : t.primary.get o.id with
      | none => exact hne hold e
      | some oo => exact h.disj _ _ _ hx (e ▸ (get_eq_some_iff h.pS _ _).mp hold)
    · exact h.disj _ _ _ hx hx'
  · have hx := ((w.graveRev k x).mp hx).1
    rcases hR k x' hx' with ⟨e, _⟩ | hx'
    · exact h.next_revKey_ne (Or.inr hx) e
    · exact h.rdisj _ _ _ hx hx'

theorem tinv_delete {t : TableS} (h : TInv t) (g : Nat) (id : Key)
    (hb : (delete t g id).1.rev + 1 < 2 ^ 64) : TInv (delete t g id).1 := by
  rcases delete_writes t g id with e | ⟨old, hold, hd⟩
  · rw [e]; exact h
  rcases delete_mem h g id with e | ⟨old', hold', w⟩
  · rw [e]; exact h
  rw [hold] at hold'; cases hold'
  generalize (delete t g id).1 = t' at *
  have holdm := (get_eq_some_iff h.pS _ _).mp hold
  have hoid : id = old.id := h.pK _ _ holdm
  have live : Pair t'.rev t'.primary t'.revIdx := by
    rw [hd.rev, hd.primary, hd.revIdx, hoid]; exact (h.live.erase (hoid ▸ holdm)).mono (Nat.le_succ _)
  -- the graveyard does not hold the id of a live object, so the copy of `old` is a new entry there
  have dead : Pair t'.rev t'.grave t'.graveRev := by
    rw [hd.rev, hd.graves.1, hd.graves.2]
    cases t.trackers.isEmpty with
    | true => exact h.dead.mono (Nat.le_succ _)
    | false =>
      have := h.dead.put h.bound (n := { old with rev := t.rev + 1 }) hoid.symm rfl
      rw [(get_eq_none_iff h.gS _).mpr fun v hv => h.disj _ _ _ hv holdm] at this
      exact this
  refine TInv.of_pairs hb live (fun k x hx => ?_) dead (fun k x x' hx hx' => ?_) (fun k x x' hx hx' => ?_)
  · rw [hd.revIdx] at hx
    exact h.rpos k x ((mem_erase h.rS _ _ _).mp hx).2
  · have hx' := (w.primary k x').mp hx'
    rcases (w.grave k x).mp hx with ⟨_, e, _⟩ | ⟨_, hx⟩
    · exact hx'.1 e
    · exact h.disj _ _ _ hx hx'.2
  · rw [hd.revIdx] at hx'
    have hx' := ((mem_erase h.rS _ _ _).mp hx').2
    rcases (w.graveRev k x).mp hx with ⟨_, e, _⟩ | ⟨_, hx⟩
    · exact h.next_revKey_ne (Or.inl hx') e
    · exact h.rdisj _ _ _ hx hx'

/-- the body of the fold in `Tbl.gcApply`; its `match` is not `gcApply`'s constant (see `Tbl.gcFold_eq`), hence the
    `congr` in `gcApply_root` -/
def gcStep (t : TableS) (k : Key) : TableS :=
  match t.graveRev.get k with
  | some o => { t with graveRev := t.graveRev.erase k, grave := t.grave.erase o.id }
  | none => t

def gcTable (t : TableS) (ks : List Key) : TableS := ks.foldl gcStep t

/-- the keys the collector applies to table `i` -/
def deadKeys (dead : List (Nat × List Key)) (i : Nat) : List Key :=
  match dead.find? (·.1 = i) with
  | none => []
  | some (_, ks) => ks

theorem gcApply_root (db : DB) (dead : List (Nat × List Key)) :
    (gcApply db dead).root = db.root.mapIdx fun i t => gcTable t (deadKeys dead i) := by
  unfold gcApply
  simp only
  congr 1
  funext i t
  unfold deadKeys gcTable
  cases hf : dead.find? (·.1 = i) with
  | none => rfl
  | some p =>
    obtain ⟨j, ks⟩ := p
    simp only
    congr 1

theorem gcStep_mem {t : TableS} (h : TInv t) (k : Key) :
    let t' := gcStep t k
    (∀ k' x, (k', x) ∈ t'.graveRev ↔ (k', x) ∈ t.graveRev ∧ k' ≠ k) ∧
    (∀ k' x, (k', x) ∈ t'.grave ↔ (k', x) ∈ t.grave ∧ revKey x.rev ≠ k) := by
  have hgr : ∀ k' x, (k', x) ∈ t.grave → (x.id, x) ∈ t.grave ∧ (revKey x.rev, x) ∈ t.graveRev := fun k' x hx => by
    rw [h.gK _ _ hx] at hx; exact ⟨hx, (h.gg x).mp hx⟩
  unfold gcStep
  simp only
  split
  · rename_i o ho
    have hom := (get_eq_some_iff h.grS _ _).mp ho
    have hk := (h.grK _ _ hom).1
    refine ⟨fun k' x => by simp only [mem_erase h.grS, and_comm], fun k' x => ?_⟩
    rw [mem_erase h.gS, and_comm]
    refine and_congr_right fun hx => not_congr ⟨fun e => ?_, fun e => ?_⟩
    · rw [e] at hx
      rw [h.gS.unique hx ((h.gg o).mpr (hk ▸ hom)), hk]
    · have hx' := (hgr k' x hx).2
      rw [e] at hx'
      rw [h.gK _ _ hx, h.grS.unique hx' hom]
  · rename_i ho
    have hno := (get_eq_none_iff h.grS _).mp ho
    refine ⟨fun k' x => (and_iff_left_of_imp fun hx e => hno x ?_).symm,
      fun k' x => (and_iff_left_of_imp fun hx e => hno x ?_).symm⟩
    · rw [← e]; exact hx
    · rw [← e]; exact (hgr k' x hx).2

theorem tinv_gcStep {t : TableS} (h : TInv t) (k : Key) : TInv (gcStep t k) := by
  unfold gcStep
  split
  · rename_i o ho
    have hom := (get_eq_some_iff h.grS _ _).mp ho
    have hk := (h.grK _ _ hom).1
    subst hk
    exact TInv.of_pairs h.bound h.live h.rpos (h.dead.erase ((h.gg o).mpr hom))
      (fun k x x' hx => h.disj k x x' ((mem_erase h.gS _ _ _).mp hx).2)
      (fun k x x' hx => h.rdisj k x x' ((mem_erase h.grS _ _ _).mp hx).2)
  · exact h

theorem tinv_gcTable {t : TableS} (h : TInv t) (ks : List Key) : TInv (gcTable t ks) := by
  induction ks generalizing t with
  | nil => exact h
  | cons k r ih => exact ih (tinv_gcStep h k)

theorem gcTable_frame (t : TableS) (ks : List Key) :
    ∃ gr g, gcTable t ks = { t with graveRev := gr, grave := g } := gcFold_eq ks t

theorem gcTable_mem {t : TableS} (h : TInv t) (ks : List Key) :
    let t' := gcTable t ks
    (∀ k' x, (k', x) ∈ t'.graveRev ↔ (k', x) ∈ t.graveRev ∧ k' ∉ ks) ∧
    (∀ k' x, (k', x) ∈ t'.grave ↔ (k', x) ∈ t.grave ∧ revKey x.rev ∉ ks) := by
  induction ks generalizing t with
  | nil => simp [gcTable]
  | cons k r ih =>
    obtain ⟨m3, m4⟩ := gcStep_mem h k
    obtain ⟨i1, i2⟩ := ih (tinv_gcStep h k)
    simp only [gcTable, List.foldl_cons] at i1 i2 ⊢
    refine ⟨fun k' x => ?_, fun k' x => ?_⟩
    · rw [i1, m3]; simp only [List.mem_cons, not_or, and_assoc]
    · rw [i2, m4]; simp only [List.mem_cons, not_or, and_assoc]

/-- one operation on a table.  `aux` is any that leaves the revision and the four indexes alone: a delete tracker
    comes or goes (`Changes()`, `Close`), locking / unlocking (`WriteTxn`, `Commit`), initializer bookkeeping.
    Writes carry the guard that the revision counter does not overflow `uint64`. -/
inductive TStep : TableS → TableS → Prop
  | modify (t : TableS) (g : Nat) (o : Obj) (m : Bool) (hb : (modify t g o m).1.rev + 1 < 2 ^ 64) :
      TStep t (modify t g o m).1
  | delete (t : TableS) (g : Nat) (id : Key) (hb : (delete t g id).1.rev + 1 < 2 ^ 64) :
      TStep t (delete t g id).1
  | gc (t : TableS) (k : Key) : TStep t (gcStep t k)
  | aux (t t' : TableS) (h1 : t'.rev = t.rev) (h2 : t'.primary = t.primary)
      (h3 : t'.revIdx = t.revIdx) (h4 : t'.grave = t.grave) (h5 : t'.graveRev = t.graveRev) : TStep t t'

inductive TReach : TableS → Prop
  | init (t : TableS) (h1 : t.rev = 0) (h2 : t.primary = []) (h3 : t.revIdx = []) (h4 : t.grave = [])
      (h5 : t.graveRev = []) : TReach t
  | step {t t' : TableS} (h : TReach t) (s : TStep t t') : TReach t'

theorem tinv_empty (t : TableS) (hrev : t.rev = 0) (hp : t.primary = []) (hr : t.revIdx = []) (hg : t.grave = [])
    (hgr : t.graveRev = []) : TInv t := by
  constructor <;> simp [hrev, hp, hr, hg, hgr, Sorted]

theorem TStep.tinv {t t' : TableS} (s : TStep t t') (h : TInv t) : TInv t' := by
  cases s with
  | modify g o m hb => exact tinv_modify h g o m hb
  | delete g id hb => exact tinv_delete h g id hb
  | gc k => exact tinv_gcStep h k
  | aux _ hrev hp hr hg hgr => exact h.congr hrev hp hr hg hgr

theorem TReach.tinv {t : TableS} (h : TReach t) : TInv t := by
  induction h with
  | init t hrev hp hr hg hgr => exact tinv_empty _ hrev hp hr hg hgr
  | step _ s ih => exact s.tinv ih
end Sdb.Chg
