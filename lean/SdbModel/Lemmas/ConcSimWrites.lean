import SdbModel.Lemmas.ConcSimMicro

/-!
  What the local actions of `Model.Conc` do, and what every micro step leaves alone.  `doUserWrites`: every held table
  gets the version `uwEntry reg mark n e` computed from the version `e` it had, `n` the value of the allocator
  `nextChan` at that moment; the channels allocated for different tables are different and lie between the old and
  the new `nextChan`; the channels to notify are the watch channels of the replaced versions; nothing shared but
  `nextChan` changes.  The simulation reads only the counter off `uwEntry`.
-/
namespace Sdb.Conc

theorem getT_setT (l : List TableV) (i x : Nat) (v : TableV) :
    getT (setT l i v) x = if x = i ∧ i < l.length then v else getT l x :=
  LB.getD_set l i x v default

theorem length_setT (l : List TableV) (i : Nat) (v : TableV) : (setT l i v).length = l.length := by
  simp [setT]

/-- the body of the loop of `doUserWrites` -/
def uwF (th : Thread) (acc : State × List TableV × List Nat) (i : Nat) : State × List TableV × List Nat :=
  let (st, es, nt) := acc
  let e := getT es i
  let e' := { e with cnt := e.cnt + 1, rev := e.rev + 1, watch := st.nextChan }
  let st := { st with nextChan := st.nextChan + 1 }
  let (st, e') :=
    if th.regInit.contains i then
      if e'.initWatch = 0 then ({ st with nextChan := st.nextChan + 1 }, { e' with initPending := true, initWatch := st.nextChan })
      else (st, { e' with initPending := true })
    else (st, e')
  let e' := if th.markInit.contains i then { e' with initPending := false } else e'
  (st, setT es i e', e.watch :: nt)

theorem doUserWrites_eq (st : State) (th : Thread) :
    doUserWrites st th =
      ((th.locked.foldl (uwF th) (st, th.entries, [])).1,
       { th with entries := (th.locked.foldl (uwF th) (st, th.entries, [])).2.1,
                 toNotify := (th.locked.foldl (uwF th) (st, th.entries, [])).2.2.reverse }) := rfl

/-- the version a writer produces from version `e` of a table (`reg` / `mark`: the
    writer registers an initializer / marks the initializer done), with fresh
    channels `n` (watch) and `n + 1` (init channel, only if a record is created) -/
def uwEntry (reg mark : Bool) (n : Nat) (e : TableV) : TableV :=
  { cnt := e.cnt + 1, rev := e.rev + 1, watch := n,
    initPending := if mark then false else if reg then true else e.initPending,
    initWatch := if reg ∧ e.initWatch = 0 then n + 1 else e.initWatch }

/-- number of channels allocated for one table -/
def uwAlloc (reg : Bool) (e : TableV) : Nat := if reg ∧ e.initWatch = 0 then 2 else 1

theorem uwF_eq (th : Thread) (st : State) (es : List TableV) (nt : List Nat) (i : Nat) :
    uwF th (st, es, nt) i =
      ({ st with nextChan := st.nextChan + uwAlloc (th.regInit.contains i) (getT es i) },
       setT es i (uwEntry (th.regInit.contains i) (th.markInit.contains i) st.nextChan (getT es i)),
       (getT es i).watch :: nt) := by
  unfold uwF
  generalize th.regInit.contains i = r
  generalize th.markInit.contains i = m
  by_cases h2 : (getT es i).initWatch = 0 <;> cases r <;> cases m <;>
    simp [uwEntry, uwAlloc, h2]

structure UWFrame (st st' : State) (es es' : List TableV) : Prop where
  root : st'.root = st.root
  closed : st'.closed = st.closed
  lockOwner : st'.lockOwner = st.lockOwner
  rootMu : st'.rootMu = st.rootMu
  threads : st'.threads = st.threads
  mono : st.nextChan ≤ st'.nextChan
  len : es'.length = es.length

theorem uw_fold_frame (th : Thread) : ∀ (ls : List Nat) (acc : State × List TableV × List Nat),
    UWFrame acc.1 (ls.foldl (uwF th) acc).1 acc.2.1 (ls.foldl (uwF th) acc).2.1 := by
  intro ls
  induction ls with
  | nil => intro acc; exact ⟨rfl, rfl, rfl, rfl, rfl, Nat.le_refl _, rfl⟩
  | cons i ls ih =>
    intro ⟨st, es, nt⟩
    have fr := ih (uwF th (st, es, nt) i)
    rw [uwF_eq] at fr
    simp only [List.foldl_cons, uwF_eq]
    exact ⟨fr.root, fr.closed, fr.lockOwner, fr.rootMu, fr.threads, Nat.le_trans (Nat.le_add_right _ _) fr.mono,
      fr.len.trans (length_setT ..)⟩

theorem doUserWrites_frame (st : State) (th : Thread) :
    UWFrame st (doUserWrites st th).1 th.entries (doUserWrites st th).2.entries ∧
    (doUserWrites st th).2 = { th with entries := (doUserWrites st th).2.entries,
                                        toNotify := (doUserWrites st th).2.toNotify } := by
  rw [doUserWrites_eq]
  exact ⟨uw_fold_frame th th.locked (st, th.entries, []), rfl⟩

structure UWSpec (th : Thread) (ls : List Nat) (st st' : State) (es es' : List TableV) (f : Nat → Nat) : Prop where
  root : st'.root = st.root
  closed : st'.closed = st.closed
  lockOwner : st'.lockOwner = st.lockOwner
  rootMu : st'.rootMu = st.rootMu
  threads : st'.threads = st.threads
  mono : st.nextChan ≤ st'.nextChan
  len : es'.length = es.length
  other : ∀ x, x ∉ ls → getT es' x = getT es x
  bound : ∀ x, x ∈ ls →
    st.nextChan ≤ f x ∧ f x + uwAlloc (th.regInit.contains x) (getT es x) ≤ st'.nextChan
  entry : ∀ x, x ∈ ls → x < es.length →
    getT es' x = uwEntry (th.regInit.contains x) (th.markInit.contains x) (f x) (getT es x)
  apart : ∀ x y, x ∈ ls → y ∈ ls → x ≠ y →
    f x + uwAlloc (th.regInit.contains x) (getT es x) ≤ f y ∨ f y + uwAlloc (th.regInit.contains y) (getT es y) ≤ f x

theorem uwAlloc_pos (reg : Bool) (e : TableV) : 1 ≤ uwAlloc reg e := by
  unfold uwAlloc; split <;> omega

theorem uw_fold_full (th : Thread) : ∀ (ls : List Nat) (st : State) (es : List TableV) (nt : List Nat), ls.Nodup →
    (∃ f, UWSpec th ls st (ls.foldl (uwF th) (st, es, nt)).1 es (ls.foldl (uwF th) (st, es, nt)).2.1 f) ∧
    (ls.foldl (uwF th) (st, es, nt)).2.2 = (ls.map fun x => (getT es x).watch).reverse ++ nt := by
  intro ls
  induction ls with
  | nil =>
    intro st es nt _
    exact ⟨⟨fun _ => 0, ⟨rfl, rfl, rfl, rfl, rfl, Nat.le_refl _, rfl, fun _ _ => rfl, fun x hx => by simp at hx,
      fun x hx => by simp at hx, fun x y hx => by simp at hx⟩⟩, by simp⟩
  | cons i ls ih =>
    intro st es nt hnd
    rw [List.nodup_cons] at hnd
    obtain ⟨hi, hnd⟩ := hnd
    simp only [List.foldl_cons, uwF_eq]
    obtain ⟨⟨f, hf⟩, hn⟩ := ih { st with nextChan := st.nextChan + uwAlloc (th.regInit.contains i) (getT es i) }
      (setT es i (uwEntry (th.regInit.contains i) (th.markInit.contains i) st.nextChan (getT es i)))
      ((getT es i).watch :: nt) hnd
    have hother : ∀ x, x ≠ i → getT (setT es i (uwEntry (th.regInit.contains i) (th.markInit.contains i) st.nextChan
        (getT es i))) x = getT es x := by
      intro x hx; rw [getT_setT]; simp [hx]
    have hpos := uwAlloc_pos (th.regInit.contains i) (getT es i)
    refine ⟨⟨fun x => if x = i then st.nextChan else f x, ?_⟩, ?_⟩
    · constructor
      · exact hf.root
      · exact hf.closed
      · exact hf.lockOwner
      · exact hf.rootMu
      · exact hf.threads
      · have := hf.mono; simp only at this; omega
      · rw [hf.len, length_setT]
      · intro x hx
        simp only [List.mem_cons, not_or] at hx
        rw [hf.other x hx.2, hother x hx.1]
      · intro x hx
        by_cases hxi : x = i
        · subst hxi
          simp only [if_true]
          have := hf.mono; simp only at this
          exact ⟨Nat.le_refl _, this⟩
        · simp only [hxi, if_false]
          have hxm : x ∈ ls := by
            simp only [List.mem_cons] at hx; exact hx.resolve_left hxi
          obtain ⟨g1, g2⟩ := hf.bound x hxm
          rw [hother x hxi] at g2
          simp only at g1
          exact ⟨by omega, g2⟩
      · intro x hx hxl
        by_cases hxi : x = i
        · subst hxi
          simp only [if_true]
          rw [hf.other x hi, getT_setT]; simp [hxl]
        · simp only [hxi, if_false]
          have hxm : x ∈ ls := by
            simp only [List.mem_cons] at hx; exact hx.resolve_left hxi
          have g3 := hf.entry x hxm (by rw [length_setT]; exact hxl)
          rw [hother x hxi] at g3
          exact g3
      · intro x y hx hy hxy
        simp only [List.mem_cons] at hx hy
        by_cases hxi : x = i
        · subst hxi
          have hyi : y ≠ x := fun e => hxy e.symm
          have hym : y ∈ ls := hy.resolve_left hyi
          simp only [if_true, hyi, if_false]
          left
          exact (hf.bound y hym).1
        · by_cases hyi : y = i
          · subst hyi
            have hxm : x ∈ ls := hx.resolve_left hxi
            simp only [hxi, if_false, if_true]
            right
            exact (hf.bound x hxm).1
          · simp only [hxi, hyi, if_false]
            have := hf.apart x y (hx.resolve_left hxi) (hy.resolve_left hyi) hxy
            rw [hother x hxi, hother y hyi] at this
            exact this
    · rw [hn]
      have : ls.map (fun x => (getT (setT es i (uwEntry (th.regInit.contains i) (th.markInit.contains i) st.nextChan
          (getT es i))) x).watch) = ls.map (fun x => (getT es x).watch) := by
        apply List.map_congr_left
        intro a ha
        rw [hother a (fun e => hi (e ▸ ha))]
      rw [this]; simp

theorem doUserWrites_full (st : State) (th : Thread) (hnd : th.locked.Nodup) :
    (∃ f, UWSpec th th.locked st (doUserWrites st th).1 th.entries (doUserWrites st th).2.entries f) ∧
    (doUserWrites st th).2.toNotify = th.locked.map (fun x => (getT th.entries x).watch) ∧
    (doUserWrites st th).2 = { th with entries := (doUserWrites st th).2.entries,
                                        toNotify := (doUserWrites st th).2.toNotify } := by
  rw [doUserWrites_eq]
  obtain ⟨h1, h2⟩ := uw_fold_full th th.locked st th.entries [] hnd
  refine ⟨h1, ?_, rfl⟩
  simp only [h2, List.append_nil, List.reverse_reverse]

theorem doAct_threads (st : State) (th : Thread) (a : Act) : (doAct st th a).1.threads = st.threads := by
  cases a <;> rfl

theorem doAct_lockOwner (st : State) (th : Thread) (a : Act) : (doAct st th a).1.lockOwner = st.lockOwner := by
  cases a <;> rfl

theorem doAct_rootMu (st : State) (th : Thread) (a : Act) : (doAct st th a).1.rootMu = st.rootMu := by
  cases a <;> rfl

theorem doAct_tables (st : State) (th : Thread) (a : Act) : (doAct st th a).2.tables = th.tables := by
  cases a <;> rfl

structure MStepFrame (st st' : State) (th th' : Thread) : Prop where
  threads : st'.threads = st.threads
  lockLen : st'.lockOwner.length = st.lockOwner.length
  tables : th'.tables = th.tables
  prog : th'.prog = th.prog.tail

theorem mstep_frame (st : State) (tid : Nat) (th : Thread) (st' : State) (th' : Thread)
    (h : mstep st tid th = some (st', th')) : MStepFrame st st' th th' := by
  cases hp : th.prog with
  | nil =>
    have tl : th.prog.tail = [] := by rw [hp]; rfl
    simp only [mstep, hp] at h
    split at h
    · cases h
    · cases h; exact ⟨rfl, rfl, rfl, tl.symm⟩
  | cons m rest =>
    have tl : rest = th.prog.tail := by rw [hp]; rfl
    have h := mstep_cons hp h
    cases m with
    | park l => cases h; exact ⟨rfl, rfl, rfl, tl⟩
    | acquire t => cases h.2; exact ⟨rfl, List.length_set, rfl, tl⟩
    | release t => cases h; exact ⟨rfl, List.length_set, rfl, tl⟩
    | acquireRoot => cases h.2; exact ⟨rfl, rfl, rfl, tl⟩
    | releaseRoot => cases h; exact ⟨rfl, rfl, rfl, tl⟩
    | act a =>
      have h1 := doAct_threads st { th with prog := rest } a
      have h2 := doAct_lockOwner st { th with prog := rest } a
      have h3 := doAct_tables st { th with prog := rest } a
      have h4 := doAct_prog st { th with prog := rest } a
      rw [h] at h1 h2 h3 h4
      exact ⟨h1, by rw [h2], h3, h4.trans tl⟩
    | userWrites =>
      obtain ⟨fr, he⟩ := doUserWrites_frame st { th with prog := rest }
      have h4 := doUserWrites_prog st { th with prog := rest }
      rw [h] at fr he h4
      simp only at he
      exact ⟨fr.threads, by rw [fr.lockOwner], by rw [he], h4.trans tl⟩

theorem mstep_threads (st : State) (tid : Nat) (th : Thread) (st' : State) (th' : Thread)
    (h : mstep st tid th = some (st', th')) : st'.threads = st.threads :=
  (mstep_frame st tid th st' th' h).threads

theorem mstar_threads {tid : Nat} {a b : State × Thread} (h : MStar tid a b) : b.1.threads = a.1.threads := by
  induction h with
  | refl => rfl
  | tail b c _ hs ih => rw [← ih]; exact mstep_threads b.1 tid b.2 c.1 c.2 hs

theorem step_lockLen (st : State) (tid : Nat) : (step st tid).1.lockOwner.length = st.lockOwner.length := by
  rcases step_cases st tid with he | ⟨th, st', th', _, _, hstar, he, _⟩
  · rw [he]
  · rw [he]
    exact MStar.invariant (tid := tid) (fun a => a.1.lockOwner.length = st.lockOwner.length)
      (fun a b ha hs => by rw [(mstep_frame a.1 tid a.2 b.1 b.2 hs).lockLen]; exact ha) hstar rfl

end Sdb.Conc
