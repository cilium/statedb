import SdbModel.Lemmas.OMap
import SdbModel.Lemmas.TableOps
/-!
  The table invariant `TInv` of C03 / C09 (`primary` / `revIdx` are a `Pair` of positive revisions below `2^64`),
  sequences of writes on one table (`Op`, `run`, `assignedRevs`, `deleteAll`; `Written`), and the lifting to `DB`:
  writes through the transaction handle, Commit, Abort and the collector (`DB.step`; `DInv`, `Reach`).
-/
namespace Sdb.Tbl
open OMap

structure TInv (t : TableS) : Prop where
  sortedP : Sorted t.primary
  sortedR : Sorted t.revIdx
  idOk : ∀ k o, t.primary.get k = some o → o.id = k
  revPos : ∀ k o, t.primary.get k = some o → 0 < o.rev
  revLe : ∀ k o, t.primary.get k = some o → o.rev ≤ t.rev
  revInj : ∀ k1 o1 k2 o2, t.primary.get k1 = some o1 → t.primary.get k2 = some o2 → o1.rev = o2.rev → k1 = k2
  revIdxChar : ∀ k o, t.revIdx.get k = some o ↔ t.primary.get o.id = some o ∧ k = revKey o.rev
  /-- the revision fits the Go type `uint64` -/
  bound : t.rev < 2 ^ 64

theorem TInv.empty (t : TableS) (hp : t.primary = []) (hr : t.revIdx = []) (hb : t.rev < 2 ^ 64) : TInv t := by
  constructor <;> simp [hp, hr, sorted_nil, hb]

theorem TInv.congr {t t' : TableS} (h : TInv t) (hrev : t'.rev = t.rev) (hprimary : t'.primary = t.primary)
    (hrevIdx : t'.revIdx = t.revIdx) : TInv t' := by
  constructor
  case sortedP => rw [hprimary]; exact h.sortedP
  case sortedR => rw [hrevIdx]; exact h.sortedR
  case idOk => rw [hprimary]; exact h.idOk
  case revPos => rw [hprimary]; exact h.revPos
  case revLe => rw [hrev, hprimary]; exact h.revLe
  case revInj => rw [hprimary]; exact h.revInj
  case revIdxChar => rw [hprimary, hrevIdx]; exact h.revIdxChar
  case bound => rw [hrev]; exact h.bound

theorem TInv.mem_primary {t : TableS} (inv : TInv t) (k : Key) (o : Obj) :
    (k, o) ∈ t.primary ↔ t.primary.get k = some o := mem_iff_get _ inv.sortedP k o

theorem TInv.mem_revIdx {t : TableS} (inv : TInv t) (k : Key) (o : Obj) :
    (k, o) ∈ t.revIdx ↔ t.revIdx.get k = some o := mem_iff_get _ inv.sortedR k o

theorem TInv.primary_entry {t : TableS} (inv : TInv t) {k : Key} {o : Obj} (h : (k, o) ∈ t.primary) : k = o.id :=
  (inv.idOk k o ((inv.mem_primary k o).mp h)).symm

theorem TInv.revIdx_entry {t : TableS} (inv : TInv t) {k : Key} {o : Obj} (h : (k, o) ∈ t.revIdx) :
    k = revKey o.rev ∧ o.rev < 2 ^ 64 ∧ t.primary.get o.id = some o := by
  have ⟨hp, hk⟩ := (inv.revIdxChar k o).mp ((inv.mem_revIdx k o).mp h)
  exact ⟨hk, Nat.lt_of_le_of_lt (inv.revLe _ _ hp) inv.bound, hp⟩

theorem TInv.pair {t : TableS} (inv : TInv t) : Pair t.rev t.primary t.revIdx := by
  refine ⟨inv.sortedP, fun _ _ => inv.primary_entry, inv.sortedR, fun k o h => ?_, fun o => ?_⟩
  · have ⟨hk, _, hp⟩ := inv.revIdx_entry h
    exact ⟨hk, inv.revLe _ _ hp⟩
  · rw [inv.mem_primary, inv.mem_revIdx, inv.revIdxChar]
    exact (and_iff_left rfl).symm

theorem TInv.of_pair {t : TableS} (h : Pair t.rev t.primary t.revIdx) (hpos : ∀ k o, (k, o) ∈ t.primary → 0 < o.rev)
    (hb : t.rev < 2 ^ 64) : TInv t := by
  have hP : ∀ k o, t.primary.get k = some o → (o.id, o) ∈ t.primary ∧ k = o.id := fun k o hg => by
    have hm := (mem_iff_get _ h.pS k o).mpr hg
    have hk := h.pK k o hm
    exact ⟨hk ▸ hm, hk⟩
  refine ⟨h.pS, h.rS, fun k o hg => (hP k o hg).2.symm, fun k o hg => hpos _ _ (hP k o hg).1,
    fun k o hg => (h.rK _ _ ((h.pr o).mp (hP k o hg).1)).2, fun k1 o1 k2 o2 h1 h2 he => ?_, fun k o => ?_, hb⟩
  · -- equal revisions: the same entry of `R`
    have r1 := (h.pr o1).mp (hP k1 o1 h1).1
    rw [he] at r1
    rw [(hP k1 o1 h1).2, (hP k2 o2 h2).2, sorted_unique _ h.rS _ _ _ r1 ((h.pr o2).mp (hP k2 o2 h2).1)]
  · rw [← mem_iff_get _ h.rS, ← mem_iff_get _ h.pS]
    constructor
    · intro hm
      have ⟨hk, hp⟩ := h.of_mem_R hm
      exact ⟨hp, hk⟩
    · rintro ⟨hp, hk⟩
      rw [hk]; exact (h.pr o).mp hp

theorem TInv.modOk {t t' : TableS} {o : Obj} {m : Bool} (inv : TInv t) (hm : ModOk t o m t')
    (hb : t.rev + 1 < 2 ^ 64) : TInv t' := by
  refine TInv.of_pair ?_ (fun k x hx => ?_) (hm.rev ▸ hb)
  · rw [hm.rev, hm.primary, hm.revIdx]
    exact inv.pair.put hb (newObj_id t o m) (newObj_rev t o m)
  · rw [hm.primary, mem_insert_iff _ inv.sortedP] at hx
    rcases hx with ⟨_, e⟩ | ⟨_, hx⟩
    · rw [e, newObj_rev]; omega
    · exact inv.revPos k x ((inv.mem_primary k x).mp hx)

theorem TInv.delOk {t t' : TableS} {id : Key} {old : Obj} (inv : TInv t) (hs : t.primary.get id = some old)
    (hd : DelOk t id old t') (hb : t.rev + 1 < 2 ^ 64) : TInv t' := by
  have hm := (inv.mem_primary id old).mpr hs
  have hid := inv.primary_entry hm
  refine TInv.of_pair ?_ (fun k x hx => ?_) (hd.rev ▸ hb)
  · rw [hd.rev, hd.primary, hd.revIdx, hid]
    exact ((inv.pair.erase (hid ▸ hm)).mono (Nat.le_succ _))
  · rw [hd.primary, mem_erase_iff _ inv.sortedP] at hx
    exact inv.revPos k x ((inv.mem_primary k x).mp hx.2)

theorem TInv.modify_preserves {t : TableS} (inv : TInv t) (g : Nat) (o : Obj) (m : Bool)
    (hb : (modify t g o m).1.rev < 2 ^ 64) : TInv (modify t g o m).1 := by
  rcases modify_writes t g o m with h | hm
  · rw [h]; exact inv
  · rw [hm.rev] at hb
    exact inv.modOk hm hb

theorem TInv.delete_preserves {t : TableS} (inv : TInv t) (g : Nat) (id : Key)
    (hb : (delete t g id).1.rev < 2 ^ 64) : TInv (delete t g id).1 := by
  rcases delete_writes t g id with h | ⟨old, hs, hd⟩
  · rw [h]; exact inv
  · rw [hd.rev] at hb
    exact inv.delOk hs hd hb

theorem TInv.mem_qAll {t : TableS} (inv : TInv t) (o : Obj) : o ∈ qAll t ↔ t.primary.get o.id = some o := by
  unfold qAll
  rw [List.mem_map]
  constructor
  · rintro ⟨⟨k, v⟩, hm, rfl⟩
    rw [← inv.primary_entry hm]; exact (inv.mem_primary k v).mp hm
  · intro h
    exact ⟨(o.id, o), (inv.mem_primary _ _).mpr h, rfl⟩

theorem live_after_write {primary primary' : OMap Obj} {id : Key} {new : Option Obj}
    (hid : ∀ n, new = some n → n.id = id) (hP : Updated primary id new primary') (x : Obj) :
    primary'.get x.id = some x ↔ new = some x ∨ (x.id ≠ id ∧ primary.get x.id = some x) := by
  rw [hP]
  by_cases hx : x.id = id
  · rw [if_pos hx]
    exact ⟨Or.inl, fun h => h.elim (fun h => h) fun h => absurd hx h.1⟩
  · rw [if_neg hx]
    exact ⟨fun h => Or.inr ⟨hx, h⟩, fun h => h.elim (fun h => absurd (hid x h) hx) And.right⟩

/-- `Prefix` and `LowerBound` select among the objects of `All()` -/
theorem TInv.mem_filter_primary {t : TableS} (inv : TInv t) (p : Key × Obj → Bool) (x : Obj) :
    x ∈ (t.primary.filter p).map (·.2) ↔ x ∈ qAll t ∧ p (x.id, x) = true := by
  rw [inv.mem_qAll, List.mem_map]
  constructor
  · rintro ⟨⟨k, v⟩, hm, rfl⟩
    have ⟨h1, h2⟩ := List.mem_filter.mp hm
    have hk := inv.primary_entry h1
    subst hk
    exact ⟨(inv.mem_primary _ _).mp h1, h2⟩
  · rintro ⟨h1, h2⟩
    exact ⟨(x.id, x), List.mem_filter.mpr ⟨(inv.mem_primary _ _).mpr h1, h2⟩, rfl⟩

theorem TInv.mem_revIdx_objs {t : TableS} (inv : TInv t) (o : Obj) :
    o ∈ t.revIdx.map (·.2) ↔ o ∈ qAll t := inv.pair.perm.mem_iff.symm

theorem TInv.revIdx_nil {t : TableS} (inv : TInv t) (h : t.primary = []) : t.revIdx = [] := by
  apply eq_nil_of_get_none
  intro k
  cases hg : t.revIdx.get k with
  | none => rfl
  | some o =>
    have := ((inv.revIdxChar k o).mp hg).1
    rw [h] at this; simp at this

theorem TInv.qAll_nodup {t : TableS} (inv : TInv t) : (qAll t).Nodup :=
  inv.sortedP.values_nodup (·.id) fun _ _ => inv.primary_entry

theorem TInv.revIdx_objs_nodup {t : TableS} (inv : TInv t) : (t.revIdx.map (·.2)).Nodup :=
  inv.sortedR.values_nodup (fun o => revKey o.rev) fun _ _ h => (inv.revIdx_entry h).1

/-- `NumObjects` reads the length of the revision index -/
theorem TInv.numObjects {t : TableS} (inv : TInv t) : numObjects t = (qAll t).length := by
  have := inv.pair.length_eq
  simpa [Tbl.numObjects, qAll] using this

theorem TInv.revIdx_ascending {t : TableS} (inv : TInv t) :
    (t.revIdx.map (·.2.rev)).Pairwise (· < ·) := by
  rw [List.pairwise_map]
  refine List.Pairwise.imp_of_mem (fun {a b} ha hb hlt => ?_) inv.sortedR
  have ⟨ka, ba, _⟩ := inv.revIdx_entry ha
  have ⟨kb, bb, _⟩ := inv.revIdx_entry hb
  rw [ka, kb] at hlt
  exact (revKey_lt_iff _ _ ba bb).mp hlt

theorem TInv.qLowerBound_rev {t : TableS} (inv : TInv t) (r : Nat) (hr : r < 2 ^ 64) :
    qLowerBound t .rev (revKey r) 0 = (t.revIdx.map (·.2)).filter (fun o => decide (r ≤ o.rev)) := by
  simp only [qLowerBound, lowerBound]
  rw [List.filter_map]
  congr 1
  apply List.filter_congr
  intro a ha
  have ⟨ka, ba, _⟩ := inv.revIdx_entry ha
  rw [Bool.eq_iff_iff]
  simp only [ka, Function.comp, bne_iff_ne, ne_eq, decide_eq_true_eq, revKey_lt_iff _ _ ba hr, Nat.not_lt]

/-- a write on one table: Insert / Modify / CompareAndSwap are `modify`, Delete / CompareAndDelete are `delete`,
    DeleteAll is a sequence of `delete`s (`deleteAll_as_ops`) -/
inductive Op where
  | modify (guard : Nat) (o : Obj) (merge : Bool)
  | delete (guard : Nat) (id : Key)
  deriving Inhabited

def Op.apply (t : TableS) : Op → TableS × Option Obj × Err
  | .modify g o m => Tbl.modify t g o m
  | .delete g id => Tbl.delete t g id

/-- the revision the operation assigned, read back from the resulting table: that of the object now stored under
    the id, and for a `delete` that removed an object the new table revision (that of the graveyard copy) -/
def Op.assigned (t : TableS) : Op → Option Nat
  | .modify g o m =>
    let r := Tbl.modify t g o m
    if r.2.2 = .ok then (r.1.primary.get o.id).map (·.rev) else none
  | .delete g id =>
    let r := Tbl.delete t g id
    if r.2.2 = .ok ∧ r.2.1.isSome then some r.1.rev else none

def run (t : TableS) : List Op → TableS
  | [] => t
  | op :: ops => run (op.apply t).1 ops

def assignedRevs (t : TableS) : List Op → List Nat
  | [] => []
  | op :: ops => (op.assigned t).toList ++ assignedRevs (op.apply t).1 ops

/-- what a write through a transaction handle does to the table `e` it addresses: the four facts `DInv.write`
    needs.  Reflexive and transitive, so it holds of sequences of writes (`run`, `deleteAll`) as of single ones. -/
structure Written (e e' : TableS) : Prop where
  mono : e.rev ≤ e'.rev
  inv : TInv e → e'.rev < 2 ^ 64 → TInv e'
  locked : e'.locked = e.locked
  unheld : e.locked = false → e' = e

theorem Written.refl (e : TableS) : Written e e := ⟨Nat.le_refl _, fun a _ => a, rfl, fun _ => rfl⟩

theorem Written.trans {a b c : TableS} (h1 : Written a b) (h2 : Written b c) : Written a c := by
  refine ⟨Nat.le_trans h1.mono h2.mono, fun i hb => ?_, h2.locked.trans h1.locked, fun hl => ?_⟩
  · -- the bound on the last revision bounds the one in between
    exact h2.inv (h1.inv i (Nat.lt_of_le_of_lt h2.mono hb)) hb
  · rw [h2.unheld (h1.locked.trans hl), h1.unheld hl]

theorem Written.apply (e : TableS) (op : Op) : Written e (op.apply e).1 := by
  cases op with
  | modify g o m =>
    exact ⟨modify_rev_mono e g o m, fun a => a.modify_preserves g o m, modify_locked e g o m, fun h => congrArg Prod.fst (modify_notLocked e g o m h)⟩
  | delete g id =>
    exact ⟨(delete_rev_le e g id).1, fun a => a.delete_preserves g id, delete_locked e g id, fun h => congrArg Prod.fst (delete_notLocked e g id h)⟩

theorem Written.run (e : TableS) (ops : List Op) : Written e (run e ops) := by
  induction ops generalizing e with
  | nil => exact Written.refl e
  | cons op ops ih => exact (Written.apply e op).trans (ih _)

theorem run_rev_mono (t : TableS) (ops : List Op) : t.rev ≤ (run t ops).rev := (Written.run t ops).mono

theorem Op.assigned_cases (t : TableS) (op : Op) :
    (op.assigned t = some (t.rev + 1) ∧ (op.apply t).1.rev = t.rev + 1) ∨
    (op.assigned t = none ∧ (op.apply t).1 = t) := by
  cases op with
  | modify g o m =>
    simp only [Op.assigned, Op.apply]
    rcases modify_rev_cases t g o m with ⟨h, hr⟩ | ⟨h, hu⟩
    · rw [if_pos h, (modify_success h).primary, get_insert_self]
      exact Or.inl ⟨by simp, hr⟩
    · rw [if_neg h]
      exact Or.inr ⟨rfl, hu⟩
  | delete g id =>
    simp only [Op.assigned, Op.apply]
    match delete_outcome t g id with
    | .notLocked (eq := h) .. | .absent (eq := h) .. | .revNotEqual (eq := h) .. => rw [h]; simp
    | .ok (eq := h) (wrote := hd) .. => rw [h]; left; simp [hd.rev]

theorem Op.apply_preserves {t : TableS} (inv : TInv t) (op : Op) (hb : (op.apply t).1.rev < 2 ^ 64) :
    TInv (op.apply t).1 := (Written.apply t op).inv inv hb

theorem TInv.run {t : TableS} (inv : TInv t) (ops : List Op) (hb : (Tbl.run t ops).rev < 2 ^ 64) :
    TInv (Tbl.run t ops) := (Written.run t ops).inv inv hb

theorem assignedRevs_eq_range (t : TableS) (ops : List Op) :
    ∃ n, (run t ops).rev = t.rev + n ∧ assignedRevs t ops = List.range' (t.rev + 1) n := by
  induction ops generalizing t with
  | nil => exact ⟨0, rfl, rfl⟩
  | cons op ops ih =>
    obtain ⟨n, hr, ha⟩ := ih (op.apply t).1
    simp only [assignedRevs, run]
    rcases op.assigned_cases t with ⟨h1, h2⟩ | ⟨h1, h2⟩
    · rw [h2] at hr ha
      exact ⟨n + 1, by rw [hr, Nat.add_assoc, Nat.add_comm 1 n], by rw [h1, ha, List.range'_succ]; rfl⟩
    · rw [h2] at hr ha ⊢
      exact ⟨n, hr, by rw [h1, ha]; rfl⟩

theorem assignedRevs_spec (t : TableS) (ops : List Op) :
    (assignedRevs t ops).Pairwise (· < ·) ∧ ∀ r ∈ assignedRevs t ops, t.rev < r ∧ r ≤ (run t ops).rev := by
  obtain ⟨n, hr, ha⟩ := assignedRevs_eq_range t ops
  rw [ha, hr]
  refine ⟨List.pairwise_lt_range' 1, fun r hm => ?_⟩
  have := List.mem_range'_1.mp hm
  omega

theorem run_rev_eq_last (t : TableS) (ops : List Op) :
    match (assignedRevs t ops).getLast? with
    | some r => (run t ops).rev = r
    | none => (run t ops).rev = t.rev := by
  obtain ⟨n, hr, ha⟩ := assignedRevs_eq_range t ops
  rw [ha, hr]
  cases n with
  | zero => rfl
  | succ n =>
    rw [List.range'_concat, List.getLast?_concat]
    show t.rev + (n + 1) = t.rev + 1 + 1 * n
    rw [Nat.one_mul, Nat.add_right_comm, Nat.add_assoc]

theorem delete0_primary (t : TableS) (id : Key) (hl : t.locked = true) (hs : Sorted t.primary) :
    (delete t 0 id).1.primary = t.primary.erase id := by
  match delete_outcome t 0 id with
  | .notLocked (unlocked := h0) .. => rw [hl] at h0; cases h0
  | .absent (absent := hn) (eq := h) .. => rw [h]; exact (erase_absent _ hs _ hn).symm
  | .revNotEqual (guarded := hg) .. => omega
  | .ok (eq := h) (wrote := hd) .. => rw [h]; exact hd.primary

theorem delFold_eq_run (l : List (Key × Obj)) (t : TableS) : delFold l t = run t (l.map fun e => Op.delete 0 e.1) := by
  induction l generalizing t with
  | nil => rfl
  | cons x l ih => exact ih _

theorem Written.deleteAll (e : TableS) : Written e (deleteAll e).1 := by
  rw [deleteAll_eq]
  cases e.locked
  · exact Written.refl e
  · exact delFold_eq_run _ _ ▸ Written.run e _

theorem delFold_primary_get (l : List (Key × Obj)) (t : TableS) (hl : t.locked = true) (hs : Sorted t.primary) (k : Key) :
    (delFold l t).primary.get k = if k ∈ l.map (·.1) then none else t.primary.get k := by
  induction l generalizing t with
  | nil => simp
  | cons x l ih =>
    have hp := delete0_primary t x.1 hl hs
    have hs' : Sorted (delete t 0 x.1).1.primary := by rw [hp]; exact sorted_erase _ hs _
    rw [delFold_cons, ih _ (by rw [delete_locked]; exact hl) hs', hp, get_erase _ hs]
    simp only [List.map_cons, List.mem_cons]
    by_cases h1 : k = x.1
    · simp [h1]
    · by_cases h2 : k ∈ l.map (·.1) <;> simp [h1, h2]

theorem deleteAll_primary (t : TableS) (hl : t.locked = true) (hs : Sorted t.primary) :
    (deleteAll t).1.primary = [] ∧ (deleteAll t).2 = .ok := by
  rw [deleteAll_eq, hl]
  simp only [if_true, and_true]
  apply eq_nil_of_get_none
  intro k
  rw [delFold_primary_get _ _ hl hs]
  split
  · rfl
  · rename_i hk
    cases hg : t.primary.get k with
    | none => rfl
    | some v =>
      exfalso; apply hk
      have := get_some_mem _ _ _ hg
      exact List.mem_map.mpr ⟨(k, v), this, rfl⟩

theorem deleteAll_notLocked (t : TableS) (hl : t.locked = false) :
    deleteAll t = (t, if t.primary.isEmpty then .ok else .notLocked) := by
  rw [deleteAll_eq, hl]; simp

theorem deleteAll_rev_mono (t : TableS) : t.rev ≤ (deleteAll t).1.rev := (Written.deleteAll t).mono

theorem deleteAll_locked (t : TableS) : (deleteAll t).1.locked = t.locked := (Written.deleteAll t).locked

theorem deleteAll_unlocked_eq (t : TableS) (h : t.locked = false) : (deleteAll t).1 = t := (Written.deleteAll t).unheld h

theorem TInv.deleteAll_preserves {t : TableS} (inv : TInv t) (hb : (deleteAll t).1.rev < 2 ^ 64) : TInv (deleteAll t).1 :=
  (Written.deleteAll t).inv inv hb

/-- `DeleteAll` assigns one revision per object -/
theorem delFold_rev (l : List (Key × Obj)) (t : TableS) (hl : t.locked = true) (hs : Sorted t.primary)
    (hl2 : Sorted l) (hpres : ∀ e ∈ l, (t.primary.get e.1).isSome = true) :
    (delFold l t).rev = t.rev + l.length := by
  induction l generalizing t with
  | nil => simp
  | cons x l ih =>
    obtain ⟨xk, xv⟩ := x
    have ⟨ha, hr⟩ := sorted_cons.mp hl2
    have hp := delete0_primary t xk hl hs
    have hs' : Sorted (Tbl.delete t 0 xk).1.primary := by rw [hp]; exact sorted_erase _ hs _
    have hrev : (Tbl.delete t 0 xk).1.rev = t.rev + 1 := by
      match delete_outcome t 0 xk with
      | .notLocked (unlocked := h0) .. => rw [hl] at h0; cases h0
      | .absent (absent := hn) .. =>
        have := hpres (xk, xv) (List.mem_cons_self ..)
        simp only at this
        rw [hn] at this; simp at this
      | .revNotEqual (guarded := hg) .. => omega
      | .ok (eq := h) (wrote := hd) .. => rw [h]; exact hd.rev
    rw [delFold_cons]
    simp only
    rw [ih _ (by rw [delete_locked]; exact hl) hs' hr, hrev]
    · simp only [List.length_cons]; omega
    · intro e he
      rw [hp, get_erase_other _ hs]
      · exact hpres e (List.mem_cons_of_mem _ he)
      · intro heq
        have := ha e he
        rw [heq, cmpL_refl] at this
        simp at this

theorem deleteAll_rev (t : TableS) (hl : t.locked = true) (hs : Sorted t.primary) :
    (deleteAll t).1.rev = t.rev + t.primary.length := by
  rw [deleteAll_eq, hl]
  simp only [if_true]
  apply delFold_rev _ _ hl hs hs
  intro e he
  rw [mem_get_some _ hs e.1 e.2 he]; rfl

theorem deleteAll_as_ops (t : TableS) (hl : t.locked = true) :
    (deleteAll t).1 = run t (t.primary.map fun e => Op.delete 0 e.1) := by
  rw [deleteAll_eq, hl]; exact delFold_eq_run _ _

/-- the table a write transaction handle operates on (`txn.tableEntries[pos]`; the driver's `getT`) -/
def DB.wTable (es : List TableS) (ti : Nat) : TableS := es.getD ti default

/-- `Insert/Modify/CompareAndSwap` through the handle of the database's write transaction;
    a finished transaction (`wtxn = none`, Go: `txn == nil`) reports `closed` -/
def DB.wModify (db : DB) (ti guard : Nat) (o : Obj) (merge : Bool) : DB × Option Obj × Err :=
  match db.wtxn with
  | none => (db, none, .closed)
  | some es =>
    let r := modify (DB.wTable es ti) guard o merge
    ({ db with wtxn := some (es.set ti r.1) }, r.2.1, r.2.2)

/-- `Delete/CompareAndDelete` through the handle -/
def DB.wDelete (db : DB) (ti guard : Nat) (id : Key) : DB × Option Obj × Err :=
  match db.wtxn with
  | none => (db, none, .closed)
  | some es =>
    let r := delete (DB.wTable es ti) guard id
    ({ db with wtxn := some (es.set ti r.1) }, r.2.1, r.2.2)

/-- `DeleteAll` through the handle (Go panics on a finished transaction; here: no effect) -/
def DB.wDeleteAll (db : DB) (ti : Nat) : DB × Err :=
  match db.wtxn with
  | none => (db, .closed)
  | some es =>
    let r := deleteAll (DB.wTable es ti)
    ({ db with wtxn := some (es.set ti r.1) }, r.2)

/-- registration of a delete tracker on a held table, as by `Changes()`: deletes then keep graveyard copies -/
def DB.wTrack (db : DB) (ti id : Nat) : DB :=
  match db.wtxn with
  | none => db
  | some es =>
    let t := DB.wTable es ti
    if t.locked then { db with wtxn := some (es.set ti { t with trackers := id :: t.trackers }) } else db

theorem gcApply_frame (db : DB) (dead : List (Nat × List Key)) :
    (gcApply db dead).wtxn = db.wtxn ∧ (gcApply db dead).root.length = db.root.length ∧
    ∀ (i : Nat) (r : TableS), db.root[i]? = some r →
      ∃ r', (gcApply db dead).root[i]? = some r' ∧ r'.rev = r.rev ∧ r'.primary = r.primary ∧ r'.revIdx = r.revIdx := by
  refine ⟨rfl, by simp [gcApply], ?_⟩
  intro i r hr
  simp only [gcApply, List.getElem?_mapIdx, hr, Option.map_some]
  refine ⟨_, rfl, ?_⟩
  split
  · exact ⟨rfl, rfl, rfl⟩
  · rename_i ks _
    obtain ⟨gr, g, h⟩ := gcFold_eq ks r
    exact ⟨congrArg (·.rev) h, congrArg (·.primary) h, congrArg (·.revIdx) h⟩

inductive DbOp where
  | beginW (lockM lockA : Bool)
  | modify (ti guard : Nat) (o : Obj) (merge : Bool)
  | delete (ti guard : Nat) (id : Key)
  | deleteAll (ti : Nat)
  | track (ti id : Nat)
  | commit
  | abort
  | gc

/-- `beginW` and `gc` do nothing while a write transaction is open, the writes and `track` nothing without one -/
def DB.step (db : DB) : DbOp → DB
  | .beginW lm la => if db.wtxn.isSome then db else db.beginW lm la
  | .modify ti g o m => (db.wModify ti g o m).1
  | .delete ti g id => (db.wDelete ti g id).1
  | .deleteAll ti => (db.wDeleteAll ti).1
  | .track ti id => db.wTrack ti id
  | .commit => db.commit
  | .abort => db.abort
  | .gc => if db.wtxn.isSome then db else gcApply db (gcScan db)

def DB.Bounded (db : DB) : Prop :=
  (∀ t ∈ db.root, t.rev < 2 ^ 64) ∧ ∀ es, db.wtxn = some es → ∀ t ∈ es, t.rev < 2 ^ 64

/-- for `decide` on concrete states -/
def DB.boundedB (db : DB) : Bool :=
  db.root.all (fun t => decide (t.rev < 2 ^ 64)) &&
  match db.wtxn with
  | some es => es.all (fun t => decide (t.rev < 2 ^ 64))
  | none => true

theorem DB.bounded_of_boundedB (db : DB) (h : db.boundedB = true) : db.Bounded := by
  unfold DB.boundedB at h
  simp only [Bool.and_eq_true, List.all_eq_true, decide_eq_true_eq] at h
  refine ⟨h.1, ?_⟩
  intro es hes t ht
  have h2 := h.2
  rw [hes] at h2
  simp only [List.all_eq_true, decide_eq_true_eq] at h2
  exact h2 t ht

/-- `TInv` of every committed table and of every table of the open write transaction, none of which is behind
    the committed table at its position -/
structure DInv (db : DB) : Prop where
  root : ∀ t ∈ db.root, TInv t
  txn : ∀ es, db.wtxn = some es → es.length = db.root.length ∧
    ∀ (i : Nat) (e r : TableS), es[i]? = some e → db.root[i]? = some r →
      TInv e ∧ r.rev ≤ e.rev ∧ (e.locked = false → e.rev = r.rev ∧ e.primary = r.primary ∧ e.revIdx = r.revIdx)

theorem DInv.newDB : DInv newDB := by
  constructor
  · intro t ht
    simp only [Tbl.newDB, List.mem_cons, List.not_mem_nil, or_false] at ht
    rcases ht with rfl | rfl <;> exact TInv.empty _ rfl rfl (by decide)
  · intro es h; simp [Tbl.newDB] at h

theorem mem_of_getElem?' {α : Type} {l : List α} {i : Nat} {a : α} (h : l[i]? = some a) : a ∈ l :=
  List.mem_of_getElem? h

theorem DInv.setW {db : DB} (inv : DInv db) (es : List TableS) (hes : db.wtxn = some es) (ti : Nat) (t' : TableS)
    (h : ∀ e r, es[ti]? = some e → db.root[ti]? = some r → TInv e → r.rev ≤ e.rev →
      (e.locked = false → e.rev = r.rev ∧ e.primary = r.primary ∧ e.revIdx = r.revIdx) →
      TInv t' ∧ r.rev ≤ t'.rev ∧ (t'.locked = false → t'.rev = r.rev ∧ t'.primary = r.primary ∧ t'.revIdx = r.revIdx)) :
    DInv { db with wtxn := some (es.set ti t') } := by
  have ⟨hlen, hall⟩ := inv.txn es hes
  constructor
  · exact inv.root
  · intro es' hes'
    simp only [Option.some.injEq] at hes'
    subst hes'
    refine ⟨by simp [hlen], ?_⟩
    intro i e r he hr
    rw [List.getElem?_set] at he
    split at he
    · rename_i hi
      subst hi
      split at he
      · rename_i hlt
        simp only [Option.some.injEq] at he; subst he
        have ⟨hinv, hle, hsame⟩ := hall ti es[ti] r (List.getElem?_eq_getElem hlt) hr
        exact h es[ti] r (List.getElem?_eq_getElem hlt) hr hinv hle hsame
      · simp at he
    · exact hall i e r he hr

theorem DB.wTable_of_getElem? {es : List TableS} {ti : Nat} {e : TableS} (h : es[ti]? = some e) :
    DB.wTable es ti = e := by
  simp [DB.wTable, List.getD, h]

theorem mem_set_self {es : List TableS} {ti : Nat} {e t' : TableS} (h : es[ti]? = some e) : t' ∈ es.set ti t' := by
  apply List.mem_of_getElem? (i := ti)
  rw [List.getElem?_set]; simp [(List.getElem?_eq_some_iff.mp h).1]

theorem mem_set_cases {es : List TableS} {ti : Nat} {x t' : TableS} (h : t' ∈ es.set ti x) :
    t' ∈ es ∨ (t' = x ∧ DB.wTable es ti ∈ es) := by
  rcases Nat.lt_or_ge ti es.length with hlt | hge
  · rcases List.mem_or_eq_of_mem_set h with h | h
    · exact Or.inl h
    · refine Or.inr ⟨h, ?_⟩
      rw [DB.wTable_of_getElem? (List.getElem?_eq_getElem hlt)]
      exact List.getElem_mem hlt
  · rw [List.set_eq_of_length_le hge] at h; exact Or.inl h

theorem DInv.write {db db' : DB} (inv : DInv db) (ti : Nat) (f : TableS → TableS) (hf : ∀ e, Written e (f e))
    (hdb : db' = match db.wtxn with
      | none => db
      | some es => { db with wtxn := some (es.set ti (f (DB.wTable es ti))) })
    (hb : db'.Bounded) : DInv db' := by
  subst hdb
  cases hes : db.wtxn with
  | none => exact inv
  | some es =>
    simp only [hes] at hb ⊢
    apply inv.setW es hes
    intro e r he hr hinv hle hsame
    rw [DB.wTable_of_getElem? he] at hb ⊢
    refine ⟨(hf e).inv hinv (hb.2 _ rfl _ (mem_set_self he)), Nat.le_trans hle (hf e).mono, fun hl => ?_⟩
    rw [(hf e).locked] at hl
    rw [(hf e).unheld hl]; exact hsame hl

theorem DInv.step {db : DB} (inv : DInv db) (op : DbOp) (hb : (db.step op).Bounded) : DInv (db.step op) := by
  cases op with
  | beginW lm la =>
    simp only [DB.step]
    split
    · exact inv
    · constructor
      · exact inv.root
      · intro es hes
        simp only [DB.beginW, Option.some.injEq] at hes
        subst hes
        have hroot : (db.beginW lm la).root = db.root := rfl
        rw [hroot]
        refine ⟨by simp, ?_⟩
        intro i e r he hr
        rw [List.getElem?_mapIdx, hr] at he
        simp only [Option.map_some, Option.some.injEq] at he
        subst he
        exact ⟨(inv.root r (List.mem_of_getElem? hr)).congr rfl rfl rfl, Nat.le_refl _, fun _ => ⟨rfl, rfl, rfl⟩⟩
  | modify ti g o m =>
    exact inv.write ti (fun e => (modify e g o m).1) (Written.apply · (.modify g o m))
      (by simp only [DB.step, DB.wModify]; split <;> rfl) hb
  | delete ti g id =>
    exact inv.write ti (fun e => (delete e g id).1) (Written.apply · (.delete g id))
      (by simp only [DB.step, DB.wDelete]; split <;> rfl) hb
  | deleteAll ti =>
    exact inv.write ti (fun e => (deleteAll e).1) Written.deleteAll
      (by simp only [DB.step, DB.wDeleteAll]; split <;> rfl) hb
  | track ti id =>
    simp only [DB.step, DB.wTrack]
    cases hes : db.wtxn with
    | none => exact inv
    | some es =>
      simp only
      split
      · rename_i hlk
        apply inv.setW es hes
        intro e r he hr hinv hle _
        rw [DB.wTable_of_getElem? he] at hlk ⊢
        exact ⟨hinv.congr rfl rfl rfl, hle, fun hl => by simp [hlk] at hl⟩
      · exact inv
  | commit =>
    simp only [DB.step, DB.commit]
    cases hes : db.wtxn with
    | none => exact inv
    | some es =>
      simp only
      have ⟨hlen, hall⟩ := inv.txn es hes
      constructor
      · intro t ht
        simp only [List.mem_map] at ht
        obtain ⟨⟨e, cur⟩, hz, rfl⟩ := ht
        obtain ⟨i, hi⟩ := List.mem_iff_getElem?.mp hz
        rw [List.getElem?_zip_eq_some] at hi
        have ⟨a, _, _⟩ := hall i e cur hi.1 hi.2
        simp only
        split
        · exact a.congr rfl rfl rfl
        · exact inv.root cur (List.mem_of_getElem? hi.2)
      · intro es' h; simp at h
  | abort =>
    simp only [DB.step, DB.abort]
    exact ⟨inv.root, fun es h => by simp at h⟩
  | gc =>
    simp only [DB.step]
    split
    · exact inv
    · rename_i hw
      have ⟨h1, h2, h3⟩ := gcApply_frame db (gcScan db)
      constructor
      · intro t ht
        obtain ⟨i, hi⟩ := List.mem_iff_getElem?.mp ht
        have hlt : i < db.root.length := h2 ▸ (List.getElem?_eq_some_iff.mp hi).1
        obtain ⟨r', hr', a, b, c⟩ := h3 i db.root[i] (List.getElem?_eq_getElem hlt)
        cases hr'.symm.trans hi
        exact (inv.root _ (List.getElem_mem hlt)).congr a b c
      · intro es hes
        rw [h1] at hes
        rw [hes] at hw; simp at hw

/-- states reachable from the fresh database, the revision counters staying inside `uint64` -/
inductive Reach : DB → Prop where
  | init : Reach newDB
  | step {db : DB} (op : DbOp) : Reach db → (db.step op).Bounded → Reach (db.step op)

theorem Reach.inv {db : DB} (h : Reach db) : DInv db := by
  induction h with
  | init => exact DInv.newDB
  | step op _ hb ih => exact ih.step op hb

theorem commit_root (db : DB) (es : List TableS) (hes : db.wtxn = some es) (i : Nat) (e cur : TableS)
    (he : es[i]? = some e) (hc : db.root[i]? = some cur) :
    ∃ r', db.commit.root[i]? = some r' ∧
      (e.locked = true → r'.rev = e.rev ∧ r'.primary = e.primary ∧ r'.revIdx = e.revIdx ∧ r'.locked = false) ∧
      (e.locked = false → r' = cur) := by
  simp only [DB.commit, hes]
  have hz : (es.zip db.root)[i]? = some (e, cur) := List.getElem?_zip_eq_some.mpr ⟨he, hc⟩
  rw [List.getElem?_map, hz]
  simp only [Option.map_some]
  refine ⟨_, rfl, ?_, ?_⟩
  · intro hl; simp [hl]
  · intro hl; simp [hl]

theorem commit_root_length (db : DB) (inv : DInv db) : db.commit.root.length = db.root.length := by
  simp only [DB.commit]
  cases hes : db.wtxn with
  | none => rfl
  | some es =>
    have := (inv.txn es hes).1
    simp [this]

theorem DB.step_root (db : DB) (op : DbOp) : (db.step op).root = db.root ∨ op = .commit ∨ op = .gc := by
  cases op with
  | commit => exact Or.inr (Or.inl rfl)
  | gc => exact Or.inr (Or.inr rfl)
  | abort => exact Or.inl rfl
  | beginW lm la => left; simp only [DB.step]; split <;> rfl
  | modify ti g o m => left; simp only [DB.step, DB.wModify]; split <;> rfl
  | delete ti g id => left; simp only [DB.step, DB.wDelete]; split <;> rfl
  | deleteAll ti => left; simp only [DB.step, DB.wDeleteAll]; split <;> rfl
  | track ti id =>
    left; simp only [DB.step, DB.wTrack]; split
    · rfl
    · split <;> rfl

theorem step_root_rev_mono {db : DB} (inv : DInv db) (op : DbOp) :
    (db.step op).root.length = db.root.length ∧
    ∀ (i : Nat) (r r' : TableS), db.root[i]? = some r → (db.step op).root[i]? = some r' → r.rev ≤ r'.rev := by
  have same : ∀ db' : DB, db'.root = db.root → db'.root.length = db.root.length ∧
      ∀ (i : Nat) (r r' : TableS), db.root[i]? = some r → db'.root[i]? = some r' → r.rev ≤ r'.rev := by
    intro db' h
    rw [h]
    refine ⟨rfl, ?_⟩
    intro i r r' h1 h2
    cases h1.symm.trans h2; exact Nat.le_refl _
  rcases db.step_root op with h | rfl | rfl
  · exact same _ h
  · simp only [DB.step]
    refine ⟨commit_root_length db inv, ?_⟩
    intro i r r' h1 h2
    cases hes : db.wtxn with
    | none =>
      have : db.commit = db := by simp [DB.commit, hes]
      rw [this] at h2; cases h1.symm.trans h2; exact Nat.le_refl _
    | some es =>
      have ⟨hlen, hall⟩ := inv.txn es hes
      have hi : i < es.length := hlen ▸ (List.getElem?_eq_some_iff.mp h1).1
      have he : es[i]? = some es[i] := List.getElem?_eq_getElem hi
      obtain ⟨r'', hr'', hl1, hl2⟩ := commit_root db es hes i es[i] r he h1
      cases hr''.symm.trans h2
      have ⟨_, hle, _⟩ := hall i es[i] r he h1
      cases hlk : es[i].locked with
      | true => rw [(hl1 hlk).1]; exact hle
      | false => rw [hl2 hlk]; exact Nat.le_refl _
  · simp only [DB.step]
    split
    · exact same db rfl
    · have ⟨_, h2, h3⟩ := gcApply_frame db (gcScan db)
      refine ⟨h2, ?_⟩
      intro i r r' hr hr'
      obtain ⟨r'', hr'', a, _, _⟩ := h3 i r hr
      cases hr''.symm.trans hr'
      omega

end Sdb.Tbl
