import SdbModel.Lemmas.ArtFrame
import SdbModel.Lemmas.ArtPFrame
import SdbModel.Lemmas.ArtTxn

/-! Transactions of Model.Art with any number of calls.  Under the invariant `MInv` of an open transaction
    `W.frame` and `W.closes` apply to every call, so the Get / Prefix channel handed out on the committed
    tree is recorded once one of the calls changed the key / a key below the prefix (`Chan.recorded_multi`).
    A transaction that owns no node of its tree (`TxnFresh`) needs no invariant: one call records the
    channel (`Wrote.closes_fresh`). -/
namespace Sdb.ArtW
open Sdb.Art

def pwR : Option Node → List Nat → Option Nat := chR pw

theorem getRoot_eq_pwR (root : Option Node) (w : Nat) (k : List Nat) : (getRoot root w k).2 = (pwR root k).getD w := by
  cases root with
  | none => rfl
  | some r => exact search_eq_pw r w k

theorem getD_mem {o : Option Nat} {w : Nat} {p : Nat → Prop} (h : ∀ c, o = some c → p c) :
    o.getD w = w ∨ p (o.getD w) := by
  cases o with
  | none => exact Or.inl rfl
  | some c => exact Or.inr (h c rfl)

def InnerR (q : Nat → Nat → Prop) : Option Node → Prop
  | none => True
  | some r => Inner q r

theorem Stamps.toInner {p : Nat → Prop} {q : Nat → Nat → Prop} (h : ∀ t w, p t → q t w) (n : Node) (hs : Stamps p n) :
    Inner q n :=
  (marks_inner n).1 (Marks.mono h (fun _ => trivial) n ((marks_stamps n).2 hs))

theorem StampsK.toInnerK {p : Nat → Prop} {q : Nat → Nat → Prop} (h : ∀ t w, p t → q t w) :
    (k : Kids) → StampsK p k → InnerK q k :=
  fun k hs => (marksK_inner k).1 (MarksK.mono h (fun _ => trivial) k ((marksK_stamps k).2 hs))

/-- the invariant of an open transaction; `B` bounds the channels of the tree it was opened on
    (`wd.nextW` at that time, `MInv.txn`) -/
structure MInv (B : Nat) (x : Txn) : Prop where
  wf : TxnWF x
  id0 : x.st.txnID ≠ 0
  own : InnerR (OFq x.st.txnID B) x.root
  bnd : B ≤ x.st.nextW

theorem MInv.ownR {B : Nat} {x : Txn} {r : Node} (h : MInv B x) (hr : x.root = some r) :
    Inner (OFq x.st.txnID B) r := by
  have := h.own; rwa [hr] at this

theorem MInv.marks {B : Nat} {x : Txn} (h : MInv B x) : ∀ r, x.root = some r → Marks (OFq x.st.txnID B) True r :=
  fun _ hr => (h.ownR hr).marks trivial

theorem qok_of_bnd {B : Nat} {st : St} (h : B ≤ st.nextW) : QOk (OFq st.txnID B) st := by
  intro w' hw' _
  rcases hw' with h0 | h1
  · exact Or.inl h0
  · right; omega

theorem MInv.wrote {B : Nat} {x x' : Txn} {k : List Nat} {rw : Option Nat} (h : MInv B x) (hw : Wrote x k x' rw) :
    MInv B x' := by
  have hle := hw.w.le
  refine ⟨h.wf.wrote hw, by rw [hle.id]; exact h.id0, ?_, Nat.le_trans h.bnd hle.nw⟩
  rw [hle.id]
  have hm := hw.w.marks rfl (qok_of_bnd h.bnd) (fun _ => trivial) h.marks
  cases hr' : x'.root with
  | none => trivial
  | some r' => exact (marks_inner r').1 (hm r' hr')

theorem MInv.bump {B : Nat} {x : Txn} (h : MInv B x) : MInv B x.bump := by
  refine ⟨h.wf.bump, by simp [Txn.bump], ?_, h.bnd⟩
  cases hr : x.root with
  | none => simp [Txn.bump, hr, InnerR]
  | some r =>
    simp only [Txn.bump, hr, InnerR]
    refine Stamps.toInner ?_ r (h.wf r hr)
    intro t w (ht : t ≤ x.st.txnID) he
    omega

theorem MInv.step {B : Nat} {x : Txn} (P : ArtParams) (h : MInv B x) (o : Op) : MInv B (step P x o) :=
  step_of_wrote MInv.wrote MInv.bump P h o

theorem MInv.insert {B : Nat} {x : Txn} (P : ArtParams) (h : MInv B x) (k : List Nat) (v : Nat)
    (m : Option (Nat → Nat → Nat)) : MInv B (x.insert P k v m).1 :=
  h.step P (.insert k v m)

theorem MInv.delete {B : Nat} {x : Txn} (P : ArtParams) (h : MInv B x) (k : List Nat) : MInv B (x.delete P k).1 :=
  h.step P (.delete k)

theorem MInv.txn {t : Tree} (h : TreeWF t) (wd : World) (r : Node) (hr : t.root = some r) : MInv wd.nextW (t.txn wd) := by
  have hs := h r hr
  refine ⟨h.txn wd, ?_, ?_, Nat.le_refl _⟩
  · exact Nat.ne_of_gt (Nat.lt_of_le_of_lt (Nat.zero_le _) (hs.txn r))
  · show InnerR _ t.root
    rw [hr]
    refine Stamps.toInner ?_ r hs
    intro tt w (ht : tt < t.nextTxnID) (he : tt = t.nextTxnID)
    omega

namespace Chan
variable {ex : Bool} {f : Node → List Nat → Option Nat} {fK : Kids → Nat → List Nat → Option Nat} {B : Nat} {x : Txn}

theorem step_frame (hf : Chan ex f fK) (P : ArtParams) (h : MInv B x) (k : List Nat) (o : Op) (c : Nat)
    (hc : chR f x.root k = some c) :
    B ≤ c ∨ c ∈ (step P x o).st.pending ∨ chR f (step P x o).root k = some c := by
  rcases step_cases P x o with he | he | ⟨_, _, hw⟩
  · rw [he]; exact Or.inr (Or.inr hc)
  · rw [he]; exact Or.inr (Or.inr hc)
  · exact hw.w.frame hf rfl h.marks k c hc

theorem insert_closes (hf : Chan ex f fK) (P : ArtParams) (h : MInv B x) (k' : List Nat) (v : Nat)
    (m : Option (Nat → Nat → Nat)) (k : List Nat) (hkk : hasPrefix k' k = true) (hek : ex = true → k' = k) (c : Nat)
    (hc : chR f x.root k = some c) : B ≤ c ∨ c ∈ (x.insert P k' v m).1.st.pending := by
  obtain ⟨_, hw, _⟩ := insert_wrote P x k' v m
  exact hw.w.closes hf rfl h.marks (.of_id h.id0) k hkk hek c hc

theorem delete_closes (hf : Chan ex f fK) (P : ArtParams) (h : MInv B x) (k' k : List Nat)
    (hkk : hasPrefix k' k = true) (hek : ex = true → k' = k) (hpres : (x.delete P k').2.isSome = true) (c : Nat)
    (hc : chR f x.root k = some c) : B ≤ c ∨ c ∈ (x.delete P k').1.st.pending := by
  rcases delete_wrote P x k' with ⟨_, he⟩ | ⟨_, hw⟩
  · rw [he] at hpres; cases hpres
  · exact hw.w.closes hf rfl h.marks .of_delete k hkk hek c hc

end Chan

/-- `g` reads a channel off the root (`pwR · k`, `ppwR · q`), `hframe` is `Chan.step_frame` for it;
    `tb x o` says that call `o` hits the channel (`hcloses`), `tch` that one of the calls does.  Along a run of
    calls the channel is recorded, or no call has hit it and `g` still reads it. -/
theorem run_closes_of {B : Nat} (P : ArtParams) (g : Option Node → Option Nat)
    (hframe : ∀ x, MInv B x → ∀ o c, g x.root = some c →
      B ≤ c ∨ c ∈ (step P x o).st.pending ∨ g (step P x o).root = some c)
    (tb : Txn → Op → Bool) (tch : Txn → List Op → Bool) (hnil : ∀ x, tch x [] = false)
    (hcons : ∀ x o ops, tch x (o :: ops) = (tb x o || tch (step P x o) ops))
    (hcloses : ∀ x, MInv B x → ∀ o, tb x o = true → ∀ c, g x.root = some c → B ≤ c ∨ c ∈ (step P x o).st.pending)
    {c : Nat} (hcB : c < B) :
    ∀ (ops : List Op) (x : Txn), MInv B x → c ∈ x.st.pending ∨ g x.root = some c →
      c ∈ (run P x ops).st.pending ∨ (tch x ops = false ∧ g (run P x ops).root = some c)
  | [], x, _, hk => hk.imp_right fun hx => ⟨hnil x, hx⟩
  | o :: ops, x, h, hk => by
    rw [run_cons, hcons]
    have ih := run_closes_of P g hframe tb tch hnil hcons hcloses hcB ops (step P x o) (h.step P o)
    rcases hk with hx | hx
    · exact Or.inl ((later_run P _ ops).sub _ ((later_step P x o).sub _ hx))
    · cases ht : tb x o with
      | true =>
        exact Or.inl ((later_run P _ ops).sub _ ((hcloses x h o ht c hx).resolve_left (Nat.not_le.mpr hcB)))
      | false => exact ih ((hframe x h o c hx).resolve_left (Nat.not_le.mpr hcB))

theorem anyChange_of (P : ArtParams) (tb : Txn → Op → Bool) (tch : Txn → List Op → Bool) (hnil : ∀ x, tch x [] = false)
    (hcons : ∀ x o ops, tch x (o :: ops) = (tb x o || tch (step P x o) ops))
    (htb : ∀ x o, tb x o = true → changes P x o = true) :
    ∀ (ops : List Op) (x : Txn), tch x ops = true → anyChange P x ops = true
  | [], x, h => by rw [hnil] at h; cases h
  | o :: ops, x, h => by
    rw [hcons, Bool.or_eq_true] at h
    rw [anyChange, Bool.or_eq_true]
    exact h.imp (htb x o) (anyChange_of P tb tch hnil hcons htb ops _)

/-- The channel a query finds in the tree a transaction is opened on is recorded once one of the calls hits it;
    `tb`, `tch`, `hcloses` as in `run_closes_of`. -/
theorem Chan.recorded_multi {ex : Bool} {f : Node → List Nat → Option Nat} {fK : Kids → Nat → List Nat → Option Nat}
    (hf : Chan ex f fK) (P : ArtParams) (k : List Nat) (tb : Txn → Op → Bool) (tch : Txn → List Op → Bool)
    (hnil : ∀ x, tch x [] = false) (hcons : ∀ x o ops, tch x (o :: ops) = (tb x o || tch (step P x o) ops))
    (hcloses : ∀ {B x}, MInv B x → ∀ o, tb x o = true → ∀ c, chR f x.root k = some c →
      B ≤ c ∨ c ∈ (step P x o).st.pending)
    {t : Tree} (hwf : TreeWF t) (wd : World) (ops : List Op)
    (hlt : (chR f t.root k).getD t.rootWatch < wd.nextW) (ht : tch (t.txn wd) ops = true) :
    (chR f t.root k).getD t.rootWatch = t.rootWatch ∨
    (chR f t.root k).getD t.rootWatch ∈ (run P (t.txn wd) ops).st.pending := by
  cases hp : chR f t.root k with
  | none => exact Or.inl rfl
  | some c =>
    rw [hp] at hlt
    cases hr : t.root with
    | none => rw [hr] at hp; cases hp
    | some r =>
      exact Or.inr ((run_closes_of P (chR f · k) (fun _ h o c => hf.step_frame P h k o c) tb tch hnil hcons
        (fun _ h => hcloses h) hlt ops (t.txn wd) (MInv.txn hwf wd r hr) (Or.inr hp)).resolve_right
          fun h => by rw [ht] at h; cases h.1)

/-- does the call insert / modify `k`, or delete a present `k` -/
def touchedBy (P : ArtParams) (x : Txn) (k : List Nat) : Op → Bool
  | .insert k' _ _ => k' == k
  | .delete k' => k' == k && (x.delete P k').2.isSome
  | .bump => false

def touched (P : ArtParams) (x : Txn) (k : List Nat) : List Op → Bool
  | [] => false
  | o :: ops => touchedBy P x k o || touched P (step P x o) k ops

theorem txn_step_closes {B : Nat} {x : Txn} (P : ArtParams) (h : MInv B x) (k : List Nat) (o : Op)
    (ht : touchedBy P x k o = true) (c : Nat) (hc : pwR x.root k = some c) :
    B ≤ c ∨ c ∈ (step P x o).st.pending := by
  cases o with
  | insert k' v m =>
    have hk : k' = k := by simpa [touchedBy] using ht
    exact pwChan.insert_closes P h k' v m k (hk ▸ hasPrefix_self k') (fun _ => hk) c hc
  | delete k' =>
    simp only [touchedBy, Bool.and_eq_true, beq_iff_eq] at ht
    exact pwChan.delete_closes P h k' k (ht.1 ▸ hasPrefix_self k') (fun _ => ht.1) ht.2 c hc
  | bump => cases ht

theorem touched_anyChange (P : ArtParams) (k : List Nat) (ops : List Op) :
    ∀ x : Txn, touched P x k ops = true → anyChange P x ops = true :=
  anyChange_of P (touchedBy P · k) (touched P · k) (fun _ => rfl) (fun _ _ _ => rfl)
    (fun x o h => by
      cases o with
      | insert k' v m => rfl
      | delete k' => simp only [touchedBy, Bool.and_eq_true] at h; exact h.2
      | bump => cases h) ops

theorem get_channel_recorded_multi (P : ArtParams) (t : Tree) (hwf : TreeWF t) (wd : World) (k : List Nat) (ops : List Op)
    (hlt : (getRoot t.root t.rootWatch k).2 < wd.nextW) (ht : touched P (t.txn wd) k ops = true) :
    (getRoot t.root t.rootWatch k).2 = t.rootWatch ∨
    (getRoot t.root t.rootWatch k).2 ∈ (run P (t.txn wd) ops).st.pending := by
  rw [getRoot_eq_pwR] at hlt ⊢
  exact pwChan.recorded_multi P k (touchedBy P · k) (touched P · k) (fun _ => rfl) (fun _ _ _ => rfl)
    (fun h o ht c => txn_step_closes P h k o ht c) hwf wd ops hlt ht


def ppwR : Option Node → List Nat → Option Nat := chR ppw

theorem prefixRoot_eq_ppwR (root : Option Node) (w : Nat) (q : List Nat) :
    (prefixRoot root w q).2 = (ppwR root q).getD w := by
  cases root with
  | none => rfl
  | some r => exact prefix_eq_ppw r w q

def touchedByP (P : ArtParams) (x : Txn) (q : List Nat) : Op → Bool
  | .insert k' _ _ => hasPrefix k' q
  | .delete k' => hasPrefix k' q && (x.delete P k').2.isSome
  | .bump => false

def touchedP (P : ArtParams) (x : Txn) (q : List Nat) : List Op → Bool
  | [] => false
  | o :: ops => touchedByP P x q o || touchedP P (step P x o) q ops

theorem txn_step_pcloses {B : Nat} {x : Txn} (P : ArtParams) (h : MInv B x) (q : List Nat) (o : Op)
    (ht : touchedByP P x q o = true) (c : Nat) (hc : ppwR x.root q = some c) :
    B ≤ c ∨ c ∈ (step P x o).st.pending := by
  cases o with
  | insert k' v m => exact ppwChan.insert_closes P h k' v m q ht (fun e => by cases e) c hc
  | delete k' =>
    simp only [touchedByP, Bool.and_eq_true] at ht
    exact ppwChan.delete_closes P h k' q ht.1 (fun e => by cases e) ht.2 c hc
  | bump => cases ht

theorem touchedP_anyChange (P : ArtParams) (q : List Nat) (ops : List Op) :
    ∀ x : Txn, touchedP P x q ops = true → anyChange P x ops = true :=
  anyChange_of P (touchedByP P · q) (touchedP P · q) (fun _ => rfl) (fun _ _ _ => rfl)
    (fun x o h => by
      cases o with
      | insert k' v m => rfl
      | delete k' => simp only [touchedByP, Bool.and_eq_true] at h; exact h.2
      | bump => cases h) ops

theorem prefix_channel_recorded_multi (P : ArtParams) (t : Tree) (hwf : TreeWF t) (wd : World) (q : List Nat)
    (ops : List Op) (hlt : (prefixRoot t.root t.rootWatch q).2 < wd.nextW) (ht : touchedP P (t.txn wd) q ops = true) :
    (prefixRoot t.root t.rootWatch q).2 = t.rootWatch ∨
    (prefixRoot t.root t.rootWatch q).2 ∈ (run P (t.txn wd) ops).st.pending := by
  rw [prefixRoot_eq_ppwR] at hlt ⊢
  exact ppwChan.recorded_multi P q (touchedByP P · q) (touchedP P · q) (fun _ => rfl) (fun _ _ _ => rfl)
    (fun h o ht c => txn_step_pcloses P h q o ht c) hwf wd ops hlt ht

/-! A transaction that owns no node of the tree: stamps different from its id make the ownership clause
`OFq` vacuous for every bound, and the bound `c + 1` rules out the alternative `B ≤ c`. -/

theorem getD_closed {o : Option Nat} {w : Nat} {pend : List Nat}
    (h : ∀ c, o = some c → c + 1 ≤ c ∨ c ∈ pend) : o.getD w = w ∨ o.getD w ∈ pend :=
  getD_mem fun c hc => (h c hc).resolve_left (Nat.not_succ_le_self c)

theorem Stamps.notOwned {id B : Nat} {l : Prop} {n : Node} (h : Stamps (· ≠ id) n) (hl : 0 ≠ id → l) :
    Marks (OFq id B) l n :=
  Marks.mono (fun _ _ ht e => absurd e ht) hl n ((marks_stamps (p := (· ≠ id)) n).2 h)

theorem StampsK.notOwned {id B : Nat} {l : Prop} {k : Kids} (h : StampsK (· ≠ id) k) (hl : 0 ≠ id → l) :
    MarksK (OFq id B) l k :=
  MarksK.mono (fun _ _ ht e => absurd e ht) hl k ((marksK_stamps (p := (· ≠ id)) k).2 h)

theorem insKids_closes (P : ArtParams) (st : St) : (kids : Kids) → (b : Nat) → (key full : List Nat) → (val : Nat) →
    (mod : Option (Nat → Nat → Nat)) → (w : Nat) → StampsK (· ≠ st.txnID) kids →
    match insKids P st kids b key full val mod with
    | some (r, _) => (searchK kids b w key).2 = w ∨ (searchK kids b w key).2 ∈ r.st.pending
    | none => (searchK kids b w key).2 = w := by
  intro kids b key full val mod w hs
  rw [searchK_eq_pw]
  cases ho : pwK kids b key with
  | none => cases insKids P st kids b key full val mod with
    | none => rfl
    | some x => exact Or.inl rfl
  | some c =>
    obtain ⟨r, kids', hi, hr⟩ := pwChan.insKids_closes P st (c + 1) kids b key full val mod key
      (hs.notOwned id) (fun _ => .of_stamps) (hasPrefix_self key) (fun _ => rfl) c ho
    rw [hi]; exact Or.inr (hr.resolve_left (Nat.not_succ_le_self c))

theorem delKids_closes (P : ArtParams) (st : St) : (kids : Kids) → (b : Nat) → (key : List Nat) → (w : Nat) →
    (r : DelRes) → (kids' : Kids) → (st' : St) → StampsK (· ≠ st.txnID) kids →
    delKids P st kids b key = some (r, kids') → delSt r = some st' →
    (searchK kids b w key).2 = w ∨ (searchK kids b w key).2 ∈ st'.pending := by
  intro kids b key w r kids' st' hs h hr
  rw [searchK_eq_pw]
  exact getD_closed fun c => pwChan.delKids_closes P st (c + 1) kids b key key r kids' st' (hs.notOwned fun _ => trivial) (hasPrefix_self key) (fun _ => rfl) h hr c

theorem insKids_closes_prefix (P : ArtParams) (st : St) : (kids : Kids) → (b : Nat) → (key full : List Nat) →
    (val : Nat) → (mod : Option (Nat → Nat → Nat)) → (w : Nat) → (q : List Nat) → StampsK (· ≠ st.txnID) kids →
    hasPrefix key q = true →
    match insKids P st kids b key full val mod with
    | some (r, _) => (prefixK kids b w q).2 = w ∨ (prefixK kids b w q).2 ∈ r.st.pending
    | none => (prefixK kids b w q).2 = w := by
  intro kids b key full val mod w q hs hkq
  rw [prefixK_eq_ppw]
  cases ho : ppwK kids b q with
  | none => cases insKids P st kids b key full val mod with
    | none => rfl
    | some x => exact Or.inl rfl
  | some c =>
    obtain ⟨r, kids', hi, hr⟩ := ppwChan.insKids_closes P st (c + 1) kids b key full val mod q
      (hs.notOwned id) (fun _ => .of_prefix) hkq nofun c ho
    rw [hi]; exact Or.inr (hr.resolve_left (Nat.not_succ_le_self c))

theorem delKids_closes_prefix (P : ArtParams) (st : St) : (kids : Kids) → (b : Nat) → (key : List Nat) → (w : Nat) →
    (q : List Nat) → (r : DelRes) → (kids' : Kids) → (st' : St) → StampsK (· ≠ st.txnID) kids →
    hasPrefix key q = true → delKids P st kids b key = some (r, kids') → delSt r = some st' →
    (prefixK kids b w q).2 = w ∨ (prefixK kids b w q).2 ∈ st'.pending := by
  intro kids b key w q r kids' st' hs hkq h hr
  rw [prefixK_eq_ppw]
  exact getD_closed fun c =>
    ppwChan.delKids_closes P st (c + 1) kids b key q r kids' st' (hs.notOwned fun _ => trivial) hkq nofun h hr c

theorem Wrote.closes_fresh {ex : Bool} {f : Node → List Nat → Option Nat} {fK : Kids → Nat → List Nat → Option Nat}
    (hf : Chan ex f fK) {x x' : Txn} {k' : List Nat} {rw : Option Nat} (hw : Wrote x k' x' rw) (hfr : TxnFresh x)
    (k : List Nat) (hkk : hasPrefix k' k = true) (hek : ex = true → k' = k) :
    (chR f x.root k).getD x.rootWatch = x.rootWatch ∨ (chR f x.root k).getD x.rootWatch ∈ x'.st.pending :=
  getD_closed fun c => hw.w.closes hf (B := c + 1) rfl (fun r hr => (hfr r hr).notOwned id) .of_stamps
    k hkk hek c

theorem txn_insert_closes_get (P : ArtParams) (x : Txn) (k : List Nat) (v : Nat) (m : Option (Nat → Nat → Nat))
    (hf : TxnFresh x) :
    (getRoot x.root x.rootWatch k).2 = x.rootWatch ∨
    (getRoot x.root x.rootWatch k).2 ∈ (x.insert P k v m).1.st.pending := by
  obtain ⟨_, hw, _⟩ := insert_wrote P x k v m
  rw [getRoot_eq_pwR]
  exact hw.closes_fresh pwChan hf k (hasPrefix_self k) fun _ => rfl

theorem txn_insert_closes_prefix (P : ArtParams) (x : Txn) (k : List Nat) (v : Nat) (m : Option (Nat → Nat → Nat))
    (q : List Nat) (hf : TxnFresh x) (hkq : hasPrefix k q = true) :
    (prefixRoot x.root x.rootWatch q).2 = x.rootWatch ∨
    (prefixRoot x.root x.rootWatch q).2 ∈ (x.insert P k v m).1.st.pending := by
  obtain ⟨_, hw, _⟩ := insert_wrote P x k v m
  rw [prefixRoot_eq_ppwR]
  exact hw.closes_fresh ppwChan hf q hkq nofun

theorem txn_delete_closes_get (P : ArtParams) (x : Txn) (k : List Nat) (hf : TxnFresh x)
    (h : (x.delete P k).2 ≠ none) :
    (getRoot x.root x.rootWatch k).2 = x.rootWatch ∨
    (getRoot x.root x.rootWatch k).2 ∈ (x.delete P k).1.st.pending := by
  rcases delete_wrote P x k with ⟨_, he⟩ | ⟨_, hw⟩
  · exact absurd he h
  · rw [getRoot_eq_pwR]
    exact hw.closes_fresh pwChan hf k (hasPrefix_self k) fun _ => rfl

theorem txn_delete_closes_prefix (P : ArtParams) (x : Txn) (k : List Nat) (q : List Nat) (hf : TxnFresh x)
    (hkq : hasPrefix k q = true) (h : (x.delete P k).2 ≠ none) :
    (prefixRoot x.root x.rootWatch q).2 = x.rootWatch ∨
    (prefixRoot x.root x.rootWatch q).2 ∈ (x.delete P k).1.st.pending := by
  rcases delete_wrote P x k with ⟨_, he⟩ | ⟨_, hw⟩
  · exact absurd he h
  · rw [prefixRoot_eq_ppwR]
    exact hw.closes_fresh ppwChan hf q hkq nofun

end Sdb.ArtW
