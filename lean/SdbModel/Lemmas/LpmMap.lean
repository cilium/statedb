import SdbModel.Lemmas.LpmDelete

/-! The LPM trie as a finite map: a trie run through any sequence of operations represents the function
    run through the same sequence (`runFrom_refines`). -/
namespace Sdb.Lpm
variable {α : Type}

theorem insert_root_ok (t : Trie α) (hwf : WF t) (d : List Nat) (p : Nat) (hq : Canon d p) (v : α) :
    InsertOk d p v t (lookupExact d p t 0) (insert d p v t 0) :=
  insert_ok d p v hq t 0 hwf (pre_zero _ _ _)

theorem lookup_root_ok (t : Trie α) (hwf : WF t) (d : List Nat) (p : Nat) (hq : Canon d p) :
    LookupOk d p t none (lookup d p t 0 none) (prefixNode d p t 0) :=
  lookup_ok d p hq t 0 hwf (pre_zero _ _ _) none

theorem lookupExact_insert (t : Trie α) (hwf : WF t) (d : List Nat) (p : Nat) (hq : Canon d p) (v : α)
    (d' : List Nat) (p' : Nat) (hq' : Canon d' p') :
    lookupExact d' p' (insert d p v t 0).1 0 = if (d', p') = (d, p) then some v else lookupExact d' p' t 0 := by
  apply Option.ext
  intro v'
  rw [lookupExact_root _ (insert_root_ok t hwf d p hq v).wf d' p' hq', (insert_root_ok t hwf d p hq v).mem]
  by_cases hk : (d', p') = (d, p)
  · obtain ⟨rfl, rfl⟩ := Prod.mk.inj hk
    rw [if_pos rfl, Option.some.injEq]
    exact ⟨fun h => h.elim (·.2.2.symm) (absurd ⟨rfl, rfl⟩ ·.1), fun h => Or.inl ⟨rfl, rfl, h.symm⟩⟩
  · have hk' : ¬(d' = d ∧ p' = p) := fun h => hk (Prod.ext h.1 h.2)
    rw [if_neg hk, lookupExact_root _ hwf d' p' hq']
    exact ⟨fun h => h.elim (fun h => absurd ⟨h.1, h.2.1⟩ hk') (·.2), fun h => Or.inr ⟨hk', h⟩⟩

theorem lookupExact_deleteRoot (t : Trie α) (hwf : WF t) (d : List Nat) (p : Nat) (hq : Canon d p)
    (t' : Trie α) (v : α) (h : deleteRoot d p t = some (t', v)) (d' : List Nat) (p' : Nat) (hq' : Canon d' p') :
    lookupExact d' p' t' 0 = if (d', p') = (d, p) then none else lookupExact d' p' t 0 := by
  apply Option.ext
  intro v'
  rw [lookupExact_root _ (deleteRoot_wf d p hq t hwf t' v h) d' p' hq', (deleteRoot_some d p hq t hwf t' v h).entries,
    mem_filter_neKey]
  by_cases hk : (d', p') = (d, p)
  · rw [if_pos hk]
    exact ⟨fun h => absurd (Prod.mk.inj hk) h.2, nofun⟩
  · rw [if_neg hk, lookupExact_root _ hwf d' p' hq']
    exact ⟨fun h => h.1, fun h => ⟨h, fun k => hk (Prod.ext k.1 k.2)⟩⟩

/-- the mutating operations of a write transaction -/
inductive Op (α : Type) where
  | ins (d : List Nat) (p : Nat) (v : α)
  | del (d : List Nat) (p : Nat)

/-- the key of the operation is an `EncodeLPMKey` result -/
def Op.Canonical : Op α → Prop
  | .ins d p _ => Canon d p
  | .del d p => Canon d p

/-- one operation on (root, size), as `Txn.Insert` / `Txn.Delete` do it -/
def step (st : Trie α × Nat) : Op α → Trie α × Nat
  | .ins d p v => ((insert d p v st.1 0).1, st.2 + (insert d p v st.1 0).2)
  | .del d p =>
    match deleteRoot d p st.1 with
    | some (t', _) => (t', st.2 - 1)
    | none => st

def runFrom (st : Trie α × Nat) (ops : List (Op α)) : Trie α × Nat := ops.foldl step st

/-- the reference: a partial function from keys to values -/
abbrev RefMap (α : Type) := List Nat × Nat → Option α

def refStep (m : RefMap α) : Op α → RefMap α
  | .ins d p v => fun k => if k = (d, p) then some v else m k
  | .del d p => fun k => if k = (d, p) then none else m k

def refRunFrom (m : RefMap α) (ops : List (Op α)) : RefMap α := ops.foldl refStep m

def Refines (st : Trie α × Nat) (m : RefMap α) : Prop :=
  WF st.1 ∧ st.2 = (preorder st.1).length ∧ ∀ d p, Canon d p → lookupExact d p st.1 0 = m (d, p)

theorem refines_empty : Refines ((.nil, 0) : Trie α × Nat) (fun _ => none) :=
  ⟨trivial, rfl, fun _ _ _ => rfl⟩

theorem step_refines (st : Trie α × Nat) (m : RefMap α) (h : Refines st m) (op : Op α) (hop : op.Canonical) :
    Refines (step st op) (refStep m op) := by
  obtain ⟨hwf, hsz, hm⟩ := h
  cases op with
  | ins d p v =>
    refine ⟨(insert_root_ok _ hwf d p hop v).wf, ?_, fun d' p' hq' => ?_⟩
    · simp only [step]
      rw [(insert_root_ok _ hwf d p hop v).length, hsz]
    · simp only [step, refStep]
      rw [lookupExact_insert _ hwf _ _ hop _ _ _ hq', hm d' p' hq']
  | del d p =>
    simp only [step]
    cases hd : deleteRoot d p st.1 with
    | none =>
      refine ⟨hwf, hsz, fun d' p' hq' => ?_⟩
      simp only [refStep]
      by_cases hk : (d', p') = (d, p)
      · rw [if_pos hk, ← (deleteRoot_none _ _ hop _ hwf).mp hd, (Prod.mk.inj hk).1, (Prod.mk.inj hk).2]
      · rw [if_neg hk, hm d' p' hq']
    | some r =>
      obtain ⟨t', v⟩ := r
      have hlen := (deleteRoot_some d p hop _ hwf t' v hd).length
      refine ⟨deleteRoot_wf d p hop _ hwf t' v hd, by simp only; omega, fun d' p' hq' => ?_⟩
      simp only [refStep]
      rw [lookupExact_deleteRoot _ hwf _ _ hop t' v hd _ _ hq', hm d' p' hq']

theorem runFrom_refines (ops : List (Op α)) : ∀ (st : Trie α × Nat) (m : RefMap α), Refines st m →
    (∀ op ∈ ops, op.Canonical) → Refines (runFrom st ops) (refRunFrom m ops) := by
  induction ops with
  | nil => intro st m h _; exact h
  | cons op ops ih =>
    intro st m h hc
    exact ih (step st op) (refStep m op) (step_refines st m h op (hc op (by simp)))
      (fun o ho => hc o (by simp [ho]))

end Sdb.Lpm
