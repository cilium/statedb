import SdbModel.Lemmas.ReconcilerRound

/-!
  The writes that land while an Update runs (`R.applyInject`, folded over the injects queued
  for the object).  They touch the table only, so they commute with the reconciler's own
  bookkeeping: `processSingle` is "bookkeeping first, then the writes land".
-/
namespace Sdb.Rec

/-- all the writes `acts` land, in order -/
def R.landAll (r : R) (acts : List (Nat × Inject)) : R := acts.foldl (fun (r : R) (a : Nat × Inject) => r.applyInject a.2) r

@[simp] theorem landAll_nil (r : R) : r.landAll [] = r := rfl
@[simp] theorem landAll_cons (r : R) (a : Nat × Inject) (as : List (Nat × Inject)) :
    r.landAll (a :: as) = (r.applyInject a.2).landAll as := rfl

theorem landAll_append (r : R) (l1 l2 : List (Nat × Inject)) : r.landAll (l1 ++ l2) = (r.landAll l1).landAll l2 :=
  List.foldl_append ..

/-- no foreign status write in `acts` lands on an object that is in Error state
    at that moment (known finding K4: such a write loses the retry) -/
def InjSafe (r : R) : List (Nat × Inject) → Prop
  | [] => True
  | a :: as => (∀ id, a.2 = .touch id → ∀ o, r.get id = some o → o.kind ≠ .error) ∧ InjSafe (r.applyInject a.2) as

/-- what a landing write leaves alone -/
structure FrameW (r r' : R) : Prop where
  items : r'.items = r.items
  timer : r'.timer = r.timer
  log : r'.log = r.log
  itRev : r'.itRev = r.itRev
  itDelRev : r'.itDelRev = r.itDelRev
  refreshedAt : r'.refreshedAt = r.refreshedAt
  pending : r'.pending = r.pending
  cfg : r'.cfg = r.cfg
  now : r'.now = r.now
  failing : r'.failing = r.failing
  injects : r'.injects = r.injects
  results : r'.results = r.results
  numReconciled : r'.numReconciled = r.numReconciled
  tieSeen : r'.tieSeen = r.tieSeen
  progressRev : r'.progressRev = r.progressRev
  progressLW : r'.progressLW = r.progressLW

theorem FrameW.refl (r : R) : FrameW r r := by constructor <;> rfl

theorem FrameW.trans {a b c : R} (h1 : FrameW a b) (h2 : FrameW b c) : FrameW a c := by
  constructor
  · exact h2.items.trans h1.items
  · exact h2.timer.trans h1.timer
  · exact h2.log.trans h1.log
  · exact h2.itRev.trans h1.itRev
  · exact h2.itDelRev.trans h1.itDelRev
  · exact h2.refreshedAt.trans h1.refreshedAt
  · exact h2.pending.trans h1.pending
  · exact h2.cfg.trans h1.cfg
  · exact h2.now.trans h1.now
  · exact h2.failing.trans h1.failing
  · exact h2.injects.trans h1.injects
  · exact h2.results.trans h1.results
  · exact h2.numReconciled.trans h1.numReconciled
  · exact h2.tieSeen.trans h1.tieSeen
  · exact h2.progressRev.trans h1.progressRev
  · exact h2.progressLW.trans h1.progressLW

theorem frameW_applyInject (r : R) (a : Inject) : FrameW r (r.applyInject a) := by
  cases a with
  | put id data => constructor <;> rfl
  | del id => simp only [R.applyInject, R.delObj]; split <;> constructor <;> rfl
  | touch id => simp only [R.applyInject, R.touch]; split <;> constructor <;> rfl

theorem frameW_delObj (r : R) (id : Nat) : FrameW r (r.delObj id) := frameW_applyInject r (.del id)

theorem frameW_touch (r : R) (id : Nat) : FrameW r (r.touch id) := frameW_applyInject r (.touch id)

theorem frameW_landAll (acts : List (Nat × Inject)) (r : R) : FrameW r (r.landAll acts) := by
  induction acts generalizing r with
  | nil => exact FrameW.refl r
  | cons a as ih => exact (frameW_applyInject r a.2).trans (ih _)

/-- the table only grows: whatever is new was written after `r.tableRev` -/
structure Grow (r r' : R) : Prop where
  tableRev : r.tableRev ≤ r'.tableRev
  nextSid : r.nextSid ≤ r'.nextSid
  objs : ∀ o ∈ r'.objs, o ∈ r.objs ∨ o.rev > r.tableRev
  dels : ∀ d ∈ r'.dels, d ∈ r.dels ∨ d.2 > r.tableRev

theorem Grow.refl (r : R) : Grow r r := ⟨Nat.le_refl _, Nat.le_refl _, fun _ h => Or.inl h, fun _ h => Or.inl h⟩

theorem Grow.of_eq {r r' : R} (h1 : r'.objs = r.objs) (h2 : r'.dels = r.dels) (h3 : r'.tableRev = r.tableRev)
    (h4 : r'.nextSid = r.nextSid) : Grow r r' :=
  ⟨by omega, by omega, fun o ho => Or.inl (h1 ▸ ho), fun d hd => Or.inl (h2 ▸ hd)⟩

theorem Grow.trans {a b c : R} (h1 : Grow a b) (h2 : Grow b c) : Grow a c := by
  refine ⟨Nat.le_trans h1.tableRev h2.tableRev, Nat.le_trans h1.nextSid h2.nextSid, fun o ho => ?_, fun d hd => ?_⟩
  · rcases h2.objs o ho with a | a
    · exact h1.objs o a
    · exact Or.inr (by have := h1.tableRev; omega)
  · rcases h2.dels d hd with a | a
    · exact h1.dels d a
    · exact Or.inr (by have := h1.tableRev; omega)

theorem grow_setObj (r : R) (o : RObj) (n : Nat) (hn : r.nextSid ≤ n) : Grow r { (r.setObj o) with nextSid := n } := by
  refine ⟨by simp, hn, fun x hx => ?_, fun d hd => ?_⟩
  · rcases (mem_setObj_objs r o x).1 hx with ⟨hx, _⟩ | rfl
    · exact Or.inl hx
    · exact Or.inr (by simp)
  · exact Or.inl (List.mem_filter.1 hd).1

theorem grow_applyInject (r : R) (a : Inject) : Grow r (r.applyInject a) := by
  cases a with
  | put id data =>
    obtain ⟨other, he⟩ := userPut_eq r id data
    show Grow r (r.userPut id data)
    rw [he]; exact grow_setObj r _ _ (Nat.le_succ _)
  | del id =>
    show Grow r (r.delObj id)
    cases hg : r.get id with
    | none => rw [delObj_of_none hg]; exact Grow.refl r
    | some o =>
      rw [delObj_of_get hg]
      refine ⟨by simp, Nat.le_refl _, fun x hx => Or.inl (List.mem_filter.1 hx).1, fun d hd => ?_⟩
      rcases List.mem_append.1 hd with hd | hd
      · exact Or.inl hd
      · simp only [List.mem_singleton] at hd
        rw [hd]; exact Or.inr (by simp)
  | touch id =>
    show Grow r (r.touch id)
    cases hg : r.get id with
    | none => rw [touch_of_none hg]; exact Grow.refl r
    | some o => rw [touch_of_get hg]; exact grow_setObj r _ _ (Nat.le_refl _)

theorem grow_landAll (acts : List (Nat × Inject)) (r : R) : Grow r (r.landAll acts) := by
  induction acts generalizing r with
  | nil => exact Grow.refl r
  | cons a as ih => exact (grow_applyInject r a.2).trans (ih _)

theorem JInv.applyInject {r : R} {rs : List Res} (h : JInv r rs) (a : Inject)
    (hs : ∀ id, a = .touch id → ∀ o, r.get id = some o → o.kind ≠ .error) : JInv (r.applyInject a) rs := by
  cases a with
  | put id data => exact h.userPut id data
  | del id => exact h.delObj id
  | touch id => exact h.touch id (hs id rfl)

theorem JInv.landAll (acts : List (Nat × Inject)) {r : R} {rs : List Res} (h : JInv r rs) (hs : InjSafe r acts) :
    JInv (r.landAll acts) rs := by
  induction acts generalizing r with
  | nil => exact h
  | cons a as ih => exact ih (h.applyInject a.2 hs.1) hs.2

/-- the state `b` with the table (objects, graveyard, revision, next status id) of `t` -/
def R.tbl (t b : R) : R := { b with objs := t.objs, tableRev := t.tableRev, dels := t.dels, nextSid := t.nextSid }

theorem tbl_self (r : R) : R.tbl r r = r := rfl

theorem tbl_get (t b : R) (id : Nat) : (R.tbl t b).get id = t.get id := rfl

theorem tbl_applyInject (t b : R) (a : Inject) : (R.tbl t b).applyInject a = R.tbl (t.applyInject a) b := by
  cases a with
  | put id data => rfl
  | del id =>
    show (R.tbl t b).delObj id = R.tbl (t.delObj id) b
    cases hg : t.get id with
    | none =>
      have hg' : (R.tbl t b).get id = none := hg
      rw [delObj_of_none hg, delObj_of_none hg']
    | some o =>
      have hg' : (R.tbl t b).get id = some o := hg
      rw [delObj_of_get hg, delObj_of_get hg']
      rfl
  | touch id =>
    show (R.tbl t b).touch id = R.tbl (t.touch id) b
    cases hg : t.get id with
    | none => rw [touch_of_none hg, touch_of_none ((tbl_get t b id).trans hg)]
    | some o => rw [touch_of_get hg, touch_of_get ((tbl_get t b id).trans hg)]; rfl

theorem tbl_landAll (acts : List (Nat × Inject)) (t b : R) : (R.tbl t b).landAll acts = R.tbl (t.landAll acts) b := by
  induction acts generalizing t with
  | nil => rfl
  | cons a as ih => rw [landAll_cons, tbl_applyInject, ih, landAll_cons]

theorem tbl_retryClear (t b : R) (id : Nat) : (R.tbl t b).retryClear id = R.tbl t (b.retryClear id) := by
  unfold R.retryClear
  show (match b.items.find? (·.id = id) with | none => R.tbl t b | some it => _) = _
  cases b.items.find? (·.id = id) with
  | none => rfl
  | some it => rfl

theorem injSafe_tbl (acts : List (Nat × Inject)) (t b : R) : InjSafe (R.tbl t b) acts ↔ InjSafe t acts := by
  induction acts generalizing t with
  | nil => exact Iff.rfl
  | cons a as ih =>
    unfold InjSafe
    rw [tbl_applyInject, ih]
    exact Iff.rfl

theorem eq_tbl {r b : R} (h1 : b.objs = r.objs) (h2 : b.tableRev = r.tableRev) (h3 : b.dels = r.dels)
    (h4 : b.nextSid = r.nextSid) : b = R.tbl r b := by
  cases b; simp only [R.tbl] at *; simp [h1, h2, h3, h4]

theorem landAll_of_tbl (r b : R) (h1 : b.objs = r.objs) (h2 : b.tableRev = r.tableRev) (h3 : b.dels = r.dels)
    (h4 : b.nextSid = r.nextSid) (acts : List (Nat × Inject)) : b.landAll acts = R.tbl (r.landAll acts) b := by
  rw [eq_tbl h1 h2 h3 h4, tbl_landAll]
  rfl

theorem injSafe_of_tbl (r b : R) (h1 : b.objs = r.objs) (h2 : b.tableRev = r.tableRev) (h3 : b.dels = r.dels)
    (h4 : b.nextSid = r.nextSid) (acts : List (Nat × Inject)) : InjSafe b acts ↔ InjSafe r acts := by
  rw [eq_tbl h1 h2 h3 h4, injSafe_tbl]

theorem processSingle_update_raw (r : R) (obj : RObj) (rev : Nat) :
    r.processSingle obj rev false =
      (let r0 : R := { r with log := r.log ++ [({ op := "U", id := obj.id, data := obj.data, ok := !r.isFailing obj.id } : Call)],
                              injects := r.injects.filter (fun (a : Nat × Inject) => a.1 ≠ obj.id) }
       let L := r0.landAll (r.injects.filter (fun (a : Nat × Inject) => a.1 = obj.id))
       let r2 : R := { L with results := L.results ++ [(obj, obj, rev, obj.sid, r.isFailing obj.id)] }
       if r.isFailing obj.id then r2 else r2.retryClear obj.id) := by
  unfold R.processSingle
  simp only [Bool.false_eq_true, if_false]
  rfl

theorem land_bookkeeping (r0 : R) (acts : List (Nat × Inject)) (x : Res) (id : Nat) (f : Bool) :
    (if f then ({ r0.landAll acts with results := (r0.landAll acts).results ++ [x] } : R)
      else R.retryClear { r0.landAll acts with results := (r0.landAll acts).results ++ [x] } id) =
    (if f then ({ r0 with results := r0.results ++ [x] } : R)
      else R.retryClear { r0 with results := r0.results ++ [x] } id).landAll acts := by
  have e0 := landAll_of_tbl r0 r0 rfl rfl rfl rfl acts
  cases f with
  | true =>
    simp only [if_true]
    rw [landAll_of_tbl r0 { r0 with results := r0.results ++ [x] } rfl rfl rfl rfl acts]
    conv => lhs; rw [e0]
    rfl
  | false =>
    simp only [Bool.false_eq_true, if_false]
    rw [landAll_of_tbl r0 (R.retryClear { r0 with results := r0.results ++ [x] } id) (by simp) (by simp) (by simp) (by simp) acts,
      ← tbl_retryClear]
    conv => lhs; rw [e0]
    rfl

theorem processSingle_update_land (r : R) (obj : RObj) (rev : Nat) :
    r.processSingle obj rev false = (r.preUpdate obj rev).landAll (r.injects.filter (fun (a : Nat × Inject) => a.1 = obj.id)) := by
  rw [processSingle_update_raw]
  exact land_bookkeeping _ _ _ _ _

/-! The progress revision is moved by the end of a round only. -/

theorem processSingle_progressRev (r : R) (obj : RObj) (rev : Nat) (del : Bool) :
    (r.processSingle obj rev del).progressRev = r.progressRev := by
  cases del
  · rw [processSingle_update_land, (frameW_landAll _ _).progressRev, (preUpdate_facts r obj rev).progressRev]
  · have ⟨_, d⟩ := processSingle_delete_spec r obj rev
    exact d.progressRev

theorem processRetries_progressRev (r : R) (fuel : Nat) : (r.processRetries fuel).progressRev = r.progressRev :=
  processRetries_inv (P := fun x => x.progressRev = r.progressRev)
    (fun x _ hx _ _ _ => (processSingle_progressRev ..).trans ((retryPop_progressRev x).trans hx)) fuel r rfl

theorem procD_progressRev (r : R) (c : Change) : (procD r c).progressRev = r.progressRev := by
  show ((R.retryClear { r with itDelRev := c.rev } c.obj.id).processSingle c.obj c.rev true).progressRev = r.progressRev
  rw [processSingle_progressRev, retryClear_progressRev]

theorem procU_progressRev (r : R) (c : Change) : (procU r c).progressRev = r.progressRev := by
  show ((R.retryClear { r with itRev := c.rev } c.obj.id).processSingle c.obj c.rev false).progressRev = r.progressRev
  rw [processSingle_progressRev, retryClear_progressRev]

theorem consume_progressRev (cs : List Change) (r : R) (last : Nat) : (r.consume cs last).1.progressRev = r.progressRev :=
  consume_inv (P := fun x _ _ => x.progressRev = r.progressRev) (fun _ _ _ _ h _ _ => h)
    (fun x c _ _ h _ => (procD_progressRev x c).trans h) (fun x c _ _ h _ _ => (procU_progressRev x c).trans h) cs r last rfl

theorem round3_progressRev (r : R) : (round3 r).progressRev = r.progressRev := by
  refine (consume_progressRev ..).trans ?_
  rcases nextChanges_fst r with e | e <;> rw [e]

theorem roundTail_progressRev (r3 : R) (last : Nat) : (roundTail r3 last).progressRev = max last r3.progressRev := by
  have e : (r3.commitStatus.processRetries (r3.commitStatus.items.length + 1)).commitStatus.progressRev = r3.progressRev :=
    (commitStatus_progressRev _).trans ((processRetries_progressRev ..).trans (commitStatus_progressRev r3))
  show (if last > _ then last else _) = _
  rw [e]
  split <;> omega

theorem round_progressRev_max (r : R) : r.round.progressRev = max (roundLast r) r.progressRev := by
  rw [round_eq3, roundTail_progressRev, round3_progressRev]

end Sdb.Rec
