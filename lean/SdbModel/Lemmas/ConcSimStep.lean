import SdbModel.Lemmas.ConcSimRel

/-!
  Every micro step of `Model.Conc` is matched by zero or one step of `Model.Serial`, preserving the
  abstraction relation `R`; and its effect on the shared state is one of five kinds (`Effect`).
-/
namespace Sdb.Conc
open Sdb.Serial (Txn Phase setTxn)

/-- what a micro step of thread `tid` (record `th` before, `th'` after) does to
    the committed root and the table mutexes -/
inductive Effect (st st' : State) (tid : Nat) (th th' : Thread) : Prop where
  | quiet (root : st'.root = st.root) (owner : st'.lockOwner = st.lockOwner)
  | acquire (tb : Nat) (root : st'.root = st.root) (free : st.lockOwner.getD tb none = none)
      (owner : st'.lockOwner = st.lockOwner.set tb (some tid))
  | release (tb : Nat) (root : st'.root = st.root) (own : st.lockOwner.getD tb none = some tid)
      (owner : st'.lockOwner = st.lockOwner.set tb none)
  | commit (owner : st'.lockOwner = st.lockOwner) (len : st'.root.length = st.root.length)
      (ahead : Micro.act .storeRoot ∈ th.prog) (gone : Micro.act .storeRoot ∉ th'.prog)
      (tables : ∀ x, x < st.root.length →
        (x ∈ th.tables → st.lockOwner.getD x none = some tid ∧ (getT st'.root x).cnt = (getT st.root x).cnt + 1) ∧
        (x ∉ th.tables → getT st'.root x = getT st.root x))
  | register (owner : st'.lockOwner = st.lockOwner) (noTables : th.tables = [])
      (ahead : Micro.act .storeRoot ∈ th.prog) (gone : Micro.act .storeRoot ∉ th'.prog)
      (grown : ∃ v : TableV, st'.root = st.root ++ [v] ∧ v.cnt = 0)

structure StepOK (s : Serial.State) (st st' : State) (tid : Nat) (th th' : Thread) : Prop where
  sim : ∃ s', Serial.Reachable s' ∧ s'.txns.map (·.commit) = s.txns.map (·.commit) ∧ R (install st' tid th') s'
  eff : Effect st st' tid th th'
  /-- needed by `Local` at `.rel` and by the runs of `ConcSim` -/
  done : th'.done = true → th'.prog = []

theorem map_commit_setTxn (l : List Txn) (i : Nat) (t t' : Txn) (h : l[i]? = some t) (hc : t'.commit = t.commit) :
    (setTxn l i t').map (·.commit) = l.map (·.commit) := by
  unfold setTxn
  rw [List.map_set]
  apply LB.set_self
  rw [List.getElem?_map, h, hc]; rfl

theorem mem_strip (m : Micro) (l : List Micro) (h : relevant m = true) : m ∈ strip l ↔ m ∈ l :=
  mem_stripBy relevantAct m l h

/-- the root mutex may pass only between "free" and "held by `tid`"; then only the stepping thread's own
    `TRel` remains to be shown -/
theorem stepOK_quiet {st st' : State} {s : Serial.State} {tid : Nat} {th th' : Thread} {t : Txn} (t' : Txn)
    (hs : Serial.Reachable s) (hR : R (install st tid th) s) (htid : tid < st.threads.length)
    (ht : s.txns[tid]? = some t)
    (hroot : st'.root = st.root) (hown : st'.lockOwner = st.lockOwner) (hthr : st'.threads = st.threads)
    (hmu : ∀ j, j ≠ tid → (st'.rootMu = some j ↔ st.rootMu = some j))
    (hstep : t' = t ∨ Serial.Step s { s with txns := setTxn s.txns tid t' }) (hc : t'.commit = t.commit)
    (hT : TRel st.root st'.rootMu st.lockOwner.length tid th' t') (hdone : th'.done = true → th'.prog = []) :
    StepOK s st st' tid th th' := by
  have hR' : ∀ s' : Serial.State, s'.txns = setTxn s.txns tid t' → s'.root = s.root → s'.owner = s.owner →
      R (install st' tid th') s' := fun s' h1 h2 h3 =>
    R_update st st' s s' tid th th' t t' hR htid hthr ht h1 (by rw [hroot, h2]; exact hR.root)
      (by rw [hroot, h2]; exact hR.rootHi) (by rw [hown, h3]; exact hR.owner) (by rw [hown])
      (by rw [hroot]; exact Nat.le_refl _) hmu (Or.inl hroot) (by rw [hroot, hown]; exact hT)
  refine ⟨?_, .quiet hroot hown, hdone⟩
  rcases hstep with rfl | hstep
  · exact ⟨s, hs, rfl, hR' s (LB.set_self ht).symm rfl rfl⟩
  · exact ⟨_, .step _ _ hs hstep, map_commit_setTxn _ _ _ _ ht hc, hR' _ rfl rfl rfl⟩

theorem mu_others (tid : Nat) (mu mu' : Option Nat) (h : mu = none ∨ mu = some tid)
    (h' : mu' = none ∨ mu' = some tid) : ∀ j, j ≠ tid → (mu' = some j ↔ mu = some j) := by
  intro j hj
  have : ¬ tid = j := fun e => hj e.symm
  rcases h with rfl | rfl <;> rcases h' with rfl | rfl <;> simp [this]

theorem owner_set {st : State} {s : Serial.State} (ho : ∀ i, st.lockOwner.getD i none = s.owner i) {tb : Nat}
    (htb : tb < st.lockOwner.length) (v : Option Nat) (i : Nat) :
    (st.lockOwner.set tb v).getD i none = if i = tb then v else s.owner i := by
  rw [getD_set_opt]
  by_cases hi : i = tb
  · simp [hi, htb]
  · simp only [hi, false_and, if_false]; exact ho i

theorem mem_locked_of (th : Thread) (hlk : th.locked = dedup th.tables) (x : Nat) :
    x ∈ th.locked ↔ x ∈ lockList th := by
  rw [hlk, mem_dedup, mem_lockList]

theorem getT_map_range (n : Nat) (f : Nat → TableV) (x : Nat) (hx : x < n) :
    getT ((List.range n).map f) x = f x := by
  simp [getT, hx]

theorem getT_mapIdx (l : List TableV) (f : Nat → TableV → TableV) (x : Nat) (hx : x < l.length) :
    getT (l.mapIdx f) x = f x (getT l x) := by
  simp [getT, hx]

theorem getT_append_left (l : List TableV) (v : TableV) (x : Nat) (hx : x < l.length) :
    getT (l ++ [v]) x = getT l x := by
  simp [getT, List.getElem?_append_left hx]

theorem getT_append_length (l : List TableV) (v : TableV) : getT (l ++ [v]) l.length = v := by
  simp [getT]

def mergedRoot (th : Thread) : List TableV :=
  (List.range th.curRoot.length).map fun i =>
    if th.locked.contains i ∧ i < th.entries.length then getT th.entries i else getT th.curRoot i

def collected (th : Thread) : List Nat :=
  th.locked.filterMap fun i =>
    let e := getT th.newRoot i
    if e.initWatch ≠ 0 ∧ !e.initPending then some e.initWatch else none

def clearedRoot (th : Thread) : List TableV :=
  th.newRoot.mapIdx fun i e =>
    if th.locked.contains i ∧ e.initWatch ≠ 0 ∧ !e.initPending then { e with initWatch := 0 } else e

theorem doAct_mergeUnlocked (st : State) (th : Thread) :
    doAct st th .mergeUnlocked = (st, { th with newRoot := mergedRoot th }) := rfl

theorem doAct_collectInit (st : State) (th : Thread) :
    doAct st th .collectInit = (st, { th with initToClose := collected th, newRoot := clearedRoot th }) := rfl

theorem mergedRoot_spec (th : Thread) (hlk : th.locked = dedup th.tables)
    (hent : ∀ x ∈ lockList th, x < th.entries.length) :
    (mergedRoot th).length = th.curRoot.length ∧ ∀ x, x < th.curRoot.length →
      (x ∈ lockList th → getT (mergedRoot th) x = getT th.entries x) ∧
      (x ∉ lockList th → getT (mergedRoot th) x = getT th.curRoot x) := by
  refine ⟨by simp [mergedRoot], fun x hx => ?_⟩
  unfold mergedRoot
  rw [getT_map_range _ _ x hx]
  refine ⟨fun hxl => ?_, fun hxl => ?_⟩
  · have h1 : x ∈ th.locked := (mem_locked_of th hlk x).2 hxl
    simp [h1, hent x hxl]
  · have h1 : x ∉ th.locked := mt (mem_locked_of th hlk x).1 hxl
    simp [h1]

theorem local_merge {st : State} {root : List TableV} {th : Thread} {t : Txn} (hl : Local root th t .mg) :
    Local root (doAct st th .mergeUnlocked).2 t .ci := by
  obtain ⟨hph, hold, hc, hlk, hho, rfl⟩ := hl
  obtain ⟨mlen, mget⟩ := mergedRoot_spec th hlk fun x hx => (hho x hx).1
  refine ⟨hph, hold, hc, hlk, mlen, fun x hx => ⟨fun hxl => ?_, (mget x hx).2⟩⟩
  show (getT (mergedRoot th) x).cnt = _
  rw [(mget x hx).1 hxl]
  exact (hho x hxl).2

theorem local_collect {st : State} {root : List TableV} {th : Thread} {t : Txn} (hl : Local root th t .ci) :
    Local root (doAct st th .collectInit).2 t .sr := by
  obtain ⟨hph, hold, hc, hlk, hlen, hnr⟩ := hl
  refine ⟨hph, hold, hc, hlk, by simp [doAct, hlen], fun x hx => ?_⟩
  show (x ∈ lockList th → (getT (th.newRoot.mapIdx _) x).cnt = _) ∧
    (x ∉ lockList th → getT (th.newRoot.mapIdx _) x = _)
  rw [getT_mapIdx _ _ x (by rw [hlen]; exact hx)]
  obtain ⟨g1, g2⟩ := hnr x hx
  refine ⟨fun hxl => ?_, fun hxl => by simp [mt (mem_locked_of th hlk x).1 hxl, g2 hxl]⟩
  split <;> exact g1 hxl

section
variable {st : State} {tid : Nat} {th : Thread} {s : Serial.State} {t : Txn} {rest : List Micro}
  (hs : Serial.Reachable s) (hR : R (install st tid th) s) (htid : tid < st.threads.length)
  (hd : th.done = false) (ht : s.txns[tid]? = some t) (htabs : t.tabs = lockList th)
  (hb : ∀ x ∈ lockList th, x < st.root.length ∧ x < st.lockOwner.length)
include hs hR htid hd ht htabs hb

theorem sim_acquire {k tb : Nat} (hk : (lockList th)[k]? = some tb)
    (hstrip : strip rest = code (lockList th) t.commit (.acq (k + 1)))
    (hcs : st.rootMu = some tid ↔ inCS (.acq k) = true) (hl : Local st.root th t (.acq k))
    (hfree : st.lockOwner.getD tb none = none) :
    StepOK s st { st with lockOwner := st.lockOwner.set tb (some tid) } tid th { th with prog := rest } := by
  refine ⟨⟨_, .step _ _ hs (Serial.Step.acquire s tid t k tb ht hl.1 (by rw [htabs]; exact hk)
      (by rw [← hR.owner tb]; exact hfree)), map_commit_setTxn _ _ _ _ ht rfl, ?_⟩,
    .acquire tb rfl hfree rfl, fun hd' => by simp [hd] at hd'⟩
  refine R_update st _ s _ tid th _ t _ hR htid rfl ht rfl hR.root hR.rootHi
    (owner_set hR.owner (hb tb (List.mem_of_getElem? hk)).2 _) (by simp) (Nat.le_refl _) (fun _ _ => Iff.rfl) (Or.inl rfl) ?_
  exact .at (.acq (k + 1)) htabs (fun x hx => ⟨(hb x hx).1, by simpa using (hb x hx).2⟩) hstrip hcs
    ⟨rfl, LB.lt_of_getElem? hk⟩

theorem sim_release {k tb : Nat} (hk : (lockList th)[k]? = some tb)
    (hstrip : strip rest = code (lockList th) t.commit (.rel (k + 1)))
    (hcs : st.rootMu = some tid ↔ inCS (.rel k) = true) (hl : Local st.root th t (.rel k)) :
    StepOK s st { st with lockOwner := st.lockOwner.set tb none } tid th { th with prog := rest } := by
  obtain ⟨_, hrel, hph, _⟩ := hl
  simp only [hd, Bool.false_eq_true, if_false] at hph
  have hk' : t.tabs[t.released]? = some tb := by rw [htabs, hrel]; exact hk
  have ho : s.owner tb = some tid := (Serial.inv_reachable s hs).heldOwner tid t tb ht (by
    rw [Serial.held_stored hph, LB.mem_drop_iff hk']; exact Or.inl rfl)
  refine ⟨⟨_, .step _ _ hs (Serial.Step.release s tid t tb ht hph hk'), map_commit_setTxn _ _ _ _ ht rfl, ?_⟩,
    .release tb rfl (by rw [← ho]; exact hR.owner tb) rfl, fun hd' => by simp [hd] at hd'⟩
  refine R_update st _ s _ tid th _ t _ hR htid rfl ht rfl hR.root hR.rootHi
    (owner_set hR.owner (hb tb (List.mem_of_getElem? hk)).2 _) (by simp) (Nat.le_refl _) (fun _ _ => Iff.rfl) (Or.inl rfl) ?_
  refine .at (.rel (k + 1)) htabs (fun x hx => ⟨(hb x hx).1, by simpa using (hb x hx).2⟩) hstrip hcs
    ⟨LB.lt_of_getElem? hk, congrArg (· + 1) hrel, ?_, fun hd' => by simp [hd] at hd'⟩
  show t.phase = if th.done = true then Phase.done else Phase.stored
  rw [hd]; exact hph

theorem sim_rootMu {p' : Pos} {mu' : Option Nat} (hstrip : strip rest = code (lockList th) t.commit p')
    (hmu : st.rootMu = none ∨ st.rootMu = some tid) (hmu' : mu' = none ∨ mu' = some tid)
    (hcs' : mu' = some tid ↔ inCS p' = true) (hl' : Local st.root { th with prog := rest } t p') :
    StepOK s st { st with rootMu := mu' } tid th { th with prog := rest } :=
  stepOK_quiet t hs hR htid ht rfl rfl rfl (mu_others tid _ _ hmu hmu') (.inl rfl) rfl
    (.at p' htabs hb hstrip hcs' hl') (fun hd' => by simp [hd] at hd')

/-! ### the user's writes (and, for an aborting writer, the abort point) -/

theorem sim_userWrites {st' : State} {th' : Thread}
    (hstrip : strip rest = code (lockList th) t.commit (afterWrites t.commit))
    (hcs : st.rootMu = some tid ↔ inCS .uw = true) (hl : Local st.root th t .uw)
    (h : doUserWrites st { th with prog := rest } = (st', th')) : StepOK s st st' tid th th' := by
  obtain ⟨hph, hold, hlk, hho⟩ := hl
  obtain ⟨⟨f, hf⟩, _, hrec⟩ := doUserWrites_full st { th with prog := rest } (by show th.locked.Nodup; rw [hlk]; exact nodup_dedup _)
  rw [h] at hf hrec
  simp only at hrec
  have eprog : th'.prog = rest := by rw [hrec]
  have etables : th'.tables = th.tables := by rw [hrec]
  have elocked : th'.locked = th.locked := by rw [hrec]
  have eold : th'.oldRoot = th.oldRoot := by rw [hrec]
  have edone : th'.done = th.done := by rw [hrec]
  have hL := lockList_congr th th' etables
  have hdn : th'.done = true → th'.prog = [] := fun hd' => by rw [edone, hd] at hd'; simp at hd'
  have hholds : Holds (lockList th) th'.entries t.old 1 := fun x hx => by
    obtain ⟨hx1, hx2⟩ := hho x hx
    refine ⟨by rw [hf.len]; exact hx1, ?_⟩
    rw [hf.entry x ((mem_locked_of th hlk x).2 hx) hx1]
    exact congrArg (· + 1) hx2
  have hcs' : ∀ p, inCS p = false → (st'.rootMu = some tid ↔ inCS p = true) := fun p hp => by
    rw [hf.rootMu, hcs, hp]; simp [inCS]
  have quiet := fun t' => stepOK_quiet (th' := th') t' hs hR htid ht hf.root hf.lockOwner hf.threads
    (fun _ _ => by rw [hf.rootMu])
  cases hc : t.commit with
  | true =>
    rw [hc] at hstrip
    refine quiet t (.inl rfl) rfl (.at .aR (by rw [hL]; exact htabs) (by rw [hL]; exact hb) ?_ (hcs' _ rfl) ?_) hdn
    · rw [hL, eprog, hc]; exact hstrip
    · exact ⟨hph, by rw [hL, eold]; exact hold, hc, by rw [elocked, etables]; exact hlk, by rw [hL]; exact hholds⟩
  | false =>
    rw [hc] at hstrip
    refine quiet _ (.inr (Serial.Step.abort s tid t ht hph hc)) rfl
      (.at (.rel 0) (by rw [hL]; exact htabs) (by rw [hL]; exact hb) ?_ (hcs' _ rfl) ?_) hdn
    · rw [hL, eprog]; simp only [hc]; exact hstrip
    · refine ⟨Nat.zero_le _, (Serial.inv_reachable s hs).rel0 tid t ht (Or.inl hph), ?_, hdn⟩
      rw [edone, hd]; rfl

/-- the commit point of a writer -/
theorem sim_storeRoot (hprog : th.prog = .act .storeRoot :: rest)
    (hstrip : strip rest = code (lockList th) t.commit .rR)
    (hcs : st.rootMu = some tid ↔ inCS .sr = true) (hl : Local st.root th t .sr) :
    StepOK s st { st with root := th.newRoot, nextChan := st.nextChan + 1 } tid th { th with prog := rest } := by
  obtain ⟨hph, hold, hc, hlk, hlen, hnr⟩ := hl
  have inv := Serial.inv_reachable s hs
  refine ⟨⟨_, .step _ _ hs (Serial.Step.store s tid t ht hph hc),
      map_commit_setTxn _ _ _ _ ht rfl, ?_⟩, ?_, fun hd' => by simp [hd] at hd'⟩
  · refine R_update st _ s _ tid th _ t _ hR htid rfl ht rfl ?_ ?_ hR.owner rfl (by simp [hlen])
      (fun _ _ => Iff.rfl) (Or.inr (hcs.2 rfl)) ?_
    · intro i hi
      show (getT th.newRoot i).cnt = if i ∈ t.tabs then t.old i + 1 else s.root i
      have hi' : i < st.root.length := by rw [← hlen]; exact hi
      rw [htabs]
      by_cases hil : i ∈ lockList th
      · rw [if_pos hil]; exact (hnr i hi').1 hil
      · rw [if_neg hil, (hnr i hi').2 hil]; exact hR.root i hi'
    · intro i hi
      show (if i ∈ t.tabs then t.old i + 1 else s.root i) = 0
      have hi' : st.root.length ≤ i := by rw [← hlen]; exact hi
      rw [if_neg (by rw [htabs]; exact fun hm => Nat.not_le_of_lt (hb i hm).1 hi')]
      exact hR.rootHi i hi'
    · exact .at .rR htabs (fun x hx => ⟨by show x < th.newRoot.length; rw [hlen]; exact (hb x hx).1, (hb x hx).2⟩)
        hstrip hcs ⟨rfl, inv.rel0 tid t ht (Or.inl hph), hc⟩
  · refine .commit rfl hlen (by rw [hprog]; simp) ?_ fun x hx => ⟨fun hxt => ?_, fun hxt => ?_⟩
    · show Micro.act Act.storeRoot ∉ rest
      rw [← mem_strip _ _ (by rfl), hstrip]; simp [code]
    · have hxl : x ∈ lockList th := (mem_lockList th x).2 hxt
      have ho := inv.heldOwner tid t x ht (by rw [Serial.held_loaded hph, htabs]; exact hxl)
      refine ⟨by rw [← ho]; exact hR.owner x, ?_⟩
      show (getT th.newRoot x).cnt = (getT st.root x).cnt + 1
      rw [(hnr x hx).1 hxl, inv.sees tid t ht hph x (by rw [htabs]; exact hxl), ← hR.root x hx]; rfl
    · exact (hnr x hx).2 fun hm => hxt ((mem_lockList th x).1 hm)

theorem sim_storeRootReg (hprog : th.prog = .act .storeRoot :: rest)
    (hstrip : strip rest = code (lockList th) t.commit .gR)
    (hcs : st.rootMu = some tid ↔ inCS .gS = true) (hl : Local st.root th t .gS) :
    StepOK s st { st with root := th.newRoot, nextChan := st.nextChan + 1 } tid th { th with prog := rest } := by
  obtain ⟨htb, hph, v, hnew, hv⟩ := hl
  have hlen : th.newRoot.length = st.root.length + 1 := by rw [hnew]; simp
  have hle : st.root.length ≤ th.newRoot.length := hlen ▸ Nat.le_succ _
  refine ⟨⟨s, hs, rfl, ?_⟩, .register rfl htb (by rw [hprog]; simp) ?_ ⟨v, hnew, hv⟩,
    fun hd' => by simp [hd] at hd'⟩
  · refine R_update st _ s s tid th _ t t hR htid rfl ht (LB.set_self ht).symm ?_ ?_ hR.owner rfl
      hle (fun _ _ => Iff.rfl) (Or.inr (hcs.2 rfl)) ?_
    · intro i hi
      show (getT th.newRoot i).cnt = s.root i
      have hi' : i < st.root.length + 1 := by rw [← hlen]; exact hi
      rw [hnew]
      by_cases hil : i < st.root.length
      · rw [getT_append_left _ _ _ hil]; exact hR.root i hil
      · cases Nat.le_antisymm (Nat.le_of_lt_succ hi') (Nat.le_of_not_lt hil)
        rw [getT_append_length, hv]; exact (hR.rootHi _ (Nat.le_refl _)).symm
    · exact fun i hi => hR.rootHi i (Nat.le_trans hle hi)
    · exact .at .gR htabs (fun x hx => ⟨Nat.lt_of_lt_of_le (hb x hx).1 hle, (hb x hx).2⟩) hstrip hcs ⟨htb, hph⟩
  · show Micro.act Act.storeRoot ∉ rest
    rw [← mem_strip _ _ (by rfl), hstrip]; simp [code]

end

theorem doAct_irrelevant (st : State) (th : Thread) (a : Act) (h : relevantAct a = false) :
    ∃ cl r, doAct st th a = ({ st with closed := cl }, { th with result := r }) := by
  cases a with
  | hook _ | dedupTables | commitIndexes | notify | closeInit | returnToPool => exact ⟨_, _, rfl⟩
  | _ => cases h

theorem sim_irrelevant (st : State) (tid : Nat) (th : Thread) (s : Serial.State) (t : Txn) (m : Micro)
    (rest : List Micro) (hs : Serial.Reachable s) (hR : R (install st tid th) s) (htid : tid < st.threads.length)
    (hd : th.done = false) (ht : s.txns[tid]? = some t)
    (hT : TRel st.root st.rootMu st.lockOwner.length tid th t)
    (hprog : th.prog = m :: rest) (hm : relevant m = false)
    (st' : State) (th' : Thread) (h : mstep st tid th = some (st', th')) : StepOK s st st' tid th th' := by
  obtain ⟨cl, r, rfl, rfl⟩ : ∃ cl r, st' = { st with closed := cl } ∧ th' = { th with prog := rest, result := r } := by
    cases m with
    | park l => cases mstep_cons hprog h; exact ⟨st.closed, th.result, rfl, rfl⟩
    | act a =>
      obtain ⟨cl, r, hr⟩ := doAct_irrelevant st { th with prog := rest } a hm
      cases hr.symm.trans (mstep_act hprog h); exact ⟨cl, r, rfl, rfl⟩
    | _ => simp [relevant] at hm
  have hstrip : strip rest = strip th.prog := by rw [hprog, strip_cons, hm]; simp
  exact stepOK_quiet t hs hR htid ht rfl rfl rfl (fun _ _ => Iff.rfl) (.inl rfl) rfl
    (TRel_congr _ _ _ _ th _ t hT hstrip rfl rfl rfl rfl rfl rfl rfl (fun hn => by rw [hprog] at hn; simp at hn))
    (fun hd' => absurd (hd.symm.trans hd') Bool.false_ne_true)

theorem mstep_sim (st : State) (tid : Nat) (th : Thread) (s : Serial.State) (st' : State) (th' : Thread)
    (hs : Serial.Reachable s) (hR : R (install st tid th) s) (htid : tid < st.threads.length)
    (hd : th.done = false) (h : mstep st tid th = some (st', th')) : StepOK s st st' tid th th' := by
  obtain ⟨t, ht, hT⟩ := R_own st s tid th hR htid
  have htabs := hT.tabs
  have hb := hT.bound
  obtain ⟨p, hp, hcs, hl⟩ := hT.pos
  -- a step that changes only the record of thread `tid` (to `x`), `Model.Serial` staying or moving `t` to `t'`
  have quiet : ∀ (x : Thread) (t' : Txn), (t' = t ∨ Serial.Step s { s with txns := setTxn s.txns tid t' }) →
      t'.commit = t.commit → TRel st.root st.rootMu st.lockOwner.length tid x t' → x.done = false →
      StepOK s st st tid th x := fun x t' hstep hc hT hx =>
    stepOK_quiet t' hs hR htid ht rfl rfl rfl (fun _ _ => Iff.rfl) hstep hc hT (fun h => by rw [hx] at h; cases h)
  cases hprog : th.prog with
  | nil =>
    rw [hprog] at hp
    have hn := nil_code _ _ p hp
    simp only [mstep, hprog, hd, Bool.false_eq_true, if_false, Option.some.injEq, Prod.mk.injEq] at h
    obtain ⟨rfl, rfl⟩ := h
    cases p with
    | rel k =>
      obtain ⟨hkl, hrel, hph, _⟩ := hl
      simp only [hd, Bool.false_eq_true, if_false] at hph
      have hke : t.released = t.tabs.length := by
        cases hk : (lockList th)[k]? with
        | some tb => simp [next, hk] at hn
        | none => rw [List.getElem?_eq_none_iff] at hk; rw [htabs, hrel]; omega
      exact stepOK_quiet _ hs hR htid ht rfl rfl rfl (fun _ _ => Iff.rfl)
        (.inr (Serial.Step.finish s tid t ht hph hke)) rfl
        (.at (.rel k) htabs hb hp hcs ⟨hkl, hrel, rfl, fun _ => rfl⟩) (fun _ => rfl)
    | gE =>
      exact stepOK_quiet t hs hR htid ht rfl rfl rfl (fun _ _ => Iff.rfl) (.inl rfl) rfl
        (.at .gE htabs hb hp hcs hl) (fun _ => rfl)
    | acq k => cases hk : (lockList th)[k]? <;> simp [next, hk] at hn
    | _ => cases hn
  | cons m rest =>
    rw [hprog] at hp
    rcases pop_code _ _ p m rest hp with ⟨hm, _⟩ | ⟨_, p', hn, hstrip⟩
    · exact sim_irrelevant st tid th s t m rest hs hR htid hd ht hT hprog hm st' th' h
    · have h := mstep_cons hprog h
      cases p
      case acq k =>
        simp only [next] at hn
        cases hk : (lockList th)[k]? with
        | some tb =>
          rw [hk] at hn; cases hn
          obtain ⟨hfree, h⟩ := h; cases h
          exact sim_acquire hs hR htid hd ht htabs hb hk hstrip hcs hl hfree
        | none =>
          rw [hk] at hn; cases hn; cases h
          have hkl : k = t.tabs.length := by
            rw [List.getElem?_eq_none_iff] at hk; have := hl.2; rw [htabs]; omega
          exact quiet _ _ (.inr (Serial.Step.load s tid t ht (hkl ▸ hl.1))) rfl
            (.at .clR htabs hb hstrip hcs ⟨rfl, fun x hx => ⟨(hb x hx).1, hR.root x (hb x hx).1⟩⟩) hd
      case rel k =>
        simp only [next] at hn
        cases hk : (lockList th)[k]? with
        | some tb =>
          rw [hk] at hn; cases hn; cases h
          exact sim_release hs hR htid hd ht htabs hb hk hstrip hcs hl
        | none => rw [hk] at hn; cases hn
      case gE => cases hn
      all_goals obtain ⟨rfl, rfl⟩ := Prod.mk.inj (Option.some.inj hn)
      case uw => exact sim_userWrites hs hR htid hd ht htabs hb hstrip hcs hl h
      case aR | gA | dA =>
        obtain ⟨hfree, h⟩ := h; cases h
        exact sim_rootMu hs hR htid hd ht htabs hb hstrip (.inl hfree) (.inr rfl) (by simp [inCS]) hl
      all_goals obtain ⟨rfl, rfl⟩ := Prod.mk.inj h
      case clR =>
        obtain ⟨hph, hold⟩ := hl
        exact quiet _ t (.inl rfl) rfl (.at .clE htabs hb hstrip hcs ⟨hph, hold, hold⟩) hd
      case clE =>
        obtain ⟨hph, hold, hent⟩ := hl
        exact quiet _ t (.inl rfl) rfl (.at .uw htabs hb hstrip hcs ⟨hph, hold, rfl, hent⟩) hd
      case lc =>
        obtain ⟨hph, hold, hc, hlk, hent⟩ := hl
        exact quiet _ t (.inl rfl) rfl (.at .mg htabs hb hstrip hcs ⟨hph, hold, hc, hlk, hent, rfl⟩) hd
      case mg =>
        exact quiet _ t (.inl rfl) rfl
          (.at .ci htabs hb hstrip hcs (local_merge (st := st) (th := { th with prog := rest }) hl)) hd
      case ci =>
        exact quiet _ t (.inl rfl) rfl
          (.at .sr htabs hb hstrip hcs (local_collect (st := st) (th := { th with prog := rest }) hl)) hd
      case sr => exact sim_storeRoot hs hR htid hd ht htabs hb hprog hstrip hcs hl
      case rR =>
        obtain ⟨hph, hrel, _⟩ := hl
        refine sim_rootMu hs hR htid hd ht htabs hb hstrip (.inr (hcs.2 rfl)) (.inl rfl) (by simp [inCS])
          ⟨Nat.zero_le _, hrel, ?_, fun hd' => by simp [hd] at hd'⟩
        show t.phase = if th.done = true then Phase.done else Phase.stored
        rw [hd]; exact hph
      case gL => exact quiet _ t (.inl rfl) rfl (.at .gP htabs hb hstrip hcs ⟨hl.1, hl.2, rfl⟩) hd
      case gP =>
        obtain ⟨htb, hph, hcur⟩ := hl
        exact quiet _ t (.inl rfl) rfl
          (.at .gS htabs hb hstrip hcs ⟨htb, hph, _, congrArg (· ++ [_]) hcur, rfl⟩) hd
      case gS => exact sim_storeRootReg hs hR htid hd ht htabs hb hprog hstrip hcs hl
      case dL => exact quiet _ t (.inl rfl) rfl (.at .dR htabs hb hstrip hcs hl) hd
      case gR | dR =>
        exact sim_rootMu hs hR htid hd ht htabs hb hstrip (.inr (hcs.2 rfl)) (.inl rfl) (by simp [inCS]) hl

end Sdb.Conc
