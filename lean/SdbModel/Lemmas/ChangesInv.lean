import SdbModel.Lemmas.ChangesRun

/-! Every step of `ChangesRun` preserves `Inv`.  Its clauses about iterators are taken one iterator at a time
    (`IterOK`); most steps are invisible to most iterators, which is `Inv.iterOK_frame`. -/
namespace Sdb.Chg
open Sdb.Tbl Sdb.Chg.OMap

theorem Carry.of_eq {t e : TableS} (hp : e.primary = t.primary) (hg : e.grave = t.grave) : Carry t e :=
  fun _ _ _ _ _ _ hs => hs.congr hp hg

theorem RegOK.transfer {s s' : St} {ci : Nat} {it : ChangeIter} {t t' : TableS} (h : RegOK s ci it t)
    (hlog : s'.log ci = s.log ci) (hmark : s'.db.trackerRevOf it.tracker = s.db.trackerRevOf it.tracker)
    (hrev : t'.rev = t.rev) (hprimary : t'.primary = t.primary) (hgrave : t'.grave = t.grave) :
    RegOK s' ci it t' := by
  have hv : s'.view ci = s.view ci := congrArg (replay _) hlog
  exact { h with
    synced := by rw [hv]; exact h.synced.congr hprimary hgrave
    rle := by rw [hrev]; exact h.rle
    dle := by rw [hrev]; exact h.dle
    mark := hmark.trans h.mark
    base := by rw [hrev]; exact h.base }

theorem PendOK.transfer {s s' : St} {ci : Nat} {it it' : ChangeIter} {t e : TableS} (h : PendOK s ci it t e)
    (hlog : s'.log ci = s.log ci) (hmark : s'.db.trackerRevOf it.tracker = s.db.trackerRevOf it.tracker)
    (hrev : it'.revision = it.revision) (hdel : it'.deleteRevision = it.deleteRevision)
    (htracker : it'.tracker = it.tracker) (hbase : it'.base = it.base) : PendOK s' ci it' t e := by
  exact {
    log := by rw [hlog]; exact h.log
    rev0 := by rw [hrev]; exact h.rev0
    dge := by rw [hdel]; exact h.dge
    dle := by rw [hdel]; exact h.dle
    synced := by rw [hdel]; exact h.synced
    mark := by rw [htracker, hdel, hmark]; exact h.mark
    be := by rw [hbase]; exact h.be
    bd := by rw [hbase, hdel]; exact h.bd }

theorem Live.registered {s : St} {it : ChangeIter} (hw : s.db.wtxn = none) (h : Live s it) :
    it.tracker ∈ (tbl s.db.root it.table).trackers := by
  rcases h with h | ⟨es, he, _⟩
  · exact h
  · rw [hw] at he; cases he

theorem Live.congr {s s' : St} {it it' : ChangeIter} (h : Live s' it') (hr : s'.db.root = s.db.root)
    (hw : s'.db.wtxn = s.db.wtxn) (i1 : it'.table = it.table) (i2 : it'.tracker = it.tracker)
    (i3 : it'.base = it.base) : Live s it := by
  unfold Live at h ⊢
  rw [hr, hw, i1, i2, i3] at h
  exact h

theorem Live.back {s s' : St} {it : ChangeIter} (h : Live s' it) (hr : s'.db.root = s.db.root)
    (ht : ∀ es', s'.db.wtxn = some es' → it.tracker ∈ (tbl es' it.table).trackers →
      it.tracker ∈ (tbl s.db.root it.table).trackers ∨
      ∃ es, s.db.wtxn = some es ∧ it.tracker ∈ (tbl es it.table).trackers) : Live s it := by
  unfold Live at h ⊢
  rw [hr] at h
  rcases h with h | ⟨es', he', hm, hb⟩
  · exact Or.inl h
  · rcases ht es' he' hm with hm' | ⟨es, he, hm'⟩
    · exact Or.inl hm'
    · exact Or.inr ⟨es, he, hm', hb⟩

theorem Live.of_wtxn {s s' : St} {es es' : List TableS} {it : ChangeIter} (h : Live s' it)
    (hw : s.db.wtxn = some es) (hr : s'.db.root = s.db.root) (hw' : s'.db.wtxn = some es')
    (ht : it.tracker ∈ (tbl es' it.table).trackers → it.tracker ∈ (tbl es it.table).trackers) : Live s it :=
  h.back hr fun _ he hm => Or.inr ⟨es, hw, ht ((Option.some.inj (hw'.symm.trans he)) ▸ hm)⟩

theorem Live.of_none {s s' : St} {it it' : ChangeIter} (h : Live s' it') (hw : s'.db.wtxn = none)
    (ht : it'.tracker ∈ (tbl s'.db.root it'.table).trackers → it.tracker ∈ (tbl s.db.root it.table).trackers) :
    Live s it :=
  .of_registered (ht (h.registered hw))

theorem Live.of_beginW {s : St} {it : ChangeIter} (lm la : Bool)
    (h : Live { s with db := s.db.beginW lm la } it) : Live s it := by
  refine h.back rfl fun es he hm => Or.inl ?_
  obtain ⟨l, e⟩ := (beginW_entries s.db lm la he).2 it.table
  rw [e] at hm
  exact hm

theorem Live.of_set {s s' : St} {es : List TableS} {i : Nat} {t' : TableS} {it : ChangeIter} (h : Live s' it)
    (hw : s.db.wtxn = some es) (hr : s'.db.root = s.db.root) (hw' : s'.db.wtxn = some (es.set i t'))
    (ht : it.tracker ∈ t'.trackers → it.tracker ∈ (tbl es i).trackers) : Live s it :=
  h.of_wtxn hw hr hw'
    (tbl_set_forall (P := fun j t => it.tracker ∈ t.trackers → it.tracker ∈ (tbl es j).trackers) (fun _ hm => hm) ht _)

theorem Live.of_write {s s' : St} {es : List TableS} {i : Nat} {t' : TableS} {it : ChangeIter}
    (h : Live s' it) (hw : s.db.wtxn = some es) (w : WStep (tbl es i) t') (hr : s'.db.root = s.db.root)
    (hw' : s'.db.wtxn = some (es.set i t')) : Live s it :=
  h.of_set hw hr hw' fun hm => w.trackers ▸ hm

theorem Live.of_create {s s' : St} {es : List TableS} {ti id : Nat} {it : ChangeIter} (h : Live s' it)
    (hw : s.db.wtxn = some es) (hr : s'.db.root = s.db.root)
    (hw' : s'.db.wtxn = some (es.set ti { tbl es ti with trackers := id :: (tbl es ti).trackers }))
    (hn : it.tracker ≠ id) : Live s it :=
  h.of_set hw hr hw' fun hm => (List.mem_cons.mp hm).resolve_left hn

/-- what `Inv` says of the iterator at position `ci` -/
structure IterOK (s : St) (ci : Nat) (it : ChangeIter) : Prop where
  fresh : it.tracker < s.db.nextTracker
  reg : it.closed = false → Live s it → RegOK s ci it (tbl s.db.root it.table)
  newI : ∀ es, s.db.wtxn = some es → it.closed = false →
      it.tracker ∈ (tbl es it.table).trackers → it.tracker ∉ (tbl s.db.root it.table).trackers →
      it.base ≤ (tbl s.db.root it.table).rev → NewOK it (tbl s.db.root it.table) (tbl es it.table)
  pend : ∀ es, s.db.wtxn = some es → it.closed = false →
      it.tracker ∈ (tbl es it.table).trackers → it.tracker ∉ (tbl s.db.root it.table).trackers →
      (tbl s.db.root it.table).rev < it.base → PendOK s ci it (tbl s.db.root it.table) (tbl es it.table)

/-- the collector may drop the graveyard entries `dead`: `Inv.dead`, for any key set -/
def Spares (s : St) (dead : List (Nat × List Key)) : Prop :=
  ∀ i, ∀ k ∈ deadKeys dead i, ∃ ρ, k = revKey ρ ∧ ρ ≤ (tbl s.db.root i).rev ∧
    ∀ (ci : Nat) (it : ChangeIter), s.db.iters[ci]? = some it → it.closed = false → it.table = i →
      Live s it → ρ ≤ it.deleteRevision

theorem Inv.spares {s : St} (h : Inv s) : Spares s s.db.gcDead := h.dead

theorem Spares.mono {s s' : St} {dead : List (Nat × List Key)} (h : Spares s dead)
    (hrev : ∀ i, (tbl s.db.root i).rev ≤ (tbl s'.db.root i).rev)
    (hit : ∀ (ci : Nat) (it' : ChangeIter), s'.db.iters[ci]? = some it' → it'.closed = false → Live s' it' →
      (tbl s.db.root it'.table).rev ≤ it'.deleteRevision ∨
      ∃ (cj : Nat) (it : ChangeIter), s.db.iters[cj]? = some it ∧ it.closed = false ∧ it.table = it'.table ∧ Live s it ∧
        it.deleteRevision ≤ it'.deleteRevision) : Spares s' dead := by
  intro i k hk
  obtain ⟨ρ, e, hle, hall⟩ := h i k hk
  refine ⟨ρ, e, Nat.le_trans hle (hrev i), fun ci it' hi hc ht hl => ?_⟩
  subst ht
  rcases hit ci it' hi hc hl with hge | ⟨cj, it, hj, hcj, htj, hlj, hdj⟩
  · exact Nat.le_trans hle hge
  · exact Nat.le_trans (hall cj it hj hcj htj hlj) hdj

theorem Spares.frame {s s' : St} {dead : List (Nat × List Key)} (h : Spares s dead)
    (hroot : s'.db.root = s.db.root) (hiters : s'.db.iters = s.db.iters)
    (hl : ∀ it, Live s' it → Live s it) : Spares s' dead :=
  h.mono (fun i => by rw [hroot]; exact Nat.le_refl _) fun ci it hi hc hlv =>
    Or.inr ⟨ci, it, hiters ▸ hi, hc, rfl, hl it hlv, Nat.le_refl _⟩

theorem Inv.of_iters {s : St}
    (rootT : ∀ i, TInv (tbl s.db.root i))
    (wT : ∀ es, s.db.wtxn = some es → ∀ i, TInv (tbl es i))
    (wOld : ∀ es, s.db.wtxn = some es → s.db.oldRoot = s.db.root ∧ es.length = s.db.root.length)
    (wRel : ∀ es, s.db.wtxn = some es → ∀ i, WRel (tbl s.db.root i) (tbl es i))
    (freshR : ∀ i, ∀ id ∈ (tbl s.db.root i).trackers, id < s.db.nextTracker)
    (freshW : ∀ es, s.db.wtxn = some es → ∀ i, ∀ id ∈ (tbl es i).trackers, id < s.db.nextTracker)
    (iter : ∀ (ci : Nat) (it : ChangeIter), s.db.iters[ci]? = some it → IterOK s ci it)
    (uniq : ∀ (ci cj : Nat) (it it' : ChangeIter), s.db.iters[ci]? = some it → s.db.iters[cj]? = some it' →
      it.tracker = it'.tracker → ci = cj)
    (dead : Spares s s.db.gcDead) (logFresh : ∀ ci, s.db.iters.size ≤ ci → s.log ci = []) : Inv s :=
  { rootT, wT, wOld, wRel, freshR, freshW, uniq, dead, logFresh
    freshI := fun ci it hi => (iter ci it hi).fresh
    reg := fun ci it hi => (iter ci it hi).reg
    newI := fun es he ci it hi => (iter ci it hi).newI es he
    pend := fun es he ci it hi => (iter ci it hi).pend es he }

theorem Inv.of_none {s : St} (hw : s.db.wtxn = none)
    (rootT : ∀ i, TInv (tbl s.db.root i))
    (freshR : ∀ i, ∀ id ∈ (tbl s.db.root i).trackers, id < s.db.nextTracker)
    (iter : ∀ (ci : Nat) (it : ChangeIter), s.db.iters[ci]? = some it → it.tracker < s.db.nextTracker ∧
      (it.closed = false → it.tracker ∈ (tbl s.db.root it.table).trackers → RegOK s ci it (tbl s.db.root it.table)))
    (uniq : ∀ (ci cj : Nat) (it it' : ChangeIter), s.db.iters[ci]? = some it → s.db.iters[cj]? = some it' →
      it.tracker = it'.tracker → ci = cj)
    (dead : Spares s s.db.gcDead) (logFresh : ∀ ci, s.db.iters.size ≤ ci → s.log ci = []) : Inv s := by
  have void : ∀ {p : List TableS → Prop} (es : List TableS), s.db.wtxn = some es → p es :=
    fun es he => by rw [hw] at he; cases he
  exact .of_iters rootT void void void freshR void
    (fun ci it hi => ⟨(iter ci it hi).1, fun hc hl => (iter ci it hi).2 hc (hl.registered hw), void, void⟩)
    uniq dead logFresh

/-- A step that iterator `ci` cannot see.  `hw`: its tracker is registered in the new write transaction only where
    the committed root has it, or where the old write transaction has it in an entry that the new one continues. -/
theorem Inv.iterOK_frame {s s' : St} (h : Inv s) {ci : Nat} {it : ChangeIter} (hi : s.db.iters[ci]? = some it)
    (hroot : s'.db.root = s.db.root) (hnt : s.db.nextTracker ≤ s'.db.nextTracker)
    (hlog : s'.log ci = s.log ci) (hmark : s'.db.trackerRevOf it.tracker = s.db.trackerRevOf it.tracker)
    (hw : ∀ es', s'.db.wtxn = some es' → it.tracker ∈ (tbl es' it.table).trackers →
      it.tracker ∈ (tbl s.db.root it.table).trackers ∨
      ∃ es, s.db.wtxn = some es ∧ it.tracker ∈ (tbl es it.table).trackers ∧
        (tbl es it.table).rev ≤ (tbl es' it.table).rev ∧ Carry (tbl es it.table) (tbl es' it.table)) :
    IterOK s' ci it := by
  have hlive : Live s' it → Live s it := fun hl => hl.back hroot fun es' he' hm =>
    (hw es' he' hm).imp id fun ⟨es, he, hm', _⟩ => ⟨es, he, hm'⟩
  refine { fresh := Nat.lt_of_lt_of_le (h.freshI ci it hi) hnt, reg := fun hc hl => ?_,
           newI := fun es' he' hc hm hnr hb => ?_, pend := fun es' he' hc hm hnr hb => ?_ }
  · rw [hroot]
    exact (h.reg ci it hi hc (hlive hl)).transfer hlog hmark rfl rfl rfl
  · rw [hroot] at hnr hb ⊢
    rcases hw es' he' hm with hr | ⟨es, he, hm', _, hcarry⟩
    · exact absurd hr hnr
    · have n := h.newI es he ci it hi hc hm' hnr hb
      have r1 := (h.wRel es he it.table).rev
      exact { tb := n.tb, carry := fun M r d hr hd hs =>
        hcarry (List.ne_nil_of_mem hm') M r d (Nat.le_trans hr r1) (Nat.le_trans hd r1) (n.carry M r d hr hd hs) }
  · rw [hroot] at hnr hb ⊢
    rcases hw es' he' hm with hr | ⟨es, he, hm', hrev, hcarry⟩
    · exact absurd hr hnr
    · have p := h.pend es he ci it hi hc hm' hnr hb
      exact { p with
        log := hlog.trans p.log
        dle := Nat.le_trans p.dle hrev
        synced := hcarry (List.ne_nil_of_mem hm') _ _ _ (Nat.zero_le _) p.dle p.synced
        mark := hmark.trans p.mark
        be := Nat.le_trans p.be hrev }

theorem Inv.iterOK_same {s s' : St} (h : Inv s) {ci : Nat} {it : ChangeIter} (hi : s.db.iters[ci]? = some it)
    (hroot : s'.db.root = s.db.root) (hwtxn : s'.db.wtxn = s.db.wtxn) (hnt : s.db.nextTracker ≤ s'.db.nextTracker)
    (hlog : s'.log ci = s.log ci) (hmark : s'.db.trackerRevOf it.tracker = s.db.trackerRevOf it.tracker) :
    IterOK s' ci it :=
  h.iterOK_frame hi hroot hnt hlog hmark fun es' he' hm =>
    Or.inr ⟨es', hwtxn ▸ he', hm, Nat.le_refl _, .of_eq rfl rfl⟩

theorem Inv.init : Inv St.init := by
  have hroot : ∀ i, tbl St.init.db.root i = { (default : TableS) with full := (tbl St.init.db.root i).full } := by
    intro i
    match i with
    | 0 => rfl
    | 1 => rfl
    | (n + 2) => rfl
  have hnone : ∀ (ci : Nat) (it : ChangeIter), St.init.db.iters[ci]? ≠ some it := by
    intro ci it h; simp [St.init, newDB] at h
  refine .of_none rfl (fun i => ?_) (fun i id hid => ?_) (fun ci it hi => absurd hi (hnone ci it))
    (fun ci _ it _ hi => absurd hi (hnone ci it)) (fun i k hk => ?_) (fun ci _ => rfl)
  · rw [hroot]; exact tinv_default.congr rfl rfl rfl rfl rfl
  · rw [hroot] at hid; simp [default, instInhabitedTableS.default] at hid
  · simp [St.init, newDB, deadKeys] at hk

theorem Inv.beginW {s : St} (h : Inv s) (lm la : Bool) :
    Inv { s with db := s.db.beginW lm la } := by
  refine .of_iters h.rootT (fun es he i => ?_) (fun es he => ⟨rfl, (beginW_entries s.db lm la he).1⟩)
    (fun es he i => ?_) h.freshR (fun es he i id hid => ?_) (fun ci it hi => ?_) h.uniq
    (h.spares.frame rfl rfl fun it hl => hl.of_beginW lm la) h.logFresh
  · obtain ⟨l, e⟩ := (beginW_entries s.db lm la he).2 i
    rw [e]
    exact (h.rootT i).congr rfl rfl rfl rfl rfl
  · obtain ⟨l, e⟩ := (beginW_entries s.db lm la he).2 i
    rw [e]
    exact ⟨Nat.le_refl _, fun id hid => hid, .of_eq rfl rfl, fun _ => ⟨rfl, rfl⟩⟩
  · obtain ⟨l, e⟩ := (beginW_entries s.db lm la he).2 i
    rw [e] at hid
    exact h.freshR i id hid
  · refine h.iterOK_frame hi rfl (Nat.le_refl _) rfl rfl fun es he hm => Or.inl ?_
    obtain ⟨l, e⟩ := (beginW_entries s.db lm la he).2 it.table
    rw [e] at hm
    exact hm

theorem Inv.abort {s : St} (h : Inv s) : Inv { s with db := s.db.abort } :=
  .of_none rfl h.rootT h.freshR
    (fun ci it hi => ⟨h.freshI ci it hi, fun hc hr =>
      (h.reg ci it hi hc (.of_registered hr)).transfer rfl rfl rfl rfl rfl⟩)
    h.uniq (h.spares.frame rfl rfl fun _ hl => hl.of_none rfl id) h.logFresh

theorem Inv.live_or_pend {s : St} (h : Inv s) {es : List TableS} (hw : s.db.wtxn = some es) {ci : Nat}
    {it : ChangeIter} (hi : s.db.iters[ci]? = some it) (hc : it.closed = false)
    (hr : it.tracker ∈ (tbl es it.table).trackers) :
    Live s it ∨ ((tbl s.db.root it.table).rev < it.base ∧ PendOK s ci it (tbl s.db.root it.table) (tbl es it.table)) := by
  by_cases hreg : it.tracker ∈ (tbl s.db.root it.table).trackers
  · exact Or.inl (.of_registered hreg)
  · by_cases hb : it.base ≤ (tbl s.db.root it.table).rev
    · exact Or.inl (Or.inr ⟨es, hw, hr, hb⟩)
    · exact Or.inr ⟨Nat.lt_of_not_le hb, h.pend es hw ci it hi hc hr hreg (Nat.lt_of_not_le hb)⟩

theorem Inv.commit {s : St} (h : Inv s) : Inv { s with db := s.db.commit } := by
  cases hw : s.db.wtxn with
  | none => rw [commit_none hw]; exact h
  | some es =>
    obtain ⟨root', e, hroot⟩ := commit_some hw (h.wOld es hw).2
    rw [e]
    -- an iterator registered in the new root is in good standing with it, and was in good standing before
    -- or was created in this transaction after its first write
    have hregNew : ∀ (ci : Nat) (it : ChangeIter), s.db.iters[ci]? = some it → it.closed = false →
        it.tracker ∈ (tbl root' it.table).trackers →
        RegOK s ci it (tbl root' it.table) ∧ ((tbl s.db.root it.table).rev ≤ it.deleteRevision ∨ Live s it) := by
      intro ci it hi hc hr
      rw [hroot] at hr ⊢
      by_cases hl : (tbl es it.table).locked
      · rw [if_pos hl] at hr ⊢
        obtain ⟨_, hprimary, _, hgrave, _, htrackers⟩ := commitEntry_fields (tbl es it.table)
        rw [htrackers] at hr
        have hrel := h.wRel es hw it.table
        rcases h.live_or_pend hw hi hc hr with hlv | ⟨_, p⟩
        · -- in good standing before: the view is carried to the entry of the write transaction
          have r := h.reg ci it hi hc hlv
          have hcar : Synced (s.view ci) it.revision it.deleteRevision (tbl es it.table) := by
            by_cases hreg : it.tracker ∈ (tbl s.db.root it.table).trackers
            · exact hrel.carry (List.ne_nil_of_mem hreg) _ _ _ r.rle r.dle r.synced
            · exact (h.newI es hw ci it hi hc hr hreg r.base).carry _ _ _ r.rle r.dle r.synced
          exact ⟨{ r with
            synced := hcar.congr hprimary hgrave
            rle := Nat.le_trans r.rle hrel.rev
            dle := Nat.le_trans r.dle hrel.rev
            base := Nat.le_trans r.base hrel.rev }, Or.inr hlv⟩
        · refine ⟨{ synced := ?_, rle := by rw [p.rev0]; exact Nat.zero_le _, dle := p.dle, mark := p.mark,
                    base := p.be, bd := p.bd }, Or.inl p.dge⟩
          rw [replay_nil_view ci s p.log, p.rev0]
          exact p.synced.congr hprimary hgrave
      · rw [if_neg hl] at hr ⊢
        exact ⟨h.reg ci it hi hc (.of_registered hr), Or.inr (.of_registered hr)⟩
    refine .of_none rfl (fun i => ?_) (fun i id hid => ?_)
      (fun ci it hi => ⟨h.freshI ci it hi, fun hc hr =>
        (hregNew ci it hi hc hr).1.transfer rfl rfl rfl rfl rfl⟩)
      h.uniq ?_ h.logFresh
    · show TInv (tbl root' i)
      rw [hroot]
      split
      · obtain ⟨c1, c2, c3, c4, c5, _⟩ := commitEntry_fields (tbl es i)
        exact (h.wT es hw i).congr c1 c2 c3 c4 c5
      · exact h.rootT i
    · have hid : id ∈ (tbl root' i).trackers := hid
      rw [hroot] at hid
      split at hid
      · exact h.freshW es hw i id hid
      · exact h.freshR i id hid
    · refine h.spares.mono (fun i => ?_) fun ci it hi hc hl =>
        (hregNew ci it hi hc (hl.registered rfl)).2.imp id fun hlv => ⟨ci, it, hi, hc, rfl, hlv, Nat.le_refl _⟩
      show _ ≤ (tbl root' i).rev
      rw [hroot]
      split
      · exact (h.wRel es hw i).rev
      · exact Nat.le_refl _

/-- entry `e` of the open write transaction moves on to `e'`; a tracker that `e` did not have is `fresh` -/
structure Continues (fresh : Nat → Prop) (e e' : TableS) : Prop where
  tinv : TInv e'
  rev : e.rev ≤ e'.rev
  carry : Carry e e'
  same : e'.rev = e.rev → e'.primary = e.primary ∧ e'.grave = e.grave
  keep : ∀ id ∈ e.trackers, id ∈ e'.trackers
  new : ∀ id ∈ e'.trackers, id ∈ e.trackers ∨ fresh id

theorem Continues.refl {fresh : Nat → Prop} {e : TableS} (h : TInv e) : Continues fresh e e :=
  ⟨h, Nat.le_refl _, .of_eq rfl rfl, fun _ => ⟨rfl, rfl⟩, fun _ hid => hid, fun _ hid => Or.inl hid⟩

theorem WStep.continues {fresh : Nat → Prop} {e e' : TableS} (w : WStep e e') (h : TInv e) : Continues fresh e e' :=
  ⟨w.tinv h, w.rev_le, fun hne _ _ _ hr hd hs => w.synced h hs hr hd hne, w.same,
    fun _ hid => w.trackers.symm ▸ hid, fun _ hid => Or.inl (w.trackers ▸ hid)⟩

theorem WRel.extend {fresh : Nat → Prop} {t e e' : TableS} (r : WRel t e) (c : Continues fresh e e') : WRel t e' := by
  refine ⟨Nat.le_trans r.rev c.rev, fun id hid => c.keep id (r.trk id hid), fun hne M x d hx hd hs => ?_, fun heq => ?_⟩
  · obtain ⟨a, ha⟩ := List.exists_mem_of_ne_nil _ hne
    exact c.carry (List.ne_nil_of_mem (r.trk a ha)) M x d (Nat.le_trans hx r.rev) (Nat.le_trans hd r.rev)
      (r.carry hne M x d hx hd hs)
  · have h1 := r.rev
    have h2 := c.rev
    obtain ⟨a, b⟩ := c.same (by omega)
    obtain ⟨a', b'⟩ := r.same (by omega)
    exact ⟨a.trans a', b.trans b'⟩

theorem Inv.setEntry {s s' : St} (h : Inv s) {es : List TableS} {i : Nat} {t' : TableS} (hw : s.db.wtxn = some es)
    (hroot : s'.db.root = s.db.root) (hold : s'.db.oldRoot = s.db.oldRoot)
    (hwtxn : s'.db.wtxn = some (es.set i t')) (hnt : s.db.nextTracker ≤ s'.db.nextTracker)
    (hiters : s'.db.iters = s.db.iters) (hgd : s'.db.gcDead = s.db.gcDead) (hlog : s'.log = s.log)
    (hmark : ∀ id, id < s.db.nextTracker → s'.db.trackerRevOf id = s.db.trackerRevOf id)
    (c : Continues (fun id => s.db.nextTracker ≤ id ∧ id < s'.db.nextTracker) (tbl es i) t') : Inv s' := by
  have hent := tbl_set_forall
    (P := fun j t => Continues (fun id => s.db.nextTracker ≤ id ∧ id < s'.db.nextTracker) (tbl es j) t)
    (fun j => .refl (h.wT es hw j)) c
  -- an iterator registered in a new entry was registered in the old one: no iterator has a new tracker
  have hreg : ∀ (ci : Nat) (it : ChangeIter), s.db.iters[ci]? = some it →
      it.tracker ∈ (tbl (es.set i t') it.table).trackers → it.tracker ∈ (tbl es it.table).trackers :=
    fun ci it hi hm => ((hent it.table).new _ hm).resolve_right fun hf => Nat.not_le.mpr (h.freshI ci it hi) hf.1
  refine .of_iters (by rw [hroot]; exact h.rootT) (fun es' he j => ?_) (fun es' he => ?_) (fun es' he j => ?_)
    (fun j x hx => ?_) (fun es' he j x hx => ?_) (fun ci it hi => ?_) (by rw [hiters]; exact h.uniq) ?_
    (by rw [hiters, hlog]; exact h.logFresh)
  · cases hwtxn.symm.trans he
    exact (hent j).tinv
  · cases hwtxn.symm.trans he
    obtain ⟨a, b⟩ := h.wOld es hw
    exact ⟨by rw [hold, hroot]; exact a, by rw [List.length_set, hroot]; exact b⟩
  · cases hwtxn.symm.trans he
    rw [hroot]
    exact (h.wRel es hw j).extend (hent j)
  · rw [hroot] at hx
    exact Nat.lt_of_lt_of_le (h.freshR j x hx) hnt
  · cases hwtxn.symm.trans he
    rcases (hent j).new x hx with hx | hf
    · exact Nat.lt_of_lt_of_le (h.freshW es hw j x hx) hnt
    · exact hf.2
  · rw [hiters] at hi
    refine h.iterOK_frame hi hroot hnt (by rw [hlog]) (hmark _ (h.freshI ci it hi)) fun es' he hm => ?_
    cases hwtxn.symm.trans he
    exact Or.inr ⟨es, hw, hreg ci it hi hm, (hent it.table).rev, (hent it.table).carry⟩
  · rw [hgd]
    refine h.spares.mono (fun j => by rw [hroot]; exact Nat.le_refl _) fun ci it hi hc hl => ?_
    rw [hiters] at hi
    exact Or.inr ⟨ci, it, hi, hc, rfl, hl.of_wtxn hw hroot hwtxn (hreg ci it hi), Nat.le_refl _⟩

theorem Inv.write {s : St} (h : Inv s) (es : List TableS) (i : Nat) (t' : TableS) (hw : s.db.wtxn = some es)
    (w : WStep (tbl es i) t') : Inv { s with db := setW s.db i t' } := by
  rw [setW_some hw]
  exact h.setEntry hw rfl rfl rfl (Nat.le_refl _) rfl rfl rfl (fun _ _ => rfl) (w.continues (h.wT es hw i))

theorem IterOK.created {s : St} {ci : Nat} {it : ChangeIter} {es : List TableS} (hw : s.db.wtxn = some es)
    (hTr : TInv (tbl s.db.root it.table)) (hTe : TInv (tbl es it.table))
    (hrel : WRel (tbl s.db.root it.table) (tbl es it.table)) (hlog : s.log ci = [])
    (hfresh : it.tracker < s.db.nextTracker) (hnr : it.tracker ∉ (tbl s.db.root it.table).trackers)
    (hmark : s.db.trackerRevOf it.tracker = it.deleteRevision) (hrev0 : it.revision = 0)
    (hdel : it.deleteRevision = (tbl es it.table).rev) (hbase : it.base = (tbl es it.table).rev) : IterOK s ci it := by
  have hrev := hrel.rev
  refine { fresh := hfresh, reg := fun _ hlv => ?_, newI := fun es' he _ _ _ hb => ?_, pend := fun es' he _ _ _ _ => ?_ }
  · rcases hlv with hr | ⟨_, _, _, hb⟩
    · exact absurd hr hnr
    · rw [hbase] at hb
      refine { synced := ?_, rle := by rw [hrev0]; exact Nat.zero_le _, dle := by rw [hdel]; exact hb, mark := hmark,
               base := by rw [hbase]; exact hb, bd := by rw [hbase, hdel]; exact Nat.le_refl _ }
      rw [replay_nil_view ci s hlog, hrev0]
      exact Synced.empty hTr _
  · -- created on an untouched entry: the entry is the committed table with more trackers
    cases hw.symm.trans he
    rw [hbase] at hb
    have hsame := hrel.same (by omega)
    exact { tb := by rw [hbase]; exact hrev, carry := fun M r d _ _ hs => hs.congr hsame.1 hsame.2 }
  · cases hw.symm.trans he
    refine { log := hlog, rev0 := hrev0, dge := by rw [hdel]; exact hrev, dle := by rw [hdel]; exact Nat.le_refl _,
             synced := ?_, mark := hmark, be := by rw [hbase]; exact Nat.le_refl _,
             bd := by rw [hbase, hdel]; exact Nat.le_refl _ }
    rw [hdel]
    exact Synced.empty hTe _

theorem Inv.push {s s' : St} (h : Inv s) {it0 : ChangeIter}
    (hs' : s' = { s with db := { s.db with iters := s.db.iters.push it0 } })
    (hne : ∀ (ci : Nat) (it : ChangeIter), s.db.iters[ci]? = some it → it.tracker ≠ it0.tracker)
    (hnew : IterOK s' s.db.iters.size it0)
    (hdel : (tbl s.db.root it0.table).rev ≤ it0.deleteRevision) : Inv s' := by
  subst hs'
  have hpush : ∀ (ci : Nat) (it : ChangeIter), (s.db.iters.push it0)[ci]? = some it →
      (s.db.iters[ci]? = some it ∧ it.tracker ≠ it0.tracker) ∨ (ci = s.db.iters.size ∧ it = it0) :=
    fun ci it hi => (getElem?_push_cases hi).imp_left fun hi' => ⟨hi', hne ci it hi'⟩
  refine .of_iters h.rootT h.wT h.wOld h.wRel h.freshR h.freshW (fun ci it hi => ?_)
    (fun ci cj it it' hi hj heq => ?_) ?_ (fun ci hci => ?_)
  · rcases hpush ci it hi with ⟨hi', _⟩ | ⟨c1, e1⟩
    · exact h.iterOK_same hi' rfl rfl (Nat.le_refl _) rfl rfl
    · rw [c1, e1]; exact hnew
  · rcases hpush ci it hi with ⟨hi', n1⟩ | ⟨c1, e1⟩ <;> rcases hpush cj it' hj with ⟨hj', n2⟩ | ⟨c2, e2⟩
    · exact h.uniq ci cj it it' hi' hj' heq
    · rw [e2] at heq; exact absurd heq n1
    · rw [e1] at heq; exact absurd heq.symm n2
    · rw [c1, c2]
  · refine h.spares.mono (fun i => Nat.le_refl _) fun ci it hi hc hlv => ?_
    rcases hpush ci it hi with ⟨hi', _⟩ | ⟨_, e1⟩
    · exact Or.inr ⟨ci, it, hi', hc, rfl, hlv, Nat.le_refl _⟩
    · rw [e1]; exact Or.inl hdel
  · have hci : s.db.iters.size + 1 ≤ ci := by rw [← Array.size_push]; exact hci
    exact h.logFresh ci (Nat.le_of_succ_le hci)

/-- `Changes()` registers the next tracker in entry `ti` of the write transaction, then appends the iterator -/
theorem Inv.create {s : St} (h : Inv s) (ti : Nat) : Inv { s with db := iterCreate s.db ti } := by
  rcases iterCreate_spec s.db ti with e | ⟨es, hw, hlocked, it0, htable, hrev0, hdel, htracker, _, hbase, _, _, e⟩
  · rw [e]; exact h
  · rw [e]
    have h1 : Inv { s with db := ({ s.db with
        wtxn := some (es.set ti { tbl es ti with trackers := s.db.nextTracker :: (tbl es ti).trackers }),
        nextTracker := s.db.nextTracker + 1 } : DB).setTrackerRev s.db.nextTracker (tbl es ti).rev } :=
      h.setEntry hw rfl rfl rfl (Nat.le_succ _) rfl rfl rfl
        (fun id hid => trackerRevOf_set_ne _ _ _ _ (Nat.ne_of_lt hid))
        { tinv := (h.wT es hw ti).congr rfl rfl rfl rfl rfl
          rev := Nat.le_refl _
          carry := .of_eq rfl rfl
          same := fun _ => ⟨rfl, rfl⟩
          keep := fun _ hid => List.mem_cons_of_mem _ hid
          new := fun id hid => (List.mem_cons.mp hid).symm.imp_right fun e => by
            rw [e]; exact ⟨Nat.le_refl _, Nat.lt_succ_self _⟩ }
    have hti : ti < es.length := tbl_locked_lt es ti hlocked
    have hnr : it0.tracker ∉ (tbl s.db.root it0.table).trackers := fun hr =>
      Nat.lt_irrefl _ (h.freshR _ _ (htracker ▸ hr))
    refine h1.push rfl (fun ci it hi => by rw [htracker]; exact Nat.ne_of_lt (h.freshI ci it hi)) ?_
      (by rw [hdel, htable]; exact (h.wRel es hw ti).rev)
    have he : tbl (es.set ti { tbl es ti with trackers := s.db.nextTracker :: (tbl es ti).trackers }) it0.table =
        { tbl es ti with trackers := s.db.nextTracker :: (tbl es ti).trackers } := by
      rw [htable, tbl_set, if_pos ⟨rfl, hti⟩]
    exact .created (es := es.set ti _) rfl (h1.rootT _) (h1.wT _ rfl _) (h1.wRel _ rfl _)
      (h.logFresh _ (Nat.le_refl _)) (by rw [htracker]; exact Nat.lt_succ_self _) hnr
      (by rw [htracker, hdel]; exact trackerRevOf_set_self _ _ _) hrev0 (by rw [hdel, he]) (by rw [hbase, he])

/-- `Next` reads the current committed root, whichever transaction it is given -/
theorem Inv.committed_eq {s : St} (h : Inv s) {committed : List TableS}
    (hc : committed = s.db.root ∨ (s.db.wtxn.isSome ∧ committed = s.db.oldRoot)) : committed = s.db.root := by
  rcases hc with e | ⟨hw, e⟩
  · exact e
  · cases hw' : s.db.wtxn with
    | none => rw [hw'] at hw; cases hw
    | some es => rw [e]; exact (h.wOld es hw').1

/-- a `Next` on the committed root that stores an iterator: `ci` (`it` before, `it'` after) has delivered the prefix
    `taken` of the sequence of its committed table at its cursors, `rest` is left -/
structure Moved (s s' : St) (ci : Nat) (it it' : ChangeIter) (taken rest : List Change) : Prop where
  hi : s.db.iters[ci]? = some it
  root : s'.db.root = s.db.root
  wtxn : s'.db.wtxn = s.db.wtxn
  oldRoot : s'.db.oldRoot = s.db.oldRoot
  nextTracker : s'.db.nextTracker = s.db.nextTracker
  gcDead : s'.db.gcDead = s.db.gcDead
  iters : s'.db.iters = s.db.iters.set! ci it'
  logSelf : s'.log ci = s.log ci ++ taken
  logOther : ∀ cj, cj ≠ ci → s'.log cj = s.log cj
  mark : s.db.trackerRevOf it.tracker = it.deleteRevision → s'.db.trackerRevOf it.tracker = it'.deleteRevision
  marks : ∀ id, id ≠ it.tracker → s'.db.trackerRevOf id = s.db.trackerRevOf id
  table : it'.table = it.table
  tracker : it'.tracker = it.tracker
  closed : it'.closed = it.closed
  base : it'.base = it.base
  watchGen : it'.watchGen = some (tbl s.db.root it.table).gen
  isPrefix : pendingOf (tbl s.db.root it.table) it.revision it.deleteRevision = taken ++ rest
  revision : it'.revision = (cursors it.revision it.deleteRevision taken).1
  deleteRevision : it'.deleteRevision = (cursors it.revision it.deleteRevision taken).2
  stale : (tbl s.db.root it.table).rev < it.base → taken = []
  done : it.base ≤ (tbl s.db.root it.table).rev → it'.pending = none → rest = []

theorem Moved.cases {s s' : St} {ci : Nat} {it it' : ChangeIter} {taken rest : List Change}
    (m : Moved s s' ci it it' taken rest) {cj : Nat} {x : ChangeIter} (hx : s'.db.iters[cj]? = some x) :
    (cj = ci ∧ x = it') ∨ (cj ≠ ci ∧ s.db.iters[cj]? = some x) :=
  getElem?_set!_cases (lt_size_of_getElem? m.hi) (m.iters ▸ hx)

theorem Inv.next_cases {s : St} (h : Inv s) (ci : Nat) (k : Int) (committed current : List TableS)
    (hc : committed = s.db.root ∨ (s.db.wtxn.isSome ∧ committed = s.db.oldRoot)) {s' : St}
    (hs' : s' = { db := (iterNext s.db ci committed current k).1,
                  log := fun j => if j = ci then s.log ci ++ (iterNext s.db ci committed current k).2.1 else s.log j }) :
    s' = s ∨ ∃ it it' taken rest, Moved s s' ci it it' taken rest := by
  subst hs'
  cases h.committed_eq hc
  cases h1 : s.db.iters[ci]? with
  | none => left; unfold iterNext; rw [h1]; simp only [log_append_nil]
  | some it =>
    rcases iterNext_spec s.db ci s.db.root current k it h1 with ⟨e, _, _⟩ | ⟨hst, e⟩ | ⟨hst, _, hn⟩
    · left; rw [e]; simp only [log_append_nil]
    · right
      rw [e]
      have f := refresh_fields it s.db.root current true
      exact ⟨it, _, [], _,
        { hi := h1, root := rfl, wtxn := rfl, oldRoot := rfl, nextTracker := rfl, gcDead := rfl, iters := rfl,
          logSelf := if_pos rfl, logOther := fun _ a => if_neg a, mark := fun hm => hm.trans f.deleteRevision.symm,
          marks := fun _ _ => rfl, table := f.table, tracker := f.tracker, closed := f.closed, base := f.base,
          watchGen := f.watchGen, isPrefix := (List.nil_append _).symm, revision := f.revision,
          deleteRevision := f.deleteRevision, stale := fun _ => rfl,
          done := fun hle _ => absurd ((stale_iff it _).mp hst) (Nat.not_lt.mpr hle) }⟩
    · right
      obtain ⟨rest, hpre⟩ := hn.isPrefix
      obtain ⟨it', hiters, htable, htracker, hclosed, hrevision, hdelete, hwatch, hall, hmark, hbase⟩ := hn.iters
      exact ⟨it, it', _, rest,
        { hi := h1, root := hn.root, wtxn := hn.wtxn, oldRoot := hn.oldRoot, nextTracker := hn.nextTracker,
          gcDead := hn.gcDead, iters := hiters, logSelf := if_pos rfl, logOther := fun _ a => if_neg a, mark := hmark,
          marks := hn.others, table := htable, tracker := htracker, closed := hclosed, base := hbase,
          watchGen := hwatch, isPrefix := hpre, revision := hrevision, deleteRevision := hdelete,
          stale := fun hlt => (by rw [(stale_iff it _).mpr hlt] at hst; cases hst),
          done := fun _ hp => List.self_eq_append_right.mp ((hall hp).trans hpre) }⟩

theorem Inv.moved {s s' : St} (h : Inv s) {ci : Nat} {it it' : ChangeIter} {taken rest : List Change}
    (m : Moved s s' ci it it' taken rest) : Inv s' := by
  have hT := h.rootT it.table
  have hb := hT.bound
  have hli : Live s' it' → Live s it := fun hl => hl.congr m.root m.wtxn m.table m.tracker m.base
  -- in good standing: the view replayed from the longer log is in step at the advanced cursors
  have hreg : it.closed = false → Live s it →
      RegOK s' ci it' (tbl s.db.root it.table) ∧ it.deleteRevision ≤ it'.deleteRevision := by
    intro hcl hl
    have r := h.reg ci it m.hi hcl hl
    have hrle := r.rle
    have hdle := r.dle
    obtain ⟨c1, c2, c3⟩ := cursors_prefix hT hrle hdle m.isPrefix
    obtain ⟨hs', _⟩ := r.synced.consume_prefix hT taken rest (by omega) (by omega) m.isPrefix
    refine ⟨{ synced := ?_, rle := m.revision ▸ c1, dle := m.deleteRevision ▸ c2,
              mark := by rw [m.tracker]; exact m.mark r.mark, base := m.base ▸ r.base,
              bd := by rw [m.base, m.deleteRevision]; exact Nat.le_trans r.bd c3 }, m.deleteRevision ▸ c3⟩
    have hv : s'.view ci = replay (s.view ci) taken := by simp only [St.view, m.logSelf, replay_append]
    rw [hv, m.revision, m.deleteRevision]
    exact hs'
  refine .of_iters ?_ ?_ ?_ ?_ ?_ ?_ (fun cj x hx => ?_) ?_ ?_ (fun cj hcj => ?_)
  · rw [m.root]; exact h.rootT
  · rw [m.wtxn]; exact h.wT
  · rw [m.wtxn, m.oldRoot, m.root]; exact h.wOld
  · rw [m.wtxn, m.root]; exact h.wRel
  · rw [m.root, m.nextTracker]; exact h.freshR
  · rw [m.wtxn, m.nextTracker]; exact h.freshW
  · rcases m.cases hx with ⟨e1, e2⟩ | ⟨a, hx'⟩
    · subst e1 e2
      refine { fresh := by rw [m.nextTracker, m.tracker]; exact h.freshI cj it m.hi, reg := fun hc hl => ?_,
               newI := fun es he hc hm hnr hb => ?_, pend := fun es he hc hm hnr hb => ?_ }
      · rw [m.root, m.table]; exact (hreg (m.closed ▸ hc) (hli hl)).1
      · rw [m.root, m.table] at hnr hb ⊢
        rw [m.table, m.tracker] at hm; rw [m.tracker] at hnr; rw [m.base] at hb
        have n := h.newI es (m.wtxn ▸ he) cj it m.hi (m.closed ▸ hc) hm hnr hb
        exact { tb := m.base ▸ n.tb, carry := n.carry }
      · -- created after earlier writes: the root is stale for it, nothing was delivered
        rw [m.root, m.table] at hnr hb ⊢
        rw [m.table, m.tracker] at hm; rw [m.tracker] at hnr; rw [m.base] at hb
        have p := h.pend es (m.wtxn ▸ he) cj it m.hi (m.closed ▸ hc) hm hnr hb
        have hrev := m.revision
        have hdel := m.deleteRevision
        have hlog := m.logSelf
        rw [m.stale hb] at hrev hdel hlog
        exact p.transfer (hlog.trans (List.append_nil _)) ((m.mark p.mark).trans (hdel.trans p.mark.symm))
          hrev hdel m.tracker m.base
    · exact h.iterOK_same hx' m.root m.wtxn (Nat.le_of_eq m.nextTracker.symm) (m.logOther cj a)
        (m.marks _ fun e => a (h.uniq cj ci x it hx' m.hi e))
  · rw [m.iters]; exact uniq_set! m.hi m.tracker h.uniq
  · rw [m.gcDead]
    refine h.spares.mono (fun i => by rw [m.root]; exact Nat.le_refl _) fun cj x hx hc hl => Or.inr ?_
    rcases m.cases hx with ⟨e1, e2⟩ | ⟨_, hx'⟩
    · subst e1 e2
      exact ⟨cj, it, m.hi, m.closed ▸ hc, m.table.symm, hli hl, (hreg (m.closed ▸ hc) (hli hl)).2⟩
    · exact ⟨cj, x, hx', hc, rfl, hl.congr m.root m.wtxn rfl rfl rfl, Nat.le_refl _⟩
  · rw [m.iters, Array.size_set!] at hcj
    rw [m.logOther cj (Nat.ne_of_gt (Nat.lt_of_lt_of_le (lt_size_of_getElem? m.hi) hcj))]
    exact h.logFresh cj hcj

theorem Inv.next {s : St} (h : Inv s) (ci : Nat) (k : Int) (committed current : List TableS)
    (hc : committed = s.db.root ∨ (s.db.wtxn.isSome ∧ committed = s.db.oldRoot)) :
    Inv { db := (iterNext s.db ci committed current k).1,
          log := fun j => if j = ci then s.log ci ++ (iterNext s.db ci committed current k).2.1 else s.log j } := by
  rcases h.next_cases ci k committed current hc rfl with e | ⟨it, it', taken, rest, m⟩
  · rw [e]; exact h
  · exact h.moved m

theorem Inv.close {s : St} (h : Inv s) (ci : Nat) (hw : s.db.wtxn = none) :
    Inv { s with db := iterClose s.db ci } := by
  rcases iterClose_spec s.db ci with e | ⟨it, h1, e⟩
  · rw [e]; exact h
  · rw [e]
    have hf := tbl_close_fields s.db.root it.table it.tracker
    refine .of_none hw (fun i => ?_) (fun i id hid => h.freshR i id ((hf i).trackers id hid)) (fun cj x hx => ?_)
      (uniq_set! h1 rfl h.uniq) ?_ (fun cj hcj => h.logFresh cj (by rw [← Array.size_set!]; exact hcj))
    · rw [tbl_close]
      split
      · exact (h.rootT i).congr rfl rfl rfl rfl rfl
      · exact h.rootT i
    · rcases getElem?_set!_cases (lt_size_of_getElem? h1) hx with ⟨_, e⟩ | ⟨_, hx'⟩
      · subst e
        exact ⟨h.freshI ci it h1, fun hc => by cases hc⟩
      · have u := hf x.table
        exact ⟨h.freshI cj x hx', fun hc hr =>
          (h.reg cj x hx' hc (.of_registered (u.trackers _ hr))).transfer rfl rfl u.rev u.primary u.grave⟩
    · refine h.spares.mono (fun i => Nat.le_of_eq (hf i).rev.symm) fun cj x hx hc hl => Or.inr ?_
      rcases getElem?_set!_cases (lt_size_of_getElem? h1) hx with ⟨_, e⟩ | ⟨_, hx'⟩
      · subst e; cases hc
      · exact ⟨cj, x, hx', hc, rfl, hl.of_none hw ((hf _).trackers _), Nat.le_refl _⟩

/-- `Spares s (gcScan s.db)`, written out -/
theorem Inv.scan_ok {s : St} (h : Inv s) (i : Nat) (k : Key) (hk : k ∈ deadKeys (gcScan s.db) i) :
    ∃ ρ, k = revKey ρ ∧ ρ ≤ (tbl s.db.root i).rev ∧
      ∀ (ci : Nat) (it : ChangeIter), s.db.iters[ci]? = some it → it.closed = false → it.table = i →
        Live s it → ρ ≤ it.deleteRevision := by
  rw [deadKeys_gcScan] at hk
  obtain ⟨o, hm, hle⟩ := mem_scanKeys s.db (tbl s.db.root i) k hk
  obtain ⟨e, hrev⟩ := (h.rootT i).grK _ _ hm
  refine ⟨o.rev, e, hrev, ?_⟩
  intro ci it hi hc ht hl
  subst ht
  have hreg := h.reg ci it hi hc hl
  -- registered in the root: the low watermark is at most its mark, which is its delete cursor;
  -- created in the open transaction: the committed revision is at most its base, hence its delete cursor
  by_cases hr : it.tracker ∈ (tbl s.db.root it.table).trackers
  · have := hreg.mark
    have := lowWatermark_le_tracker s.db _ _ hr
    omega
  · rcases hl with hl | ⟨es, he, hr', hb⟩
    · exact absurd hl hr
    · have := (h.newI es he ci it hi hc hr' hr hb).tb
      have := hreg.bd
      omega

/-- `gcApplyPaused` and `gcRun`: `dead` is applied, `dead'` is held afterwards -/
theorem Inv.gcWrite {s : St} (h : Inv s) (hw : s.db.wtxn = none) (dead dead' : List (Nat × List Key))
    (hdead : Spares s dead) (hdead' : Spares s dead') (paused trig : Bool) :
    Inv { s with db := { (gcApply s.db dead) with gcDead := dead', gcPaused := paused, gcTrig := trig } } := by
  have hreg : ∀ (it : ChangeIter), it.tracker ∈ (tbl (gcApply s.db dead).root it.table).trackers →
      it.tracker ∈ (tbl s.db.root it.table).trackers :=
    fun it hr => tbl_gcApply_trackers s.db dead it.table ▸ hr
  have hwt : (gcApply s.db dead).wtxn = none := hw
  refine .of_none hwt (fun i => ?_) (fun i id hid => ?_) (fun ci it hi => ⟨h.freshI ci it hi, fun hc hr => ?_⟩)
    h.uniq ?_ h.logFresh
  · show TInv (tbl (gcApply s.db dead).root i)
    rw [tbl_gcApply]; exact tinv_gcTable (h.rootT i) _
  · have hid : id ∈ (tbl (gcApply s.db dead).root i).trackers := hid
    exact h.freshR i id (tbl_gcApply_trackers s.db dead i ▸ hid)
  · have hl : Live s it := .of_registered (hreg it hr)
    show RegOK _ ci it (tbl (gcApply s.db dead).root it.table)
    rw [tbl_gcApply]
    have r := h.reg ci it hi hc hl
    obtain ⟨gr, g, e⟩ := gcTable_frame (tbl s.db.root it.table) (deadKeys dead it.table)
    refine { r with synced := ?_, rle := by rw [e]; exact r.rle, dle := by rw [e]; exact r.dle,
                    base := by rw [e]; exact r.base }
    apply Synced.gcTable (h.rootT it.table) r.synced
    intro k hk
    obtain ⟨ρ, e, _, hall⟩ := hdead it.table k hk
    exact ⟨ρ, e, hall ci it hi hc rfl hl⟩
  · refine hdead'.mono (fun i => ?_) fun ci it hi hc hl =>
      Or.inr ⟨ci, it, hi, hc, rfl, hl.of_none hwt (hreg it), Nat.le_refl _⟩
    exact Nat.le_of_eq (tbl_gcApply_rev s.db dead i).symm

theorem Inv.gcScanStep {s : St} (h : Inv s) :
    Inv { s with db := { s.db with gcDead := gcScan s.db, gcPaused := true, gcTrig := false } } :=
  .of_iters h.rootT h.wT h.wOld h.wRel h.freshR h.freshW
    (fun _ _ hi => h.iterOK_same hi rfl rfl (Nat.le_refl _) rfl rfl) h.uniq
    (Spares.frame (s := s) h.scan_ok rfl rfl fun _ hl => hl) h.logFresh

theorem Step.inv {s s' : St} (st : Step s s') (h : Inv s) : Inv s' := by
  cases st with
  | beginW lm la _ => exact h.beginW lm la
  | commit => exact h.commit
  | abort => exact h.abort
  | write es i t' hw w => exact h.write es i t' hw w
  | create ti => exact h.create ti
  | next ci k committed current hc => exact h.next ci k committed current hc
  | close ci hw => exact h.close ci hw
  | gcScan => exact h.gcScanStep
  | gcApplyPaused hw =>
    exact h.gcWrite hw s.db.gcDead [] h.dead (fun i k hk => by rw [deadKeys_nil] at hk; cases hk)
      (paused := false) (trig := (Tbl.gcApply s.db s.db.gcDead).gcTrig)
  | gcRun hw =>
    exact h.gcWrite hw (Tbl.gcScan s.db) s.db.gcDead h.scan_ok h.dead
      (paused := (Tbl.gcApply s.db (Tbl.gcScan s.db)).gcPaused) (trig := false)

theorem Reach.inv {s : St} (r : Reach s) : Inv s := by
  induction r with
  | init => exact Inv.init
  | step _ st ih => exact st.inv ih
end Sdb.Chg
