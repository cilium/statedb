import SdbModel.Lemmas.ConcInitHist

/-!
  The history of ONE table as a small state machine: its committed version `e` and the set `C` of the records
  (`RecX`: did it register / mark an initializer, the version it loaded, the version it produced) of the writers
  that committed it; the only step that changes anything is a commit (`TStep`).  What the properties say about
  earlier commits are invariants of this machine (`TableHist`, `StaysX`): no threads, no lists, and no ghost
  history, since the thread records keep `regInit`, `markInit` and the versions loaded and produced, frozen from
  the store on, and "later" is read off the revisions.  `Model.Conc` runs one such machine per table (`ComAt st cs x`:
  the records at `x` of the committed writers on `x`): every micro step is a `TStep` of every table (`micro_tstep`).
-/
namespace Sdb.Conc

structure RecX where
  reg : Bool
  mark : Bool
  ent : TableV
  old : TableV

/-- the version `e` of the table and the committed records `C` after one micro step -/
inductive TStep (e : TableV) (C : RecX → Prop) : TableV → (RecX → Prop) → Prop where
  | same : TStep e C e C
  | commit (reg mark : Bool) (n : Nat) :
      TStep e C (clr (uwEntry reg mark n e)) (fun r => C r ∨ r = ⟨reg, mark, uwEntry reg mark n e, e⟩)

/-- a committed writer that loaded a revision not older than `r` registered an initializer -/
def RegLaterX (C : RecX → Prop) (r : Nat) : Prop := ∃ u, C u ∧ u.reg = true ∧ r ≤ u.old.rev

/-- Field names: `WF` the records are well formed, `RL` replaced is older, `DI` collected means initialized (or a
    later registration), `PI` / `PD` the pending flag is exact (pending / not pending); a committer is LATER than a
    record when it loaded a revision at least as new as the one the record produced -/
structure TableHist (e : TableV) (C : RecX → Prop) : Prop where
  WF : ∀ r, C r → ∃ n, r.ent = uwEntry r.reg r.mark n r.old
  RL : ∀ r, C r → r.old.rev < e.rev
  DI : ∀ r, C r → Collectable r.ent → Initialized e ∨ RegLaterX C r.ent.rev
  PI : e.initPending = true → ∃ u, C u ∧ u.reg = true ∧ u.mark = false ∧
    ∀ v, C v → (v.reg = true ∨ v.mark = true) → v.ent.rev ≤ u.ent.rev
  PD : e.initPending = false → ∀ u, C u → u.reg = true → u.mark = false →
    ∃ v, C v ∧ v.mark = true ∧ u.ent.rev ≤ v.old.rev

theorem TableHist.ent_rev {e : TableV} {C : RecX → Prop} (h : TableHist e C) {r : RecX} (hr : C r) :
    r.ent.rev = r.old.rev + 1 ∧ r.ent.rev ≤ e.rev := by
  obtain ⟨n, hn⟩ := h.WF r hr
  have := h.RL r hr
  rw [hn, uwEntry_rev]
  omega

theorem TStep.rev_mono {e e' : TableV} {C C' : RecX → Prop} (h : TStep e C e' C') : e' = e ∨ e.rev < e'.rev := by
  cases h with
  | same => exact .inl rfl
  | commit reg mark n => exact .inr (by rw [clr_uwEntry_rev]; exact Nat.lt_succ_self _)

theorem TStep.init_or_later {e e' : TableV} {C C' : RecX → Prop} (h : TStep e C e' C') {r : Nat} (hr : r ≤ e.rev)
    (hi : Initialized e ∨ RegLaterX C r) : Initialized e' ∨ RegLaterX C' r := by
  cases h with
  | same => exact hi
  | commit reg mark n =>
    rcases hi with hi | ⟨u, hu, h1, h2⟩
    · cases reg with
      | false => exact .inl (clr_uwEntry_noreg _ _ _ hi)
      | true => exact .inr ⟨_, .inr rfl, rfl, hr⟩
    · exact .inr ⟨u, .inl hu, h1, h2⟩

theorem TableHist.step {e e' : TableV} {C C' : RecX → Prop} (h : TableHist e C) (hs : TStep e C e' C') :
    TableHist e' C' := by
  cases hs with
  | same => exact h
  | commit reg mark n =>
    have oldLe : ∀ v, C v → v.ent.rev ≤ e.rev := fun v hv => (h.ent_rev hv).2
    have hrev : (clr (uwEntry reg mark n e)).rev = e.rev + 1 := clr_uwEntry_rev _ _ _ _
    refine ⟨?_, ?_, ?_, ?_, ?_⟩
    · rintro r (hr | rfl)
      · exact h.WF r hr
      · exact ⟨n, rfl⟩
    · rintro r (hr | rfl) <;> rw [hrev]
      · exact Nat.lt_succ_of_lt (h.RL r hr)
      · exact Nat.lt_succ_self _
    · rintro r (hr | rfl) hcol
      · exact (TStep.commit reg mark n).init_or_later (oldLe r hr) (h.DI r hr hcol)
      · exact .inl (clr_collectable _ hcol)
    · intro hp
      rw [clr_uwEntry_pending] at hp
      cases mark with
      | true => cases hp
      | false =>
        cases reg with
        | true =>
          refine ⟨_, .inr rfl, rfl, rfl, ?_⟩
          rintro v (hv | rfl) -
          · exact Nat.le_succ_of_le (oldLe v hv)
          · exact Nat.le_refl _
        | false =>
          obtain ⟨u, hu, h1, h2, hall⟩ := h.PI hp
          refine ⟨u, .inl hu, h1, h2, ?_⟩
          rintro v (hv | rfl) hor
          · exact hall v hv hor
          · cases hor <;> contradiction
    · intro hp u hu h1 h2
      rw [clr_uwEntry_pending] at hp
      rcases hu with hu | rfl
      · cases mark with
        | true => exact ⟨_, .inr rfl, rfl, oldLe u hu⟩
        | false =>
          cases reg with
          | true => cases hp
          | false =>
            obtain ⟨v, hv, rest⟩ := h.PD hp u hu h1 h2
            exact ⟨v, .inl hv, rest⟩
      · cases h1; cases h2; cases hp

theorem TableHist.fresh (w : Nat) {C : RecX → Prop} (hC : ∀ r, ¬ C r) : TableHist { watch := w } C :=
  ⟨fun r hr => absurd hr (hC r), fun r hr => absurd hr (hC r), fun r hr => absurd hr (hC r),
    fun hp => (nomatch hp), fun _ u hu => absurd hu (hC u)⟩

/-- after a snapshot that showed the table initialized at revision `rev0` -/
structure StaysX (rev0 : Nat) (e : TableV) (C : RecX → Prop) : Prop where
  rev_le : rev0 ≤ e.rev
  init_or_later : Initialized e ∨ RegLaterX C rev0

theorem StaysX.step {rev0 : Nat} {e e' : TableV} {C C' : RecX → Prop} (h : StaysX rev0 e C) (hs : TStep e C e' C') :
    StaysX rev0 e' C' :=
  ⟨Nat.le_trans h.rev_le (by rcases hs.rev_mono with e | e; rw [e]; exact Nat.le_refl _; exact Nat.le_of_lt e),
    hs.init_or_later h.rev_le h.init_or_later⟩

def recAt (T : Thread) (x : Nat) : RecX :=
  ⟨T.regInit.contains x, T.markInit.contains x, getT T.entries x, getT T.oldRoot x⟩

def ComAt (st : State) (cs : List Bool) (x : Nat) (r : RecX) : Prop :=
  ∃ (j : Nat) (T : Thread), SW st cs j T ∧ x ∈ lockList T ∧ recAt T x = r

theorem SW.comAt {st : State} {cs : List Bool} {j : Nat} {T : Thread} (h : SW st cs j T) {x : Nat}
    (hx : x ∈ lockList T) : ComAt st cs x (recAt T x) :=
  ⟨j, T, h, hx, rfl⟩

theorem comAt_spawn (st : State) (cs : List Bool) (thn : Thread) (c : Bool) (hlen : cs.length = st.threads.length)
    (hnew : c = true → Micro.act .storeRoot ∈ thn.prog) (x : Nat) :
    ComAt { st with threads := st.threads ++ [thn] } (cs ++ [c]) x = ComAt st cs x :=
  funext fun _ => propext
    ⟨fun ⟨j, T, h, e⟩ => ⟨j, T, (sw_spawn st cs thn c hlen hnew j T).1 h, e⟩,
     fun ⟨j, T, h, e⟩ => ⟨j, T, (sw_spawn st cs thn c hlen hnew j T).2 h, e⟩⟩

theorem recAt_frozen {cs : List Bool} {tid : Nat} {a b : State × Thread} {c : Bool} (ctx : MicroCtx cs tid a b c)
    (hu : Micro.userWrites ∉ a.2.prog) (x : Nat) : recAt b.2 x = recAt a.2 x := by
  obtain ⟨e1, e2⟩ := ctx.frame.written hu
  simp only [recAt, ctx.frame.regInit, ctx.frame.markInit, e1, e2]

theorem comAt_micro {cs : List Bool} {tid : Nat} {a b : State × Thread} {c : Bool} (ctx : MicroCtx cs tid a b c)
    (x : Nat) (r : RecX) :
    ComAt (install b.1 tid b.2) cs x r ↔ ComAt (install a.1 tid a.2) cs x r ∨
      (Micro.act .storeRoot ∈ a.2.prog ∧ Micro.act .storeRoot ∉ b.2.prog ∧ c = true ∧ x ∈ lockList a.2 ∧
        recAt b.2 x = r) := by
  have hL : lockList b.2 = lockList a.2 := lockList_congr _ _ ctx.frame.tables
  have hown := install_own a.1 tid a.2 ctx.lt
  have hown' := install_own b.1 tid b.2 (ctx.threads ▸ ctx.lt)
  have frozen : ∀ h : SW (install a.1 tid a.2) cs tid a.2, recAt b.2 x = recAt a.2 x := fun h =>
    recAt_frozen ctx (storedRec _ cs _ ctx.ci tid a.2 h.thread h.flag h.stored).written x
  constructor
  · rintro ⟨j, T', hT', hx, rfl⟩
    rcases install_lookup a.1 b.1 tid a.2 b.2 ctx.lt ctx.threads j T' hT'.thread with ⟨rfl, rfl⟩ | ⟨_, hold, _⟩
    · by_cases hs : Micro.act .storeRoot ∈ a.2.prog
      · exact .inr ⟨hs, hT'.stored, Option.some.inj (ctx.flag.symm.trans hT'.flag), hL ▸ hx, rfl⟩
      · exact .inl ⟨j, a.2, ⟨hown, hT'.flag, hs⟩, hL ▸ hx, (frozen ⟨hown, hT'.flag, hs⟩).symm⟩
    · exact .inl (SW.comAt ⟨hold, hT'.flag, hT'.stored⟩ hx)
  · rintro (⟨j, T, hT, hx, rfl⟩ | ⟨_, hs', hc, hx, rfl⟩)
    · by_cases hj : j = tid
      · subst hj
        cases Option.some.inj (hown.symm.trans hT.thread)
        exact ⟨j, b.2, ⟨hown', hT.flag, fun hm => hT.stored (ctx.frame.sub _ hm)⟩, hL ▸ hx, frozen hT⟩
      · refine ⟨j, T, ⟨?_, hT.flag, hT.stored⟩, hx, rfl⟩
        rw [install_other _ _ _ (ctx.threads ▸ ctx.lt) hj, ctx.threads, ← install_other a.1 tid a.2 ctx.lt hj]
        exact hT.thread
    · exact SW.comAt ⟨hown', by rw [ctx.flag, hc], hs'⟩ (hL ▸ hx)

theorem comAt_same {cs : List Bool} {tid : Nat} {a b : State × Thread} {c : Bool} (ctx : MicroCtx cs tid a b c)
    (x : Nat) (h : Micro.act .storeRoot ∈ a.2.prog → Micro.act .storeRoot ∉ b.2.prog → x ∉ lockList a.2) :
    ComAt (install b.1 tid b.2) cs x = ComAt (install a.1 tid a.2) cs x :=
  funext fun r => propext ((comAt_micro ctx x r).trans
    ⟨fun g => g.resolve_right fun ⟨hs, hs', _, hxl, _⟩ => h hs hs' hxl, .inl⟩)

theorem micro_tstep {cs : List Bool} {tid : Nat} {a b : State × Thread} {c : Bool} (ctx : MicroCtx cs tid a b c)
    (x : Nat) (hx : x < a.1.root.length) :
    TStep (getT a.1.root x) (ComAt (install a.1 tid a.2) cs x) (getT b.1.root x) (ComAt (install b.1 tid b.2) cs x) := by
  -- a step that does not store this table
  have same : getT b.1.root x = getT a.1.root x →
      (Micro.act .storeRoot ∈ a.2.prog → Micro.act .storeRoot ∉ b.2.prog → x ∉ lockList a.2) →
      TStep (getT a.1.root x) (ComAt (install a.1 tid a.2) cs x) (getT b.1.root x) (ComAt (install b.1 tid b.2) cs x) :=
    fun hr hs => by
    rw [hr, comAt_same ctx x hs]; exact .same
  cases ctx.eff with
  | quiet hroot _ hstore => exact same (by rw [hroot]) fun hs hs' => absurd (hstore.2 hs) hs'
  | notify _ hroot _ _ _ hstored => exact same (by rw [hroot]) fun hs => absurd hs hstored
  | closeInit _ hroot _ _ _ hstored => exact same (by rw [hroot]) fun hs => absurd hs hstored
  | register hnotab _ _ _ hroot =>
    exact same (by rw [hroot]; exact getT_append_left _ _ _ hx)
      fun _ _ => by rw [lockList_nil a.2 hnotab]; exact List.not_mem_nil
  | commit hc _ hahead hgone hwritten _ _ htables =>
    by_cases hxl : x ∈ lockList a.2
    · obtain ⟨hseen, ⟨n, hn⟩, hnew⟩ := (htables x hx).1 hxl
      have hrec : recAt b.2 x = ⟨a.2.regInit.contains x, a.2.markInit.contains x,
          uwEntry (a.2.regInit.contains x) (a.2.markInit.contains x) n (getT a.1.root x), getT a.1.root x⟩ := by
        rw [recAt_frozen ctx hwritten x, recAt, hn, hseen]
      have : ComAt (install b.1 tid b.2) cs x = fun r => ComAt (install a.1 tid a.2) cs x r ∨ r = _ :=
        funext fun r => propext ((comAt_micro ctx x r).trans
          ⟨fun k => k.imp id fun ⟨_, _, _, _, hr⟩ => hr.symm.trans hrec,
            fun k => k.imp id fun hr => ⟨hahead, hgone, hc, hxl, hrec.trans hr.symm⟩⟩)
      rw [hnew, hn, this]
      exact .commit _ _ n
    · exact same ((htables x hx).2 hxl) fun _ _ => hxl

def Hist (st : State) (cs : List Bool) : Prop :=
  ∀ x, x < st.root.length → TableHist (getT st.root x) (ComAt st cs x)

theorem comAt_bound {st : State} {cs : List Bool} {run : Option Nat} (h : CI st cs run) {x : Nat} {r : RecX}
    (hr : ComAt st cs x r) : x < st.root.length := by
  obtain ⟨j, T, hT, hx, _⟩ := hr
  exact (storedRec st cs run h j T hT.thread hT.flag hT.stored).bound x hx

theorem Hist_micro (cs : List Bool) (tid : Nat) (a b : State × Thread) (c : Bool) (ctx : MicroCtx cs tid a b c)
    (h : Hist (install a.1 tid a.2) cs) : Hist (install b.1 tid b.2) cs := by
  intro x hx
  by_cases hxa : x < a.1.root.length
  · exact (h x hxa).step (micro_tstep ctx x hxa)
  · -- a table appended by this step: nobody has committed it
    have hC : ∀ r, ¬ ComAt (install b.1 tid b.2) cs x r := fun r hr => by
      rcases (comAt_micro ctx x r).1 hr with g | g
      · exact hxa (comAt_bound ctx.ci g)
      · obtain ⟨_, _, _, hxl, _⟩ := g
        exact hxa ((ctx.ci.thread (install_own a.1 tid a.2 ctx.lt) ctx.flag).bound x hxl)
    cases ctx.eff with
    | register _ _ _ _ hroot =>
      have hxe : x = a.1.root.length := by
        have : x < (a.1.root ++ [({ watch := a.1.nextChan } : TableV)]).length := hroot ▸ hx
        simp only [List.length_append, List.length_singleton] at this; omega
      show TableHist (getT b.1.root x) _
      rw [hroot, hxe, getT_append_length]
      exact .fresh _ (hxe ▸ hC)
    | quiet hroot | notify _ hroot | closeInit _ hroot => exact absurd (show x < a.1.root.length from hroot ▸ hx) hxa
    | commit _ _ _ _ _ hlen => exact absurd (show x < a.1.root.length from hlen ▸ hx) hxa

theorem reach_hist (P : Protocol) (hP : P.initShape = true) (n : Nat) (st : State) (cs : List Bool)
    (h : Reach P n st cs) : Hist st cs :=
  reachFrom_inv P hP n _ _ .init Hist
    (fun st cs thn c hlen hnew h x hx => by rw [comAt_spawn st cs thn c hlen hnew x]; exact h x hx) Hist_micro
    (fun x hx => by
      have hx' : x < n := by simpa [initState] using hx
      rw [show (initState n).root = (List.range n).map fun i => ({ watch := i + 1 } : TableV) from rfl, getT_init n x hx']
      exact .fresh _ fun r ⟨j, T, hT, _⟩ => by have := hT.thread; simp [initState] at this)
    st cs (reachFrom_of_reach P n st cs h)

theorem later_table (P : Protocol) (hP : P.initShape = true) (n : Nat) (st0 : State) (cs0 : List Bool)
    (h0 : Reach P n st0 cs0) (x : Nat) (Q : TableV → (RecX → Prop) → Prop)
    (hQ : ∀ e C e' C', Q e C → TStep e C e' C' → Q e' C')
    (hx : x < st0.root.length) (hq : Q (getT st0.root x) (ComAt st0 cs0 x))
    (st : State) (cs : List Bool) (h : ReachFrom P st0 cs0 st cs) :
    x < st.root.length ∧ Q (getT st.root x) (ComAt st cs x) :=
  reachFrom_inv P hP n st0 cs0 h0 (fun s cs => x < s.root.length ∧ Q (getT s.root x) (ComAt s cs x))
    (fun st cs thn c hlen hnew h => by rw [comAt_spawn st cs thn c hlen hnew x]; exact h)
    (fun cs tid a b c ctx h => ⟨Nat.lt_of_lt_of_le h.1 ctx.eff.root_len, hQ _ _ _ _ h.2 (micro_tstep ctx x h.1)⟩)
    ⟨hx, hq⟩ st cs h

theorem version_same_or_newer (P : Protocol) (hP : P.initShape = true) (n : Nat) (st0 : State) (cs0 : List Bool)
    (h0 : Reach P n st0 cs0) (st : State) (cs : List Bool) (h : ReachFrom P st0 cs0 st cs) (x : Nat)
    (hx : x < st0.root.length) :
    x < st.root.length ∧
    (getT st.root x = getT st0.root x ∨ (getT st0.root x).rev < (getT st.root x).rev) :=
  later_table P hP n st0 cs0 h0 x (fun e _ => e = getT st0.root x ∨ (getT st0.root x).rev < e.rev)
    (fun e C e' C' hq hs => by
      rcases hs.rev_mono with rfl | hlt
      · exact hq
      · exact .inr (hq.elim (fun e0 => e0 ▸ hlt) fun h => Nat.lt_trans h hlt))
    hx (.inl rfl) st cs h

theorem stays_initialized (P : Protocol) (hP : P.initShape = true) (n : Nat) (st0 : State) (cs0 : List Bool)
    (h0 : Reach P n st0 cs0) (st : State) (cs : List Bool) (h : ReachFrom P st0 cs0 st cs) (x : Nat)
    (hx : x < st0.root.length) (hi : Initialized (getT st0.root x)) :
    x < st.root.length ∧ StaysX (getT st0.root x).rev (getT st.root x) (ComAt st cs x) :=
  later_table P hP n st0 cs0 h0 x (StaysX (getT st0.root x).rev) (fun _ _ _ _ => StaysX.step) hx
    ⟨Nat.le_refl _, .inl hi⟩ st cs h

end Sdb.Conc
