import SdbModel.Lemmas.ReconcilerProgressRound

/-!
  The retry low-watermark a round reports (`progressLW`): it is read after the due retries were
  processed and BEFORE their status commits re-queue the ones that failed again.  These commits
  keep every item's `origRev`, so it is the low-watermark of the state the round leaves.
-/
namespace Sdb.Rec

/-- the retry low-watermark: 0 if there are no items, else the least `origRev` -/
structure IsLw (items : List Item) (lw : Nat) : Prop where
  zero_iff : lw = 0 ↔ items = []
  le : ∀ i ∈ items, lw ≤ i.origRev
  attained : items ≠ [] → ∃ i ∈ items, lw = i.origRev

/-- `lwOf_spec` where every item is in the revision queue (`IOK.rq`) -/
theorem lwOf_isLw (items : List Item) (hpos : ∀ i ∈ items, 0 < i.origRev) (hrq : ∀ i ∈ items, i.inRevQueue = true) :
    IsLw items (lwOf items) := by
  obtain ⟨a, b, c⟩ := lwOf_spec items hpos
  rw [List.filter_eq_self.2 hrq] at a b c
  exact ⟨a, b, c⟩

theorem IsLw.congr {l1 l2 : List Item} {a b : Nat} (h1 : IsLw l1 a) (h2 : IsLw l2 b)
    (h12 : ∀ i ∈ l1, ∃ j ∈ l2, j.origRev = i.origRev) (h21 : ∀ j ∈ l2, ∃ i ∈ l1, i.origRev = j.origRev) : a = b := by
  by_cases hn : l1 = []
  · have hn2 : l2 = [] := by
      cases h2 : l2 with
      | nil => rfl
      | cons j js =>
        obtain ⟨i, hi, _⟩ := h21 j (by rw [h2]; exact List.mem_cons_self ..)
        rw [hn] at hi; cases hi
    rw [h1.zero_iff.2 hn, h2.zero_iff.2 hn2]
  · obtain ⟨i, hi, ei⟩ := h1.attained hn
    obtain ⟨i', hi', ei'⟩ := h12 i hi
    have hn2 : l2 ≠ [] := by intro e; rw [e] at hi'; cases hi'
    obtain ⟨j, hj, ej⟩ := h2.attained hn2
    obtain ⟨j', hj', ej'⟩ := h21 j hj
    have := h2.le i' hi'
    have := h1.le j' hj'
    omega

structure PoppedFor (res : Res) (it : Item) : Prop where
  id : it.id = res.1.id
  out : it.inQueue = false
  obj : it.obj = res.2.1

/-- every failed result waiting for its commit stands for a popped item; failed results are for
    different objects -/
structure RP (v : V) (rs : List Res) : Prop where
  popped : ∀ res ∈ rs, res.2.2.2.2 = true → ∃ it ∈ v.items, PoppedFor res it
  distinct : rs.Pairwise (fun a b => a.2.2.2.2 = true → b.2.2.2.2 = true → a.1.id ≠ b.1.id)

theorem rp_nil (v : V) : RP v [] := ⟨fun res hr => (by cases hr), List.Pairwise.nil⟩

theorem rp_retry : RetryStep RP where
  step r h hd hq := by
    -- an item a failed result stands for is out of the time queue, so it is not the head
    have hne : ∀ res ∈ r.results, res.2.2.2.2 = true → ∀ it ∈ r.v.items, it.id = res.1.id → it.inQueue = false → it.id ≠ h.id := by
      intro res _ _ it hit _ e2 e
      rw [eq_of_id hd.inv.items_pw hit hd.mem e, hd.queued] at e2; cases e2
    refine ⟨fun res hr hf => ?_, ?_⟩
    · rcases List.mem_append.1 hr with hr | hr
      · obtain ⟨it, hit, p⟩ := hq.popped res hr hf
        exact ⟨it, mem_single_other hit (hne res hr hf it hit p.id p.out) h.obj hd.objId h.rev _ _, p⟩
      · -- the result of the Update just retried: it stands for the popped head
        obtain ⟨hdel, rfl⟩ := mem_resOf.1 hr
        rw [hdel, show r.isFailing h.obj.id = true from hf, single_ut]
        exact ⟨popItem h.id h, List.mem_map.2 ⟨h, hd.mem, rfl⟩,
          { id := (popItem_id ..).trans hd.objId.symm, out := by rw [popItem_of_eq rfl], obj := popItem_obj .. }⟩
    · rw [List.pairwise_append]
      refine ⟨hq.distinct, ?_, fun a ha b hb hfa _ => ?_⟩
      · cases h.delete
        · exact List.pairwise_singleton _ _
        · exact List.Pairwise.nil
      · obtain ⟨it, hit, p⟩ := hq.popped a ha hfa
        have hbid : b.1.id = h.obj.id := by rw [(mem_resOf.1 hb).2]
        rw [hbid, hd.objId, ← p.id]
        exact hne a ha hfa it hit p.id p.out

theorem rp_commit : CommitSteps RP where
  drop _ _ _ hq := ⟨fun x hx => hq.popped x (List.mem_cons_of_mem _ hx), (List.pairwise_cons.1 hq.distinct).2⟩
  write r res rs _ hc hq := by
    have hpw := List.pairwise_cons.1 hq.distinct
    have horig := (hc.inv.resOK res (List.mem_cons_self ..)).orig_id
    refine ⟨fun x hx hfx => ?_, hpw.2⟩
    obtain ⟨i, hi, p⟩ := hq.popped x (List.mem_cons_of_mem _ hx) hfx
    exact ⟨i, (mem_commit_items ..).2 (Or.inl ⟨hi, fun hf e' => hpw.1 x hx hf hfx ((horig.symm.trans e'.symm).trans p.id)⟩), p⟩

/-- the item a failed result queues takes over `origRev` and `numRetries` of the popped item `i` it replaces -/
theorem RP.requeued {r : R} {res : Res} {rs : List Res} (h : RP r.v (res :: rs)) (hI : InvL r (res :: rs)) (hf : res.2.2.2.2 = true) :
    ∃ i ∈ r.items, PoppedFor res i ∧ i.id = res.2.1.id := by
  obtain ⟨i, hi, p⟩ := h.popped res (List.mem_cons_self ..) hf
  exact ⟨i, hi, p, p.id.trans (hI.resOK res (List.mem_cons_self ..)).orig_id.symm⟩

/-- the motive of the second status commit: the items have the same `origRev`s as the items `I5`
    of the state the low-watermark was read in -/
structure M2 (I5 : List Item) (v : V) (rs : List Res) : Prop where
  fromI5 : ∀ it ∈ v.items, ∃ it5 ∈ I5, it5.origRev = it.origRev
  toI5 : ∀ it5 ∈ I5, ∃ it ∈ v.items, it.origRev = it5.origRev
  rp : RP v rs

theorem m2_init {v : V} {rs : List Res} (h : RP v rs) : M2 v.items v rs :=
  ⟨fun it hit => ⟨it, hit, rfl⟩, fun it hit => ⟨it, hit, rfl⟩, h⟩

theorem m2_commit (I5 : List Item) : CommitSteps (M2 I5) where
  drop v res rs hq := ⟨hq.fromI5, hq.toI5, rp_commit.drop v res rs hq.rp⟩
  write r res rs cur hc hq := by
    have hI := hc.inv
    refine ⟨fun x hx => ?_, fun it5 h5 => ?_, rp_commit.write r res rs cur hc hq.rp⟩
    · rcases (mem_commit_items ..).1 hx with ⟨hm, _⟩ | ⟨hf, e⟩
      · exact hq.fromI5 x hm
      · obtain ⟨i, hi, _, hid⟩ := hq.rp.requeued hI hf
        rw [e]
        show ∃ it5 ∈ I5, it5.origRev = prevO _ _ _
        rw [v_items, ← hid, prevO_of_mem hI.items_pw hi]; exact hq.fromI5 i hi
    · obtain ⟨x, hx, ex⟩ := hq.toI5 it5 h5
      by_cases hxi : res.2.2.2.2 = true ∧ x.id = res.2.1.id
      · obtain ⟨i, hi, _, hid⟩ := hq.rp.requeued hI hxi.1
        refine ⟨_, (mem_commit_items ..).2 (Or.inr ⟨hxi.1, rfl⟩), ?_⟩
        show prevO _ _ _ = _
        rw [v_items, ← hid, prevO_of_mem hI.items_pw hi, ← eq_of_id hI.items_pw hx hi (hxi.2.trans hid.symm)]; exact ex
      · exact ⟨x, (mem_commit_items ..).2 (Or.inl ⟨hx, fun hf e => hxi ⟨hf, e⟩⟩), ex⟩

theorem round_lw {r : R} (hr : RInv r) (hx : XL r.v []) (hit : ItLe r) : r.round.progressLW = r.round.lowWatermark := by
  obtain ⟨hI4, hcu4, hI5⟩ := tail_invL hr.single_mid
  have hq := xl_tail hr hx hit
  have hm := tail6_ind (m2_commit _) hI5 (m2_init (tail5_ind rp_retry hI4 hcu4 (rp_nil _)))
  have h56 := hm.toI5
  have h65 := hm.fromI5
  have h5 := hq.at5.x.items
  have h6 := hq.at6.x.items
  -- stated of `.v.items`, these make the last step unfold the stages
  simp only [v_items] at h56 h65 h5 h6
  rw [round_progressLW, lowWatermark_eq, lowWatermark_eq, round_items]
  exact (lwOf_isLw _ (fun i hi => (h5 i hi).opos) (fun i hi => (h5 i hi).rq)).congr
    (lwOf_isLw _ (fun i hi => (h6 i hi).opos) (fun i hi => (h6 i hi).rq)) h56 h65

theorem XL.isLw {r : R} (hx : XL r.v []) : IsLw r.items r.lowWatermark :=
  lwOf_isLw r.items (fun i hi => (hx.items i hi).opos) (fun i hi => (hx.items i hi).rq)

end Sdb.Rec
