import SdbModel.Lemmas.PMap

/-! `part.Set` (`Model.PMap.PSet`) refines the strictly ascending list of its elements.  In `SetWF` an
    allocated tree may be empty (`UnmarshalYAML []`, `Difference`). -/
namespace Sdb.PMap
open Sdb.Art

def SetWF (s : PSet) : Prop := ∀ t, s.tree = some t → TreeWF t

theorem setWF_empty : SetWF {} := fun t h => by simp at h

theorem setWF_tree (t : Tree) (h : TreeWF t) : SetWF { tree := some t } :=
  fun t' h' => by simp at h'; rw [← h']; exact h

theorem SetWF.cases {s : PSet} (h : SetWF s) : s = {} ∨ ∃ t, s = { tree := some t } ∧ TreeWF t := by
  obtain ⟨t⟩ := s
  cases t with
  | none => exact Or.inl rfl
  | some t => exact Or.inr ⟨t, rfl, h t rfl⟩

theorem pset_all_ksorted (s : PSet) (h : SetWF s) : KSorted s.all := by
  rcases h.cases with rfl | ⟨t, rfl, ht⟩
  · simp [PSet.all, KSorted]
  · exact ksorted_keys _ (allRoot_sorted _ ht.rootWF)

theorem pset_len_length (s : PSet) (h : SetWF s) : s.len = s.all.length := by
  rcases h.cases with rfl | ⟨t, rfl, ht⟩
  · rfl
  · simp only [PSet.len, PSet.all, List.length_map]; exact ht.size_eq

/-! the loops of `NewSet` and the decoders (over the values) and of `Union` / `Difference` (over the
    entries of the other tree) -/

theorem foldl_insK {α : Type} (P : ArtParams) (key : α → List Nat) (as : List α) (x : Txn) (h : TxnWF x) :
    TxnWF (as.foldl (fun x a => insT P x (key a) 0) x) ∧
    ∀ q, q ∈ (allRoot (as.foldl (fun x a => insT P x (key a) 0) x).root).map (·.1) ↔
      q ∈ as.map key ∨ q ∈ (allRoot x.root).map (·.1) := by
  have e : as.foldl (fun x a => insT P x (key a) 0) x =
      (as.map (fun a => ((key a, 0) : KV))).foldl (fun x (e : KV) => insT P x e.1 e.2) x := by
    rw [List.foldl_map]
  rw [e]
  obtain ⟨h1, h2⟩ := foldl_insT P (as.map (fun a => ((key a, 0) : KV))) x h
  refine ⟨h1, fun q => ?_⟩
  rw [h2, keys_sinsertAll, List.map_map]
  rfl

theorem foldl_delK {α : Type} (P : ArtParams) (key : α → List Nat) (as : List α) (x : Txn) (h : TxnWF x) :
    TxnWF (as.foldl (fun x a => (x.delete P (key a)).1) x) ∧
    allRoot (as.foldl (fun x a => (x.delete P (key a)).1) x).root = sdeleteAll (allRoot x.root) (as.map key) := by
  induction as generalizing x with
  | nil => exact ⟨h, rfl⟩
  | cons a as ih =>
    have hdel := Txn_delete_spec P x (key a) h
    have := ih _ hdel.wf
    rw [hdel.all] at this
    exact this

theorem pset_ofYAML_spec (P : ArtParams) (vs : List (List Nat)) :
    SetWF (PSet.ofYAML P vs) ∧ ∀ q, q ∈ (PSet.ofYAML P vs).all ↔ q ∈ vs := by
  obtain ⟨h1, h2⟩ := foldl_insK P id vs _ (txnOf_wf _ emptyTree_wf)
  rw [List.map_id] at h2
  exact ⟨setWF_tree _ (commitT_wf _ h1), fun q => (h2 q).trans (or_iff_left List.not_mem_nil)⟩

theorem pset_ofList_spec (P : ArtParams) (vs : List (List Nat)) :
    SetWF (PSet.ofList P vs) ∧ ∀ q, q ∈ (PSet.ofList P vs).all ↔ q ∈ vs := by
  cases vs with
  | nil => exact ⟨setWF_empty, fun _ => Iff.rfl⟩
  | cons v vs => exact pset_ofYAML_spec P (v :: vs)

/-- `UnmarshalJSON` and `Delete` return the zero set instead of an empty tree: same elements -/
theorem dropEmpty_spec (t : Tree) (h : TreeWF t) :
    SetWF (if t.size = 0 then {} else { tree := some t }) ∧
    PSet.all (if t.size = 0 then {} else { tree := some t }) = (allRoot t.root).map (·.1) := by
  split
  · rename_i hz
    rw [h.size_eq] at hz
    rw [List.eq_nil_of_length_eq_zero hz]
    exact ⟨setWF_empty, rfl⟩
  · exact ⟨setWF_tree t h, rfl⟩

theorem pset_ofJSON_spec (P : ArtParams) (vs : List (List Nat)) :
    SetWF (PSet.ofJSON P vs) ∧ ∀ q, q ∈ (PSet.ofJSON P vs).all ↔ q ∈ vs := by
  obtain ⟨hw, hm⟩ := pset_ofYAML_spec P vs
  obtain ⟨hw', ha⟩ := dropEmpty_spec _ (hw _ rfl)
  refine ⟨hw', fun q => ?_⟩
  rw [show (PSet.ofJSON P vs).all = (PSet.ofYAML P vs).all from ha]
  exact hm q

theorem pset_set_spec (P : ArtParams) (s : PSet) (h : SetWF s) (k : List Nat) :
    SetWF (s.set P k) ∧ ∀ q, q ∈ (s.set P k).all ↔ q = k ∨ q ∈ s.all := by
  have hw : TreeWF (s.tree.getD emptyTree) := by
    rcases h.cases with rfl | ⟨t, rfl, ht⟩
    · exact emptyTree_wf
    · exact ht
  have ha : (allRoot (s.tree.getD emptyTree).root).map (·.1) = s.all := by
    rcases h.cases with rfl | ⟨t, rfl, ht⟩ <;> rfl
  have h0 := txnOf_wf _ hw
  refine ⟨setWF_tree _ (commitT_wf _ (insT_wf P _ k 0 h0)), fun q => ?_⟩
  show q ∈ (allRoot (commitT _).root).map (·.1) ↔ _
  rw [commitT_all, insT_all P _ k 0 h0, keys_sinsert, txnOf_all, ha]

theorem pset_delete_spec (P : ArtParams) (s : PSet) (h : SetWF s) (k : List Nat) :
    SetWF (s.delete P k) ∧ (s.delete P k).all = s.all.filter (fun q => decide (q ≠ k)) := by
  rcases h.cases with rfl | ⟨t, rfl, ht⟩
  · exact ⟨setWF_empty, rfl⟩
  · have hdel := Txn_delete_spec P (txnOf t) k ht
    obtain ⟨hw, ha⟩ := dropEmpty_spec _ (commitT_wf _ hdel.wf)
    refine ⟨hw, ?_⟩
    show PSet.all (if _ then _ else _) = List.filter _ ((allRoot t.root).map (·.1))
    rw [ha, commitT_all, hdel.all, keys_sdelete]
    rfl

theorem pset_union_spec (P : ArtParams) (s s2 : PSet) (h : SetWF s) (h2 : SetWF s2) :
    SetWF (s.union P s2) ∧ ∀ q, q ∈ (s.union P s2).all ↔ q ∈ s.all ∨ q ∈ s2.all := by
  rcases h2.cases with rfl | ⟨t2, rfl, ht2⟩
  · exact ⟨h, fun q => (or_iff_left List.not_mem_nil).symm⟩
  · rcases h.cases with rfl | ⟨t, rfl, ht⟩
    · exact ⟨h2, fun q => (or_iff_right List.not_mem_nil).symm⟩
    · obtain ⟨h3, h4⟩ := foldl_insK P (·.1) (allRoot t2.root) (txnOf t) ht
      exact ⟨setWF_tree _ (commitT_wf _ h3), fun q => (h4 q).trans Or.comm⟩

theorem pset_difference_spec (P : ArtParams) (s s2 : PSet) (h : SetWF s) (h2 : SetWF s2) :
    SetWF (s.difference P s2) ∧ (s.difference P s2).all = s.all.filter (fun q => decide (q ∉ s2.all)) := by
  rcases h.cases with rfl | ⟨t, rfl, ht⟩
  · exact ⟨setWF_empty, rfl⟩
  · rcases h2.cases with rfl | ⟨t2, rfl, ht2⟩
    · exact ⟨h, (List.filter_eq_self.mpr (by simp [PSet.all])).symm⟩
    · obtain ⟨h3, h4⟩ := foldl_delK P (·.1) (allRoot t2.root) (txnOf t) ht
      refine ⟨setWF_tree _ (commitT_wf _ h3), ?_⟩
      show (allRoot (commitT _).root).map (·.1) = _
      rw [commitT_all, h4, keys_sdeleteAll]
      rfl

theorem pset_equal_iff (s o : PSet) (h : SetWF s) (h2 : SetWF o) : s.equal o = true ↔ s.all = o.all := by
  have l1 := pset_len_length s h
  have l2 := pset_len_length o h2
  unfold PSet.equal
  split
  · rename_i hn
    simp only [Bool.and_eq_true, Option.isNone_iff_eq_none] at hn
    simp [PSet.all, hn.1, hn.2]
  · split
    · rename_i hl
      simp only [bne_iff_ne, ne_eq] at hl
      simp only [Bool.false_eq_true, false_iff]
      intro e; apply hl; rw [l1, l2, e]
    · simp

end Sdb.PMap
