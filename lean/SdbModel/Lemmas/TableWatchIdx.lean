import SdbModel.Model.TableWatch
import SdbModel.Lemmas.ArtRefine
import SdbModel.Lemmas.ArtInv
import SdbModel.Lemmas.OMap
import SdbModel.Props.C12
/-!
  The C06 glue for ONE index of a table: a sorted index map of Model.Table (`OMap Obj`) beside the
  radix tree Model.TableWatch keeps for it.

  The tree stores, under every key of the map, the revision of the object stored there (`rmap`), so the
  refinement is stated against the reference lists of C11 (`sinsert` / `sdelete` / `look` on
  `List (Key × Nat)`).  `Track` is the invariant of the index inside a write transaction, `CInv` that of
  the committed index.  From the two: a Commit closes the channel of every query whose key / prefix / map
  changed (`commit_closes_*`: `Track` fed into the any-calls theorems of C12), and any Commit closes a
  query's channel or leaves the query with the same channel on the new tree (`CIdx.keep_or_close`).
-/
namespace Sdb.TW
open Sdb.Art Sdb.Tbl Sdb.ArtW

def rmap (m : OMap Obj) : List (Key × Nat) := m.map fun e => (e.1, e.2.rev)

@[simp] theorem rmap_nil : rmap [] = [] := rfl
@[simp] theorem rmap_cons (k : Key) (o : Obj) (r : OMap Obj) : rmap ((k, o) :: r) = (k, o.rev) :: rmap r := rfl

theorem mem_rmap (m : OMap Obj) (k : Key) (v : Nat) : (k, v) ∈ rmap m ↔ ∃ o, (k, o) ∈ m ∧ o.rev = v := by
  unfold rmap
  simp only [List.mem_map, Prod.mk.injEq, Prod.exists]
  constructor
  · rintro ⟨a, o, h, rfl, rfl⟩; exact ⟨o, h, rfl⟩
  · rintro ⟨o, h, rfl⟩; exact ⟨k, o, h, rfl, rfl⟩

theorem rmap_sorted (m : OMap Obj) : Art.Sorted (rmap m) ↔ OMap.Sorted m := by
  unfold Art.Sorted OMap.Sorted rmap
  rw [List.pairwise_map]
  rfl

theorem look_rmap (m : OMap Obj) (hs : OMap.Sorted m) (k : Key) : look (rmap m) k = (OMap.get m k).map (·.rev) := by
  apply Option.ext
  intro v
  rw [← mem_iff_look _ ((rmap_sorted m).mpr hs), mem_rmap, Option.map_eq_some_iff]
  simp only [OMap.mem_iff_get m hs]

/-- a sorted list is determined by its lookups: `rmap_insert` / `rmap_erase` need no induction over the map -/
theorem rmap_eq_of_look {m : OMap Obj} {l : List (Key × Nat)} (hm : OMap.Sorted m) (hl : Art.Sorted l)
    (h : ∀ k, look l k = (OMap.get m k).map (·.rev)) : rmap m = l := by
  have hr := (rmap_sorted m).mpr hm
  apply sorted_ext _ _ hr hl
  intro ⟨k, v⟩
  rw [mem_iff_look _ hr, mem_iff_look _ hl, look_rmap m hm, h]

theorem rmap_insert (m : OMap Obj) (hs : OMap.Sorted m) (k : Key) (o : Obj) :
    rmap (OMap.insert m k o) = sinsert (rmap m) k o.rev :=
  rmap_eq_of_look (OMap.sorted_insert m hs k o) (sinsert_sorted _ ((rmap_sorted m).mpr hs) _ _) fun k' => by
    rw [look_sinsert, look_rmap m hs, OMap.get_insert]; split <;> rfl

theorem rmap_erase (m : OMap Obj) (hs : OMap.Sorted m) (k : Key) : rmap (OMap.erase m k) = sdelete (rmap m) k :=
  rmap_eq_of_look (OMap.sorted_erase m hs k) (sdelete_sorted _ ((rmap_sorted m).mpr hs) _) fun k' => by
    rw [look_sdelete, look_rmap m hs, OMap.get_erase m hs]; split <;> rfl

theorem sorted_of_rmap {root : Option Node} {m : OMap Obj} (wf : RootWF root) (ent : allRoot root = rmap m) :
    OMap.Sorted m := by
  rw [← rmap_sorted, ← ent]
  exact allRoot_sorted root wf

def IOp.onMap (m : OMap Obj) : IOp → OMap Obj
  | .ins k o => OMap.insert m k o
  | .del k => OMap.erase m k
  | _ => m

/-- the calls an index operation makes on the part transaction -/
def IOp.aop : IOp → List ArtW.Op
  | .open => []
  | .ins k o => [.insert k o.rev none]
  | .del k => [.delete k]
  | .bump => [.bump]

theorem onTxn_eq (x : Txn) (op : IOp) : op.onTxn x = ArtW.run AP x op.aop := by
  cases op <;> rfl

theorem touched_append (P : ArtParams) (k : List Nat) (a b : List ArtW.Op) (x : Txn) :
    touched P x k (a ++ b) = (touched P x k a || touched P (ArtW.run P x a) k b) := by
  induction a generalizing x with
  | nil => simp [touched, ArtW.run]
  | cons o a ih =>
    simp only [List.cons_append, touched, ArtW.run_cons, ih, Bool.or_assoc]

theorem touchedP_append (P : ArtParams) (q : List Nat) (a b : List ArtW.Op) (x : Txn) :
    touchedP P x q (a ++ b) = (touchedP P x q a || touchedP P (ArtW.run P x a) q b) := by
  induction a generalizing x with
  | nil => simp [touchedP, ArtW.run]
  | cons o a ih =>
    simp only [List.cons_append, touchedP, ArtW.run_cons, ih, Bool.or_assoc]

theorem touched_touchedP (P : ArtParams) (k q : List Nat) (hq : hasPrefix k q = true) (ops : List ArtW.Op) (x : Txn)
    (h : touched P x k ops = true) : touchedP P x q ops = true := by
  induction ops generalizing x with
  | nil => simp [touched] at h
  | cons o ops ih =>
    simp only [touched, Bool.or_eq_true] at h
    simp only [touchedP, Bool.or_eq_true]
    rcases h with h | h
    · left
      cases o with
      | insert k' v m =>
        simp only [touchedBy, beq_iff_eq] at h
        subst h
        simpa [touchedByP] using hq
      | delete k' =>
        simp only [touchedBy, Bool.and_eq_true, beq_iff_eq] at h
        obtain ⟨rfl, h2⟩ := h
        simp [touchedByP, hq, h2]
      | bump => simp [touchedBy] at h
    · right; exact ih _ h

theorem IOp.spec {x : Txn} {m : OMap Obj} (wf : Art.TxnWF x) (ent : allRoot x.root = rmap m) (op : IOp) :
    Art.TxnWF (op.onTxn x) ∧ allRoot (op.onTxn x).root = rmap (op.onMap m) ∧
    ∀ k, OMap.get (op.onMap m) k ≠ OMap.get m k → touched AP x k op.aop = true := by
  have hs := sorted_of_rmap wf.rootWF ent
  cases op with
  | «open» => exact ⟨wf, ent, fun _ hk => absurd rfl hk⟩
  | bump => exact ⟨wf, ent, fun _ hk => absurd rfl hk⟩
  | ins k' o =>
    have hok := Txn_insert_spec AP x k' o.rev none wf
    refine ⟨hok.wf, ?_, fun k hk => ?_⟩
    · have hnv := hok.nv
      rw [mergedVal_none] at hnv
      rw [IOp.onMap, rmap_insert m hs, ← ent, ← hnv]; exact hok.all
    · have hkk : k' = k := Classical.byContradiction fun hne => hk (OMap.get_insert_other m k' k o (Ne.symm hne))
      simp [IOp.aop, touched, touchedBy, hkk]
  | del k' =>
    have hok := Txn_delete_spec AP x k' wf
    refine ⟨hok.wf, by rw [IOp.onMap, rmap_erase m hs, ← ent]; exact hok.all, fun k hk => ?_⟩
    have hkk : k' = k := Classical.byContradiction fun hne => hk (OMap.get_erase_other m hs k' k (Ne.symm hne))
    subst hkk
    -- `touchedBy` counts a delete only if the key was there; if it was not, the map did not change either
    have hpres : ((x.delete AP k').2).isSome = true := by
      rw [hok.old, ent, look_rmap m hs]
      cases hg : OMap.get m k' with
      | none => exact absurd (congrArg (OMap.get · k') (OMap.erase_absent m hs k' hg)) hk
      | some _ => rfl
    simp [IOp.aop, touched, touchedBy, hpres]

theorem WIdx.cur_some {w : WIdx} {x : Txn} (h : w.txn = some x) (wd : World) : w.cur wd = x := by
  unfold WIdx.cur; rw [h]; rfl

theorem WIdx.cur_none {w : WIdx} (h : w.txn = none) (wd : World) : w.cur wd = w.tree.txn wd := by
  unfold WIdx.cur; rw [h]; rfl

theorem WIdx.view_root (w : WIdx) (wd : World) : w.view.root = (w.cur wd).root := by
  unfold WIdx.view WIdx.cur
  cases w.txn <;> rfl

/-- The index `w` inside a write transaction opened, in the channel world `wd`, on a committed tree whose index
    map was `m0`; `m` is the index map now.  `ex`: the part transaction is `ArtW.run` of some calls on
    `w.tree.txn wd` (the form in which the C12 theorems speak of a transaction), none while no transaction was
    created, and every key whose entry differs between `m0` and `m` was `touched` by one of them. -/
structure Track (wd : World) (w : WIdx) (m0 m : OMap Obj) : Prop where
  ex : ∃ aops : List ArtW.Op,
        w.cur wd = ArtW.run AP (w.tree.txn wd) aops ∧
        (w.txn = none → aops = []) ∧
        (∀ k, OMap.get m k ≠ OMap.get m0 k → touched AP (w.tree.txn wd) k aops = true)
  wf : Art.TxnWF (w.cur wd)
  ent : allRoot (w.cur wd).root = rmap m

theorem Track.sorted {wd : World} {w : WIdx} {m0 m : OMap Obj} (h : Track wd w m0 m) : OMap.Sorted m :=
  sorted_of_rmap h.wf.rootWF h.ent

theorem Track.init (wd : World) (t : Tree) (m0 : OMap Obj) (hwf : Art.TreeWF t) (hent : allRoot t.root = rmap m0) :
    Track wd { tree := t } m0 m0 :=
  { ex := ⟨[], rfl, fun _ => rfl, fun _ hk => absurd rfl hk⟩, wf := hwf, ent := hent }

theorem apply_bump_none (wd : World) (w : WIdx) (h : w.txn = none) : w.apply wd .bump = w := by
  unfold WIdx.apply; simp [h]

theorem apply_eq (wd : World) (w : WIdx) (op : IOp) (h : ¬ (op = .bump ∧ w.txn = none)) :
    w.apply wd op = { w with txn := some (op.onTxn (w.cur wd)) } := by
  unfold WIdx.apply
  split
  · rename_i hn; exact absurd ⟨rfl, hn⟩ h
  · rfl

theorem Track.apply {wd : World} {w : WIdx} {m0 m : OMap Obj} (h : Track wd w m0 m) (op : IOp) :
    Track wd (w.apply wd op) m0 (op.onMap m) := by
  by_cases hb : op = .bump ∧ w.txn = none
  · obtain ⟨rfl, hn⟩ := hb
    rw [apply_bump_none wd w hn]
    exact h
  · rw [apply_eq wd w op hb]
    obtain ⟨aops, hrun, _, htouch⟩ := h.ex
    obtain ⟨hwf, hent, hch⟩ := op.spec h.wf h.ent
    refine ⟨⟨aops ++ op.aop, ?_, fun hn => absurd hn (Option.some_ne_none _), fun k hk => ?_⟩, hwf, hent⟩
    · show op.onTxn (w.cur wd) = _
      rw [onTxn_eq, hrun, ArtW.run_append]
    · show touched AP (w.tree.txn wd) k (aops ++ op.aop) = true
      rw [touched_append, Bool.or_eq_true, ← hrun]
      by_cases hkk : OMap.get (op.onMap m) k = OMap.get m k
      · exact Or.inl (htouch k (hkk ▸ hk))
      · exact Or.inr (hch k hkk)

theorem Track.run {wd : World} {w : WIdx} {m0 m : OMap Obj} (h : Track wd w m0 m) (ops : List IOp) :
    Track wd (w.run wd ops) m0 (ops.foldl IOp.onMap m) := by
  induction ops generalizing w m with
  | nil => exact h
  | cons op ops ih => exact ih (h.apply op)

theorem run_tree (wd : World) (w : WIdx) (ops : List IOp) : (w.run wd ops).tree = w.tree := by
  induction ops generalizing w with
  | nil => rfl
  | cons op ops ih =>
    show (WIdx.run wd (w.apply wd op) ops).tree = w.tree
    rw [ih]
    unfold WIdx.apply
    split <;> rfl

theorem run_bumps_none (wd : World) (ops : List IOp) (w : WIdx) (hall : ∀ op ∈ ops, op = IOp.bump) (hw : w.txn = none) :
    w.run wd ops = w := by
  induction ops with
  | nil => rfl
  | cons op ops ih =>
    show WIdx.run wd (w.apply wd op) ops = w
    rw [hall op List.mem_cons_self, apply_bump_none wd w hw]
    exact ih fun o ho => hall o (List.mem_cons_of_mem _ ho)

theorem Track.none_eq {wd : World} {w : WIdx} {m0 m : OMap Obj} (h : Track wd w m0 m) (hm0 : OMap.Sorted m0)
    (hn : w.txn = none) : m = m0 := by
  obtain ⟨aops, _, hnil, htouch⟩ := h.ex
  rw [hnil hn] at htouch
  exact OMap.ext_get m m0 h.sorted hm0 fun k => Classical.byContradiction fun hk => nomatch htouch k hk

theorem Track.some_run {wd : World} {w : WIdx} {m0 m : OMap Obj} (h : Track wd w m0 m) {t : Tree} (hw : w.tree = t)
    {x : Txn} (hx : w.txn = some x) :
    ∃ aops, x = ArtW.run AP (t.txn wd) aops ∧
      (∀ k, OMap.get m k ≠ OMap.get m0 k → touched AP (t.txn wd) k aops = true) := by
  obtain ⟨aops, hrun, _, htouch⟩ := h.ex
  subst hw
  exact ⟨aops, (WIdx.cur_some hx wd).symm.trans hrun, htouch⟩

theorem Track.changed {wd : World} {w : WIdx} {m0 m : OMap Obj} (h : Track wd w m0 m) (k : Key)
    (hk : OMap.get m k ≠ OMap.get m0 k) :
    ∃ x aops, w.txn = some x ∧ x = ArtW.run AP (w.tree.txn wd) aops ∧ touched AP (w.tree.txn wd) k aops = true := by
  cases hx : w.txn with
  | none =>
    obtain ⟨aops, _, hnil, htouch⟩ := h.ex
    have := htouch k hk
    rw [hnil hx] at this
    exact nomatch this
  | some x =>
    obtain ⟨aops, hrun, htouch⟩ := h.some_run rfl hx
    exact ⟨x, aops, rfl, hrun, htouch k hk⟩

/-- The committed index `c` (tree and channel world) with index map `m`.  `rw0`: the root watch is a real channel
    (0 stands for nil); `nw`: the allocator is past 0, so the root watch a dirty Commit allocates is real again. -/
structure CInv (c : CIdx) (m : OMap Obj) : Prop where
  inv : ArtW.TreeInv c.wd c.tree
  stamps : ArtW.TreeWF c.tree
  wf : Art.TreeWF c.tree
  ent : allRoot c.tree.root = rmap m
  rw0 : c.tree.rootWatch ≠ 0
  nw : 0 < c.wd.nextW

theorem CInv.sorted {c : CIdx} {m : OMap Obj} (h : CInv c m) : OMap.Sorted m := sorted_of_rmap h.wf.rootWF h.ent

theorem CInv.new : CInv newCIdx [] :=
  { inv := TreeInv.new {} false (fun _ hc => nomatch hc)
    stamps := fun _ hr => nomatch hr
    wf := ⟨trivial, rfl⟩
    ent := rfl
    rw0 := by decide
    nw := by decide }

theorem treeInv_mono {wd wd' : World} {t : Tree} (h : ArtW.TreeInv wd t) (hc : wd'.closed = wd.closed)
    (hn : wd.nextW ≤ wd'.nextW) : ArtW.TreeInv wd' t :=
  { h with
    lt := fun c h0 h1 => Nat.lt_of_lt_of_le (h.lt c h0 h1) hn
    nc := fun c h0 h1 => hc ▸ h.nc c h0 h1
    rw_lt := fun h0 => Nat.lt_of_lt_of_le (h.rw_lt h0) hn
    rw_nc := fun h0 => hc ▸ h.rw_nc h0
    cl_lt := fun c hcl h0 => Nat.lt_of_lt_of_le (h.cl_lt c (hc ▸ hcl) h0) hn }

theorem CIdx.commit_none {c : CIdx} {w : WIdx} (h : w.txn = none) : c.commit w = c := by
  unfold CIdx.commit; rw [h]

theorem CIdx.commit_some {c : CIdx} {w : WIdx} {x : Txn} (h : w.txn = some x) :
    c.commit w = { wd := ((x.commit c.wd).1.notify (x.commit c.wd).2.2).2, tree := (x.commit c.wd).2.1 } := by
  unfold CIdx.commit; rw [h]

theorem CInv.commit {c : CIdx} {m0 m : OMap Obj} {w : WIdx} (h : CInv c m0) (ht : Track c.wd w m0 m)
    (hw : w.tree = c.tree) : CInv (c.commit w) m := by
  cases hx : w.txn with
  | none => rw [CIdx.commit_none hx, ht.none_eq h.sorted hx]; exact h
  | some x =>
    rw [CIdx.commit_some hx]
    obtain ⟨aops, hrun, _⟩ := ht.some_run hw hx
    have hcur := WIdx.cur_some hx c.wd
    have hwf := ht.wf
    have hent := ht.ent
    rw [hcur] at hwf hent
    have hl : Later (c.tree.txn c.wd) x := hrun ▸ later_run AP _ aops
    have f := commit_facts x c.wd
    have hpos : 0 < x.st.nextW := Nat.lt_of_lt_of_le h.nw hl.nw
    refine { inv := ?inv, stamps := ?stamps, wf := ?wf, ent := (congrArg allRoot f.root).trans hent, rw0 := ?rw0,
             nw := Nat.lt_of_lt_of_le hpos (Nat.le_max_right _ _) }
    case inv => rw [hrun]; exact h.inv.commit_notify AP aops
    case stamps => rw [hrun]; exact ((h.stamps.txn c.wd).run AP aops).commit c.wd
    case wf =>
      unfold Txn.commit
      split <;> exact hwf
    case rw0 =>
      show (x.commit c.wd).2.1.rootWatch ≠ 0
      rw [f.rootWatch]
      split
      · exact Nat.ne_of_gt hpos
      · rw [hl.rw]; exact h.rw0

theorem CInv.abort {c : CIdx} {m0 : OMap Obj} (h : CInv c m0) (w : WIdx) : CInv (c.abort w) m0 := by
  unfold CIdx.abort
  cases w.txn with
  | none => exact h
  | some x =>
    exact { h with inv := treeInv_mono h.inv rfl (Nat.le_max_left _ _)
                   nw := Nat.lt_of_lt_of_le h.nw (Nat.le_max_left _ _) }

theorem CIdx.abort_closed (c : CIdx) (w : WIdx) : (c.abort w).wd.closed = c.wd.closed := by
  unfold CIdx.abort
  split <;> rfl

theorem CIdx.abort_tree (c : CIdx) (w : WIdx) : (c.abort w).tree = c.tree := by
  unfold CIdx.abort
  split <;> rfl

theorem CIdx.commit_closed_mono (c : CIdx) (w : WIdx) (ch : Nat) (h : ch ∈ c.wd.closed) : ch ∈ (c.commit w).wd.closed := by
  cases hx : w.txn with
  | none => rw [CIdx.commit_none hx]; exact h
  | some x =>
    rw [CIdx.commit_some hx]
    show ch ∈ (Txn.notify _ _).2.closed
    rw [notify_closed, commit_closed]
    exact Or.inl h

/-- a query is given (part_index.go) the `Get` channel of a key, the `Prefix` channel of a prefix or the root watch:
    what holds of these three, between two versions of an index, holds of every query's channel -/
theorem partChan_cases {R : Nat → Nat → Prop} (v v' : IdxView)
    (hg : ∀ k, R (getRoot v.root v.rw k).2 (getRoot v'.root v'.rw k).2)
    (hp : ∀ q, R (prefixRoot v.root v.rw q).2 (prefixRoot v'.root v'.rw q).2) (hr : R v.rw v'.rw)
    (u : Bool) (kind : QKind) (key : Key) : R (partChan u v kind key) (partChan u v' kind key) := by
  cases u <;> cases kind
  case true.get | true.list => exact hg _
  case true.prefix | false.get | false.list | false.prefix => exact hp _
  all_goals exact hr

theorem getRoot_ne_zero (root : Option Node) (rw : Nat) (h : rw ≠ 0) (k : Key) : (getRoot root rw k).2 ≠ 0 :=
  (getRoot_mem root rw k).elim (fun he hz => h (he.symm.trans hz)) (·.1)

theorem prefixRoot_ne_zero (root : Option Node) (rw : Nat) (h : rw ≠ 0) (q : Key) : (prefixRoot root rw q).2 ≠ 0 :=
  (prefixRoot_mem root rw q).elim (fun he hz => h (he.symm.trans hz)) (·.1)

theorem CInv.chan_open {c : CIdx} {m : OMap Obj} (h : CInv c m) (u : Bool) (kind : QKind) (key : Key) :
    partChan u (Tree.view c.tree) kind key ≠ 0 ∧ partChan u (Tree.view c.tree) kind key ∉ c.wd.closed :=
  partChan_cases (R := fun ch _ => ch ≠ 0 ∧ ch ∉ c.wd.closed) (Tree.view c.tree) (Tree.view c.tree)
    (fun k => ⟨getRoot_ne_zero _ _ h.rw0 k, h.inv.get_open k (getRoot_ne_zero _ _ h.rw0 k)⟩)
    (fun q => ⟨prefixRoot_ne_zero _ _ h.rw0 q, h.inv.prefix_open q (prefixRoot_ne_zero _ _ h.rw0 q)⟩)
    ⟨h.rw0, h.inv.rw_nc h.rw0⟩ u kind key

section mustClose
variable {c : CIdx} {m0 m : OMap Obj} {w : WIdx}

/-- a changed entry, in the form the any-calls theorems of C12 take it: Commit is Commit + Notify of a run of calls
    on the committed tree, one of which touched the key -/
theorem Track.commit_changed (ht : Track c.wd w m0 m) (hw : w.tree = c.tree) (k : Key)
    (hk : OMap.get m k ≠ OMap.get m0 k) :
    ∃ aops, touched AP (c.tree.txn c.wd) k aops = true ∧
      (c.commit w).wd = (((ArtW.run AP (c.tree.txn c.wd) aops).commit c.wd).1.notify
        ((ArtW.run AP (c.tree.txn c.wd) aops).commit c.wd).2.2).2 := by
  obtain ⟨x, aops, hx, rfl, htouch⟩ := ht.changed k hk
  rw [hw] at hx htouch
  exact ⟨aops, htouch, by rw [CIdx.commit_some hx]⟩

theorem commit_closes_get (h : CInv c m0) (ht : Track c.wd w m0 m) (hw : w.tree = c.tree) (k : Key)
    (hk : OMap.get m k ≠ OMap.get m0 k) :
    (getRoot c.tree.root c.tree.rootWatch k).2 ∈ (c.commit w).wd.closed := by
  obtain ⟨aops, htouch, he⟩ := ht.commit_changed hw k hk
  have hc0 := getRoot_ne_zero c.tree.root _ h.rw0 k
  rw [he]
  exact (C12_get_channel_closed_any_calls AP c.tree h.stamps c.wd c.wd _ k aops hc0 (h.inv.get_lt k hc0) htouch).1

theorem commit_closes_prefix (h : CInv c m0) (ht : Track c.wd w m0 m) (hw : w.tree = c.tree) (q k : Key)
    (hq : hasPrefix k q = true) (hk : OMap.get m k ≠ OMap.get m0 k) :
    (prefixRoot c.tree.root c.tree.rootWatch q).2 ∈ (c.commit w).wd.closed := by
  obtain ⟨aops, htouch, he⟩ := ht.commit_changed hw k hk
  have hc0 := prefixRoot_ne_zero c.tree.root _ h.rw0 q
  rw [he]
  exact (C12_prefix_channel_closed_any_calls AP c.tree h.stamps c.wd c.wd _ q aops hc0 (h.inv.prefix_lt q hc0)
    (touched_touchedP AP k q hq aops _ htouch)).1

theorem commit_closes_root (h : CInv c m0) (ht : Track c.wd w m0 m) (hw : w.tree = c.tree) (hne : m ≠ m0) :
    c.tree.rootWatch ∈ (c.commit w).wd.closed := by
  apply Classical.byContradiction
  intro hn
  refine hne (OMap.ext_get m m0 ht.sorted h.sorted fun k => Classical.byContradiction fun hk => hn ?_)
  obtain ⟨aops, htouch, he⟩ := ht.commit_changed hw k hk
  rw [he]
  exact (C12_root_watch_closed_if_changed AP c.tree c.wd c.wd _ aops h.rw0 (touched_anyChange AP k aops _ htouch)).1

end mustClose

/-! ### keep-or-close

The channel a query was given on a committed index is, after the Commit (+ Notify) of any transaction, closed or
still the channel the same query is given on the new tree: the frame lemma of C12 (`Chan.step_frame`, one call)
lifted to a run of calls, Commit and Notify. -/

/-- a search for a channel in a tree (`none`: the caller falls back to the root watch) whose result every call
    of a transaction records or keeps: `Get`, `Prefix`, and the search that never finds anything.  `B` (`MInv`):
    channels from `B` on were allocated by the transaction itself -/
structure Framed (find : Option Node → Option Nat) : Prop where
  none : find none = none
  step : ∀ {B : Nat} {x : Txn}, MInv B x → ∀ (o : ArtW.Op) (c : Nat), find x.root = some c →
    B ≤ c ∨ c ∈ (ArtW.step AP x o).st.pending ∨ find (ArtW.step AP x o).root = some c

theorem framed_get (k : Key) : Framed (pwR · k) := ⟨rfl, fun h o c => pwChan.step_frame AP h k o c⟩
theorem framed_prefix (q : Key) : Framed (ppwR · q) := ⟨rfl, fun h o c => ppwChan.step_frame AP h q o c⟩
theorem framed_none : Framed fun _ => none := ⟨rfl, fun _ _ _ h => nomatch h⟩

theorem Framed.run {find : Option Node → Option Nat} (hf : Framed find) {B c : Nat} (hc : c < B) (ops : List ArtW.Op)
    (x : Txn) (h : MInv B x) (hk : c ∈ x.st.pending ∨ find x.root = some c) :
    c ∈ (ArtW.run AP x ops).st.pending ∨ find (ArtW.run AP x ops).root = some c :=
  -- `run_closes_of` with no call counted as a hit (its `tb`, `tch` constantly false): only its frame half is used
  (run_closes_of AP find (fun _ h => hf.step h) (fun _ _ => false) (fun _ _ => false) (fun _ => rfl) (fun _ _ _ => rfl)
    (fun _ _ _ h => nomatch h) hc ops x h hk).imp_right And.right

section tree
variable {wd : World} {t : Tree}

theorem commit_notify_facts (aops : List ArtW.Op) :
    let x := ArtW.run AP (t.txn wd) aops
    (x.commit wd).2.1.root = x.root ∧
    (x.commit wd).2.1.rootWatch = (if x.dirty then x.st.nextW else t.rootWatch) ∧
    (∀ c, c ∈ x.st.pending → c ∈ ((x.commit wd).1.notify (x.commit wd).2.2).2.closed) ∧
    (x.dirty = true → t.rootWatch ≠ 0 → t.rootWatch ∈ ((x.commit wd).1.notify (x.commit wd).2.2).2.closed) ∧
    (x.dirty = false → x.root = t.root) := by
  intro x
  have f := commit_facts x wd
  have hrw : x.rootWatch = t.rootWatch := (later_run AP _ aops).rw
  refine ⟨f.root, by rw [f.rootWatch, hrw], ?_, ?_, ?_⟩
  · intro c hc
    rw [notify_closed, f.txn]
    exact Or.inr (Or.inl hc)
  · intro hd h0
    rw [notify_closed, f.txn]
    exact Or.inr (Or.inr ⟨hd, hrw ▸ h0, hrw.symm⟩)
  · intro hd
    have hch := run_dirty AP (t.txn wd) aops
    rw [show (ArtW.run AP (t.txn wd) aops).dirty = false from hd] at hch
    exact (run_unchanged AP (t.txn wd) aops (Bool.or_eq_false_iff.mp hch.symm).2).root

theorem keep_or_close_of {find : Option Node → Option Nat} (hf : Framed find) (hst : ArtW.TreeWF t)
    (hrw : t.rootWatch ≠ 0) (hlt : ∀ c, find t.root = some c → c < wd.nextW) (aops : List ArtW.Op) :
    let x := ArtW.run AP (t.txn wd) aops
    (find t.root).getD t.rootWatch ∈ ((x.commit wd).1.notify (x.commit wd).2.2).2.closed ∨
    (find (x.commit wd).2.1.root).getD (x.commit wd).2.1.rootWatch = (find t.root).getD t.rootWatch := by
  intro x
  obtain ⟨hroot, hcrw, hpending, hdirty, hclean⟩ := commit_notify_facts (wd := wd) (t := t) aops
  rw [hroot]
  cases hp : find t.root with
  | none =>
    cases hd : x.dirty with
    | true => exact Or.inl (hdirty hd hrw)
    | false =>
      right
      rw [hclean hd, hp, hcrw]
      simp [x, hd]
  | some c =>
    cases hr : t.root with
    | none => rw [hr, hf.none] at hp; exact nomatch hp
    | some r =>
      rcases hf.run (hlt c hp) aops (t.txn wd) (MInv.txn hst wd r hr) (Or.inr hp) with h | h
      · exact Or.inl (hpending c h)
      · right; rw [h]; rfl

end tree

theorem CIdx.keep_or_close {c : CIdx} {m0 m : OMap Obj} {w : WIdx} (h : CInv c m0) (ht : Track c.wd w m0 m)
    (hw : w.tree = c.tree) (u : Bool) (kind : QKind) (key : Key) :
    partChan u (Tree.view c.tree) kind key ∈ (c.commit w).wd.closed ∨
    partChan u (Tree.view (c.commit w).tree) kind key = partChan u (Tree.view c.tree) kind key := by
  cases hx : w.txn with
  | none => rw [CIdx.commit_none hx]; exact Or.inr rfl
  | some x =>
    obtain ⟨aops, rfl, _⟩ := ht.some_run hw hx
    rw [CIdx.commit_some hx]
    refine partChan_cases (R := fun a b => a ∈ _ ∨ b = a) (Tree.view c.tree) (Tree.view _) (fun k => ?_) (fun q => ?_)
      (keep_or_close_of framed_none h.stamps h.rw0 (fun _ hc => nomatch hc) aops) u kind key
    · have hlt := h.inv.get_lt k (getRoot_ne_zero _ _ h.rw0 k)
      simp only [Tree.view, getRoot_eq_pwR] at hlt ⊢
      exact keep_or_close_of (framed_get k) h.stamps h.rw0 (fun c hc => by rwa [hc] at hlt) aops
    · have hlt := h.inv.prefix_lt q (prefixRoot_ne_zero _ _ h.rw0 q)
      simp only [Tree.view, prefixRoot_eq_ppwR] at hlt ⊢
      exact keep_or_close_of (framed_prefix q) h.stamps h.rw0 (fun c hc => by rwa [hc] at hlt) aops

/-- the channel of a committed LPM index is the newest allocated one; the closed ones are older -/
structure LInv (l : LIdx) : Prop where
  pos : l.ch ≠ 0
  lt : l.ch < l.wd.nextW
  cl : ∀ c ∈ l.wd.closed, c < l.ch

theorem LInv.new : LInv newLIdx := ⟨by decide, by decide, fun _ hc => nomatch hc⟩

theorem LInv.commit {l : LIdx} (h : LInv l) (w : LW) : LInv (l.commit w) := by
  unfold LIdx.commit
  split
  · refine ⟨Nat.ne_of_gt (Nat.zero_lt_of_lt h.lt), Nat.lt_succ_self _, fun c hc => ?_⟩
    rcases List.mem_cons.mp hc with rfl | hc
    · exact h.lt
    · exact Nat.lt_trans (h.cl c hc) h.lt
  · exact h

theorem LInv.open_ {l : LIdx} (h : LInv l) : l.ch ∉ l.wd.closed := fun hc => Nat.lt_irrefl _ (h.cl _ hc)

theorem LIdx.commit_unopened (l : LIdx) {w : LW} (h : w.opened = false) : l.commit w = l := by
  unfold LIdx.commit; rw [h]; rfl

theorem LIdx.commit_closes (l : LIdx) {w : LW} (h : w.opened = true) : l.ch ∈ (l.commit w).wd.closed := by
  unfold LIdx.commit
  rw [if_pos h]
  exact List.mem_cons_self

theorem LIdx.commit_closed_mono (l : LIdx) (w : LW) (ch : Nat) (h : ch ∈ l.wd.closed) : ch ∈ (l.commit w).wd.closed := by
  unfold LIdx.commit
  split
  · exact List.mem_cons_of_mem _ h
  · exact h

theorem LIdx.keep_or_close (l : LIdx) (w : LW) : l.ch ∈ (l.commit w).wd.closed ∨ (l.commit w).ch = l.ch := by
  cases h : w.opened with
  | true => exact Or.inl (l.commit_closes h)
  | false => exact Or.inr (congrArg LIdx.ch (l.commit_unopened h))

end Sdb.TW
