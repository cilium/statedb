import SdbModel.Lemmas.ReconcilerStep

/-!
  The two phases of a round that work on the retry queue, `commitStatus` and `processRetries`.
  Each loop gets an equation per iteration and an induction principle over its iterations that
  mentions no invariant, so that any invariant can be run through it.  What a phase leaves alone
  is said by a relation between the state before and after, with `refl` and `trans`: `FrameT`,
  `CommitRel` here, `FrameC` and `TailRel` in the files of the phases they belong to.
-/
namespace Sdb.Rec
open LB

/-- the write `commitStatus` makes for one result; `base` is the clone the operation saw, or the
    current object when only its status changed meanwhile -/
def R.writeStatus (r : R) (base orig : RObj) (rev : Nat) (failed : Bool) : R :=
  let r' := { (r.setObj { base with kind := if failed then SKind.error else SKind.done, sid := r.nextSid }) with
    nextSid := r.nextSid + 1 }
  if failed then r'.retryAdd orig r'.tableRev rev false else r'

theorem writeStatus_done (r : R) (base orig : RObj) (rev : Nat) : r.writeStatus base orig rev false =
    { (r.setObj { base with kind := .done, sid := r.nextSid }) with nextSid := r.nextSid + 1 } := rfl

theorem writeStatus_error (r : R) (base orig : RObj) (rev : Nat) : r.writeStatus base orig rev true =
    R.retryAdd { (r.setObj { base with kind := .error, sid := r.nextSid }) with nextSid := r.nextSid + 1 }
      orig (r.tableRev + 1) rev false := rfl

theorem commitOne_eq (r : R) (res : Res) : r.commitOne res =
    match r.get res.1.id with
    | none => r
    | some cur =>
      if cur.rev = res.2.2.1 then r.writeStatus res.1 res.2.1 res.2.2.1 res.2.2.2.2
      else if cur.kind = .pending ∧ cur.sid = res.2.2.2.1 then r.writeStatus cur cur res.2.2.1 res.2.2.2.2
      else r := rfl

theorem commitOne_cases (r : R) (res : Res) :
    (r.commitOne res = r ∧ ∀ cur, r.get res.1.id = some cur →
      cur.rev ≠ res.2.2.1 ∧ ¬ (cur.kind = .pending ∧ cur.sid = res.2.2.2.1)) ∨
    (∃ cur, r.get res.1.id = some cur ∧ cur.rev = res.2.2.1 ∧
      r.commitOne res = r.writeStatus res.1 res.2.1 res.2.2.1 res.2.2.2.2) ∨
    (∃ cur, r.get res.1.id = some cur ∧ cur.rev ≠ res.2.2.1 ∧ cur.kind = .pending ∧ cur.sid = res.2.2.2.1 ∧
      r.commitOne res = r.writeStatus cur cur res.2.2.1 res.2.2.2.2) := by
  rw [commitOne_eq]
  cases r.get res.1.id with
  | none => exact Or.inl ⟨rfl, fun _ h => nomatch h⟩
  | some cur =>
    dsimp only
    by_cases h1 : cur.rev = res.2.2.1
    · rw [if_pos h1]; exact Or.inr (Or.inl ⟨cur, rfl, h1, rfl⟩)
    · rw [if_neg h1]
      by_cases h2 : cur.kind = .pending ∧ cur.sid = res.2.2.2.1
      · rw [if_pos h2]; exact Or.inr (Or.inr ⟨cur, rfl, h1, h2.1, h2.2, rfl⟩)
      · rw [if_neg h2]; exact Or.inl ⟨rfl, fun c hc => Option.some.inj hc ▸ ⟨h1, h2⟩⟩

/-- under the invariant the fallback onto a pending object does not occur -/
theorem InvL.commitOne_cases {r : R} {res : Res} {rs : List Res} (h : InvL r (res :: rs)) :
    (r.commitOne res = r ∧ ∀ cur ∈ r.objs, cur.id = res.1.id → cur.rev ≠ res.2.2.1) ∨
    ∃ cur ∈ r.objs, cur.id = res.1.id ∧ cur.rev = res.2.2.1 ∧
      r.commitOne res = r.writeStatus res.1 res.2.1 res.2.2.1 res.2.2.2.2 := by
  rcases Sdb.Rec.commitOne_cases r res with ⟨e, hne⟩ | ⟨cur, hg, hrev, e⟩ | ⟨cur, hg, hrev, hk, _, _⟩
  · exact Or.inl ⟨e, fun cur hc hid => (hne cur ((get_eq_some_iff h.tinv ..).2 ⟨hc, hid⟩)).1⟩
  · obtain ⟨hc, hid⟩ := (get_eq_some_iff h.tinv ..).1 hg
    exact Or.inr ⟨cur, hc, hid, hrev, e⟩
  · obtain ⟨hc, hid⟩ := (get_eq_some_iff h.tinv ..).1 hg
    rcases (h.resOK _ (List.mem_cons_self ..)).current hc hid with a | ⟨_, a | a⟩
    · exact absurd a.1 hrev
    · rw [hk] at a; cases a
    · rw [hk] at a; cases a

theorem JInv.commitOne_cases {r : R} {res : Res} {rs : List Res} (h : JInv r (res :: rs)) :
    (r.commitOne res = r ∧ ∀ cur ∈ r.objs, cur.id = res.1.id → ¬ ResLive res cur) ∨
    ∃ cur base, cur ∈ r.objs ∧ cur.id = res.1.id ∧ ResLive res cur ∧
      (base.id = cur.id ∧ base.data = cur.data ∧ base.other = cur.other ∧ base.sid < r.nextSid) ∧
      r.commitOne res = r.writeStatus base base res.2.2.1 res.2.2.2.2 := by
  obtain ⟨e1, _, _, hsid, hlv⟩ := h.resOK _ (List.mem_cons_self ..)
  rcases Sdb.Rec.commitOne_cases r res with ⟨e, hd⟩ | ⟨cur, hg, hrev, e⟩ | ⟨cur, hg, _, hk, hs, e⟩
  · refine Or.inl ⟨e, fun cur hcur hid hl => ?_⟩
    obtain ⟨d1, d2⟩ := hd cur ((get_eq_some_iff h.tinv _ _).2 ⟨hcur, hid⟩)
    exact hl.elim d1 d2
  · obtain ⟨hcur, hcid⟩ := (get_eq_some_iff h.tinv _ _).1 hg
    obtain ⟨b1, b2, _⟩ := hlv cur hcur hcid (Or.inl hrev)
    exact Or.inr ⟨cur, res.1, hcur, hcid, Or.inl hrev, ⟨hcid.symm, b1.symm, (b2 hrev).symm, hsid⟩, e1 ▸ e⟩
  · obtain ⟨hcur, hcid⟩ := (get_eq_some_iff h.tinv _ _).1 hg
    exact Or.inr ⟨cur, cur, hcur, hcid, Or.inr ⟨hk, hs⟩, ⟨rfl, rfl, rfl, h.sidO cur hcur⟩, e⟩

/-- one status write of `commitStatus`: `Core.step_commit` for both outcomes -/
theorem Core.writeStatus {r : R} {res : Res} {rs : List Res} (h : Core r (res :: rs)) (cur base orig : RObj)
    (hcur : cur ∈ r.objs) (hcid : cur.id = res.1.id) (hlive : ResLive res cur)
    (hbase : base.id = cur.id ∧ base.data = res.1.data ∧ orig.id = base.id) :
    Keeps (Core (r.writeStatus base orig res.2.2.1 res.2.2.2.2) rs)
      (Calm r (res :: rs) → Calm (r.writeStatus base orig res.2.2.1 res.2.2.2.2) rs)
      (Fresh r (res :: rs) → orig = base → base.sid < r.nextSid → Fresh (r.writeStatus base orig res.2.2.1 res.2.2.2.2) rs) := by
  obtain ⟨obj, orig0, rev, sid, failed⟩ := res
  -- the item a failed write queues; `step_commit` takes it in either case
  let itn := addedItem { (r.setObj { base with kind := .error, sid := r.nextSid }) with nextSid := r.nextSid + 1 } orig (r.tableRev + 1) rev false
  cases failed with
  | false =>
    have s := h.step_commit (r' := r.writeStatus base orig rev false) cur base orig r.nextSid hcur hcid hlive hbase itn
      ⟨rfl, rfl, rfl, rfl, rfl⟩ rfl rfl rfl rfl rfl rfl rfl rfl
    exact ⟨s.core, fun hC => s.calm hC rfl, fun hF e hs => s.fresh hF e hs rfl rfl⟩
  | true =>
    have s := h.step_commit (r' := r.writeStatus base orig rev true) cur base orig r.nextSid hcur hcid hlive hbase itn
      ⟨rfl, rfl, rfl, rfl, rfl⟩ rfl rfl rfl rfl rfl rfl (retryAdd_items ..) rfl
    exact ⟨s.core, fun hC => s.calm hC rfl, fun hF e hs => s.fresh hF e hs rfl rfl⟩

theorem InvL.commitOne {r : R} {res : Res} {rs : List Res} (h : InvL r (res :: rs)) : InvL (r.commitOne res) rs := by
  have hc := h.calm
  rcases h.commitOne_cases with ⟨e, hne⟩ | ⟨cur, hcur, hcid, hrev, e⟩ <;> rw [e]
  · exact (h.core.drop_res fun cur hcur hid => hc.not_live (List.mem_cons_self ..) hcur hid (hne cur hcur hid)).invL hc.tail
  · have s := h.core.writeStatus cur res.1 res.2.1 hcur hcid (Or.inl hrev)
      ⟨hcid.symm, rfl, (h.resOK _ (List.mem_cons_self ..)).orig_id⟩
    exact s.core.invL (s.calm hc)

theorem JInv.commitOne {r : R} {res : Res} {rs : List Res} (h : JInv r (res :: rs)) : JInv (r.commitOne res) rs := by
  rcases h.commitOne_cases with ⟨e, hd⟩ | ⟨cur, base, hcur, hcid, hlive, ⟨b1, b2, _, b4⟩, e⟩ <;> rw [e]
  · exact (h.core.drop_res hd).jinv h.fresh.tail
  · have s := h.core.writeStatus cur base base hcur hcid hlive
      ⟨b1, b2.trans ((h.resOK _ (List.mem_cons_self ..)).live hcur hcid hlive).1, rfl⟩
    exact s.core.jinv (s.fresh h.fresh rfl b4)

/-- what the status commits may change -/
structure CommitRel (r r' : R) : Prop where
  itRev : r'.itRev = r.itRev
  itDelRev : r'.itDelRev = r.itDelRev
  refreshedAt : r'.refreshedAt = r.refreshedAt
  pending : r'.pending = r.pending
  numReconciled : r'.numReconciled = r.numReconciled
  cfg : r'.cfg = r.cfg
  now : r'.now = r.now
  failing : r'.failing = r.failing
  log : r'.log = r.log
  results : r'.results = r.results
  tableRev : r.tableRev ≤ r'.tableRev
  objs : ∀ o ∈ r'.objs, o ∈ r.objs ∨ (o.rev > r.tableRev ∧ ¬ needs o.kind)
  dels : ∀ d ∈ r'.dels, d ∈ r.dels

theorem CommitRel.refl (r : R) : CommitRel r r :=
  ⟨rfl, rfl, rfl, rfl, rfl, rfl, rfl, rfl, rfl, rfl, Nat.le_refl _, fun _ h => Or.inl h, fun _ h => h⟩

theorem CommitRel.trans {a b c : R} (h1 : CommitRel a b) (h2 : CommitRel b c) : CommitRel a c := by
  refine ⟨h2.itRev.trans h1.itRev, h2.itDelRev.trans h1.itDelRev, h2.refreshedAt.trans h1.refreshedAt,
    h2.pending.trans h1.pending, h2.numReconciled.trans h1.numReconciled, h2.cfg.trans h1.cfg, h2.now.trans h1.now,
    h2.failing.trans h1.failing, h2.log.trans h1.log, h2.results.trans h1.results, Nat.le_trans h1.tableRev h2.tableRev, ?_, fun d hd => h1.dels d (h2.dels d hd)⟩
  intro o ho
  rcases h2.objs o ho with ho | ⟨h3, h4⟩
  · exact h1.objs o ho
  · exact Or.inr ⟨by have := h1.tableRev; omega, h4⟩

theorem CommitRel.caughtUp {r r' : R} (h : CommitRel r r') (hc : CaughtUp r) : CaughtUp r' := by
  refine ⟨fun o ho hn => ?_, fun d hd => ?_⟩
  · rcases h.objs o ho with a | a
    · rw [h.itRev]; exact hc.objs a hn
    · exact absurd hn a.2
  · rw [h.itDelRev]; exact hc.dels (h.dels d hd)

theorem commitRel_setObj (r : R) (o : RObj) (hk : ¬ needs o.kind) (n : Nat) :
    CommitRel r { (r.setObj o) with nextSid := n } := by
  refine ⟨rfl, rfl, rfl, rfl, rfl, rfl, rfl, rfl, rfl, rfl, by simp, ?_, ?_⟩
  · intro x hx
    rcases (mem_setObj_objs r o x).1 hx with ⟨hx, _⟩ | rfl
    · exact Or.inl hx
    · exact Or.inr ⟨by simp, hk⟩
  · intro d hd
    exact (List.mem_filter.1 hd).1

theorem commitRel_retryAdd (r : R) (o : RObj) (a b : Nat) (d : Bool) : CommitRel r (r.retryAdd o a b d) :=
  ⟨rfl, rfl, rfl, rfl, rfl, rfl, rfl, rfl, rfl, rfl, Nat.le_refl _, fun _ h => Or.inl h, fun _ h => h⟩

theorem commitRel_writeStatus (r : R) (base orig : RObj) (rev : Nat) (failed : Bool) :
    CommitRel r (r.writeStatus base orig rev failed) := by
  have hk : ¬ needs (if failed then SKind.error else SKind.done) := by cases failed <;> simp [needs]
  cases failed
  · exact commitRel_setObj r _ hk _
  · exact (commitRel_setObj r _ hk _).trans (commitRel_retryAdd ..)

theorem commitRel_commitOne (r : R) (res : Res) : CommitRel r (r.commitOne res) := by
  rcases commitOne_cases r res with ⟨e, _⟩ | ⟨_, _, _, e⟩ | ⟨_, _, _, _, _, e⟩ <;> rw [e]
  · exact CommitRel.refl r
  · exact commitRel_writeStatus ..
  · exact commitRel_writeStatus ..

/-- the loop of `commitStatus`.  `P r rs`: `rs` are the results still to be committed in state `r` -/
theorem foldl_commitOne_ind {P : R → List Res → Prop} (hstep : ∀ r res rs, P r (res :: rs) → P (r.commitOne res) rs)
    (l1 l2 : List Res) {r : R} (h : P r (l1 ++ l2)) : P (l1.foldl R.commitOne r) l2 := by
  induction l1 generalizing r with
  | nil => exact h
  | cons x xs ih => exact ih (hstep r x _ h)

theorem commitRel_foldl (rs : List Res) (r : R) : CommitRel r (rs.foldl R.commitOne r) :=
  foldl_commitOne_ind (P := fun x _ => CommitRel r x) (fun x res _ hx => hx.trans (commitRel_commitOne x res)) rs []
    (CommitRel.refl r)

theorem InvL.foldl_commitOne (rs : List Res) {r : R} (h : InvL r rs) : InvL (rs.foldl R.commitOne r) [] :=
  foldl_commitOne_ind (fun _ _ _ hx => hx.commitOne) rs [] ((List.append_nil rs).symm ▸ h)

theorem InvL.commitStatus {r : R} (h : InvL r r.results) : InvL r.commitStatus [] :=
  (h.foldl_commitOne r.results).congr rfl rfl rfl rfl rfl rfl rfl rfl rfl

theorem JInv.foldl_commitOne (rs : List Res) {r : R} (h : JInv r rs) : JInv (rs.foldl R.commitOne r) [] :=
  foldl_commitOne_ind (fun _ _ _ hx => hx.commitOne) rs [] ((List.append_nil rs).symm ▸ h)

theorem JInv.commitStatus {r : R} (h : JInv r r.results) : JInv r.commitStatus [] :=
  (h.foldl_commitOne r.results).congr rfl rfl rfl rfl rfl rfl rfl rfl rfl

theorem writeStatus_nextSid (r : R) (base orig : RObj) (rev : Nat) (f : Bool) :
    (r.writeStatus base orig rev f).nextSid = r.nextSid + 1 := by
  cases f <;> rfl

theorem commitOne_nextSid (r : R) (res : Res) : r.nextSid ≤ (r.commitOne res).nextSid := by
  rcases commitOne_cases r res with ⟨e, _⟩ | ⟨_, _, _, e⟩ | ⟨_, _, _, _, _, e⟩ <;> rw [e]
  · exact Nat.le_refl _
  all_goals rw [writeStatus_nextSid]; exact Nat.le_succ _

theorem foldl_commitOne_nextSid (rs : List Res) (r : R) : r.nextSid ≤ (rs.foldl R.commitOne r).nextSid :=
  foldl_commitOne_ind (P := fun x _ => r.nextSid ≤ x.nextSid) (fun x res _ hx => Nat.le_trans hx (commitOne_nextSid x res)) rs []
    (Nat.le_refl _)

theorem writeStatus_progressRev (r : R) (base orig : RObj) (rev : Nat) (failed : Bool) :
    (r.writeStatus base orig rev failed).progressRev = r.progressRev := by
  cases failed <;> rfl

theorem commitOne_progressRev (r : R) (res : Res) : (r.commitOne res).progressRev = r.progressRev := by
  rcases commitOne_cases r res with ⟨e, _⟩ | ⟨_, _, _, e⟩ | ⟨_, _, _, _, _, e⟩ <;> rw [e] <;> exact writeStatus_progressRev ..

theorem commitStatus_progressRev (r : R) : r.commitStatus.progressRev = r.progressRev :=
  foldl_commitOne_ind (P := fun x _ => x.progressRev = r.progressRev) (fun x res _ hx => (commitOne_progressRev x res).trans hx)
    r.results [] rfl

theorem writeStatus_injects (r : R) (base orig : RObj) (rev : Nat) (failed : Bool) :
    (r.writeStatus base orig rev failed).injects = r.injects := by
  cases failed <;> rfl

theorem commitOne_injects (r : R) (res : Res) : (r.commitOne res).injects = r.injects := by
  rcases commitOne_cases r res with ⟨e, _⟩ | ⟨_, _, _, e⟩ | ⟨_, _, _, _, _, e⟩ <;> rw [e] <;> exact writeStatus_injects ..

theorem foldl_commitOne_injects (rs : List Res) (r : R) : (rs.foldl R.commitOne r).injects = r.injects :=
  foldl_commitOne_ind (P := fun x _ => x.injects = r.injects) (fun x res _ hx => (commitOne_injects x res).trans hx) rs [] rfl

theorem commitStatus_injects (r : R) : r.commitStatus.injects = r.injects := foldl_commitOne_injects _ _

theorem commitStatus_log (r : R) : r.commitStatus.log = r.log := (commitRel_foldl r.results r).log

theorem commitStatus_of_nil {r : R} (h : r.results = []) : r.commitStatus = r := by
  unfold R.commitStatus
  rw [h]
  simp only [List.foldl_nil]
  cases r
  simp_all

theorem commitStatus_rel (r : R) : ∃ r', CommitRel r r' ∧ r.commitStatus = { r' with results := [] } :=
  ⟨_, commitRel_foldl r.results r, rfl⟩

/-! Of `R.queue` (the queued items, sorted by insertion) only `head_spec` and `head_none_iff`
  are used. -/

abbrev qle (a b : Item) : Bool := a.retryAt ≤ b.retryAt

theorem insertBy_eq_merge (lt : Item → Item → Bool) (x : Item) (l : List Item) : insertBy lt x l = [x].merge l lt := by
  induction l <;> simp [insertBy, List.cons_merge_cons, *]

theorem foldr_insertBy_eq_isort (lt : Item → Item → Bool) (l : List Item) : l.foldr (insertBy lt) [] = isort lt l :=
  congrArg (fun f => l.foldr f []) (funext fun x => funext (insertBy_eq_merge lt x))

theorem sorted_queue (l : List Item) : (l.foldr (insertBy qle) []).Pairwise (fun x y => x.retryAt ≤ y.retryAt) :=
  foldr_insertBy_eq_isort qle l ▸ pairwise_le_isort Item.retryAt l

theorem mem_queue (r : R) (x : Item) : x ∈ r.queue ↔ x ∈ r.items ∧ x.inQueue = true := by
  unfold R.queue
  rw [foldr_insertBy_eq_isort, (perm_isort _ _).mem_iff, List.mem_filter]

theorem head_spec {r : R} {h : Item} (hh : r.head = some h) :
    h ∈ r.items ∧ h.inQueue = true ∧ ∀ i ∈ r.items, i.inQueue = true → h.retryAt ≤ i.retryAt := by
  unfold R.head at hh
  have hs : r.queue.Pairwise (fun x y => x.retryAt ≤ y.retryAt) := sorted_queue _
  cases hq : r.queue with
  | nil => rw [hq] at hh; cases hh
  | cons a as =>
    rw [hq] at hh hs
    simp only [List.head?_cons, Option.some.injEq] at hh
    subst hh
    have hm : a ∈ r.queue := by rw [hq]; exact List.mem_cons_self ..
    rw [mem_queue] at hm
    refine ⟨hm.1, hm.2, fun i hi hiq => ?_⟩
    have : i ∈ r.queue := (mem_queue r i).2 ⟨hi, hiq⟩
    rw [hq] at this
    rcases List.mem_cons.1 this with rfl | hi'
    · exact Nat.le_refl _
    · exact (List.pairwise_cons.1 hs).1 i hi'

theorem head_mem {r : R} {h : Item} (hh : r.head = some h) : h ∈ r.items := (head_spec hh).1

theorem head_queued {r : R} {h : Item} (hh : r.head = some h) : h.inQueue = true := (head_spec hh).2.1

theorem head_le {r : R} {h : Item} (hh : r.head = some h) {i : Item} (hi : i ∈ r.items) (hq : i.inQueue = true) :
    h.retryAt ≤ i.retryAt := (head_spec hh).2.2 i hi hq

theorem head_none_iff (r : R) : r.head = none ↔ ∀ i ∈ r.items, i.inQueue = false := by
  unfold R.head
  rw [List.head?_eq_none_iff]
  constructor
  · intro hq i hi
    cases hiq : i.inQueue with
    | false => rfl
    | true =>
      have : i ∈ r.queue := (mem_queue r i).2 ⟨hi, hiq⟩
      rw [hq] at this; cases this
  · intro hall
    cases hq : r.queue with
    | nil => rfl
    | cons a as =>
      have hm : a ∈ r.queue := by rw [hq]; exact List.mem_cons_self ..
      rw [mem_queue] at hm
      have := hall a hm.1
      rw [hm.2] at this; cases this

theorem processSingle_update {r : R} (hinj : r.injects = []) (obj : RObj) (rev : Nat) :
    r.processSingle obj rev false =
      if r.isFailing obj.id then
        { r with log := r.log ++ [⟨"U", obj.id, obj.data, false⟩], results := r.results ++ [(obj, obj, rev, obj.sid, true)] }
      else
        R.retryClear { r with log := r.log ++ [⟨"U", obj.id, obj.data, true⟩], results := r.results ++ [(obj, obj, rev, obj.sid, false)] } obj.id := by
  unfold R.processSingle
  simp only [Bool.false_eq_true, if_false, hinj, List.filter_nil, List.foldl_nil]
  cases hf : r.isFailing obj.id
  · simp only [Bool.false_eq_true, if_false, Bool.not_false]
  · simp only [if_true, Bool.not_true]

theorem processSingle_delete (r : R) (obj : RObj) (rev : Nat) :
    r.processSingle obj rev true =
      if r.isFailing obj.id then
        R.retryAdd { r with log := r.log ++ [⟨"D", obj.id, obj.data, false⟩] } obj rev rev true
      else
        R.retryClear { r with log := r.log ++ [⟨"D", obj.id, obj.data, true⟩] } obj.id := by
  unfold R.processSingle
  simp only [if_true]
  cases hf : r.isFailing obj.id <;> simp

/-- the state in which the writes of an Update land: the reconciler's bookkeeping of the call
    (log entry, remembered result, cleared retry) is done first -/
def R.preUpdate (r : R) (obj : RObj) (rev : Nat) : R :=
  let r0 : R := { r with log := r.log ++ [({ op := "U", id := obj.id, data := obj.data, ok := !r.isFailing obj.id } : Call)],
                         injects := r.injects.filter (fun (a : Nat × Inject) => a.1 ≠ obj.id),
                         results := r.results ++ [(obj, obj, rev, obj.sid, r.isFailing obj.id)] }
  if r.isFailing obj.id then r0 else r0.retryClear obj.id

/-- `x` is `r` after the bookkeeping of the call `Update(obj)`, `obj` read at `rev`, and before its writes land: the call is
    logged, its result remembered, the writes queued for `obj` are off `injects`.  `it`, `items`: where the iterator
    stands and the retry items, which differ between a change of the stream and a retry. -/
structure Booked (r x : R) (obj : RObj) (rev it : Nat) (items : List Item) : Prop where
  objs : x.objs = r.objs
  dels : x.dels = r.dels
  tableRev : x.tableRev = r.tableRev
  itRev : x.itRev = it
  itDelRev : x.itDelRev = r.itDelRev
  refreshedAt : x.refreshedAt = r.refreshedAt
  log : x.log = r.log ++ [⟨"U", obj.id, obj.data, !(r.isFailing obj.id)⟩]
  nextSid : x.nextSid = r.nextSid
  results : x.results = r.results ++ [(obj, obj, rev, obj.sid, r.isFailing obj.id)]
  pending : x.pending = r.pending
  cfg : x.cfg = r.cfg
  now : x.now = r.now
  failing : x.failing = r.failing
  numReconciled : x.numReconciled = r.numReconciled
  injects : x.injects = r.injects.filter (fun (a : Nat × Inject) => a.1 ≠ obj.id)
  progressRev : x.progressRev = r.progressRev
  items : x.items = items

theorem preUpdate_facts (r : R) (obj : RObj) (rev : Nat) :
    Booked r (r.preUpdate obj rev) obj rev r.itRev (if r.isFailing obj.id then r.items else r.items.filter (·.id ≠ obj.id)) := by
  unfold R.preUpdate
  by_cases h : r.isFailing obj.id = true
  · rw [if_pos h, if_pos h]; constructor <;> rfl
  · rw [if_neg h, if_neg h]
    exact ⟨retryClear_objs .., retryClear_dels .., retryClear_tableRev .., retryClear_itRev .., retryClear_itDelRev ..,
      retryClear_refreshedAt .., retryClear_log .., retryClear_nextSid .., retryClear_results .., retryClear_pending ..,
      retryClear_cfg .., retryClear_now .., retryClear_failing .., retryClear_numReconciled .., retryClear_injects ..,
      retryClear_progressRev .., retryClear_items ..⟩

theorem processSingle_update_pre {r : R} (hinj : r.injects = []) (obj : RObj) (rev : Nat) :
    r.processSingle obj rev false = r.preUpdate obj rev := by
  rw [processSingle_update hinj, R.preUpdate, hinj]
  cases r.isFailing obj.id <;> rfl

theorem filter_map_pop (l : List Item) (X : Nat) :
    (l.map fun (i : Item) => if i.id = X then { i with inQueue := false } else i).filter (·.id ≠ X) = l.filter (·.id ≠ X) := by
  induction l with
  | nil => rfl
  | cons a as ih =>
    simp only [List.map_cons, List.filter_cons]
    simp only [ne_eq, decide_not] at ih
    by_cases ha : a.id = X
    · simp [ha, ih]
    · simp [ha, ih]

theorem failing_ne_nil {r : R} {id : Nat} (h : r.isFailing id = true) : r.failing ≠ [] := by
  unfold R.isFailing at h
  intro e; rw [e] at h; simp at h

theorem isFailing_of_nil {r : R} (h : r.failing = []) (id : Nat) : r.isFailing id = false := by
  unfold R.isFailing; rw [h]; rfl

@[simp] theorem isFailing_retryPop (r : R) (id : Nat) : r.retryPop.isFailing id = r.isFailing id := by
  unfold R.isFailing; rw [retryPop_failing]

@[simp] theorem isFailing_retryClear (r : R) (X id : Nat) : (r.retryClear X).isFailing id = r.isFailing id := by
  unfold R.isFailing; rw [retryClear_failing]

/-- the steps that do not write to the table nor move the iterator -/
structure FrameT (r r' : R) : Prop where
  objs : r'.objs = r.objs
  dels : r'.dels = r.dels
  tableRev : r'.tableRev = r.tableRev
  itRev : r'.itRev = r.itRev
  itDelRev : r'.itDelRev = r.itDelRev
  refreshedAt : r'.refreshedAt = r.refreshedAt
  pending : r'.pending = r.pending
  cfg : r'.cfg = r.cfg
  now : r'.now = r.now
  failing : r'.failing = r.failing
  injects : r'.injects = r.injects

theorem FrameT.refl (r : R) : FrameT r r := ⟨rfl, rfl, rfl, rfl, rfl, rfl, rfl, rfl, rfl, rfl, rfl⟩

theorem FrameT.trans {a b c : R} (h1 : FrameT a b) (h2 : FrameT b c) : FrameT a c :=
  ⟨h2.objs.trans h1.objs, h2.dels.trans h1.dels, h2.tableRev.trans h1.tableRev, h2.itRev.trans h1.itRev,
   h2.itDelRev.trans h1.itDelRev, h2.refreshedAt.trans h1.refreshedAt, h2.pending.trans h1.pending, h2.cfg.trans h1.cfg,
   h2.now.trans h1.now, h2.failing.trans h1.failing, h2.injects.trans h1.injects⟩

theorem FrameT.caughtUp {r r' : R} (h : FrameT r r') (hc : CaughtUp r) : CaughtUp r' :=
  hc.congr h.objs h.dels h.itRev h.itDelRev

theorem frameT_retryPop (r : R) : FrameT r r.retryPop := by constructor <;> simp
theorem frameT_retryClear (r : R) (id : Nat) : FrameT r (r.retryClear id) := by constructor <;> simp
theorem frameT_retryAdd (r : R) (o : RObj) (a b : Nat) (d : Bool) : FrameT r (r.retryAdd o a b d) := by constructor <;> rfl

/-- `x` is `r` after the call `Delete(obj)` and its bookkeeping; `tail` holds the retry item queued if the call failed -/
structure DelBooked (r x : R) (obj : RObj) (tail : List Item) : Prop where
  frame : FrameT r x
  numReconciled : x.numReconciled = r.numReconciled
  results : x.results = r.results
  nextSid : x.nextSid = r.nextSid
  progressRev : x.progressRev = r.progressRev
  log : x.log = r.log ++ [⟨"D", obj.id, obj.data, !r.isFailing obj.id⟩]
  items : x.items = r.items.filter (·.id ≠ obj.id) ++ tail
  tail_item : ∀ it ∈ tail, it.id = obj.id ∧ it.obj.id = obj.id ∧ it.delete = true ∧ it.inQueue = true
  tail_pw : tail.Pairwise (fun a b => a.id ≠ b.id)
  tail_ne : r.isFailing obj.id = true → tail ≠ []
  tail_nil : r.isFailing obj.id = false → tail = []

theorem processSingle_delete_spec (r : R) (obj : RObj) (rev : Nat) :
    ∃ tail : List Item, DelBooked r (r.processSingle obj rev true) obj tail := by
  rw [processSingle_delete]
  cases h : r.isFailing obj.id
  · rw [if_neg Bool.false_ne_true]
    exact ⟨[], {
      frame := by constructor <;> simp
      numReconciled := retryClear_numReconciled _ _
      results := retryClear_results _ _
      nextSid := retryClear_nextSid _ _
      progressRev := retryClear_progressRev _ _
      log := by rw [retryClear_log, h]; rfl
      items := by rw [retryClear_items, List.append_nil]
      tail_item := nofun
      tail_pw := .nil
      tail_ne := fun e => nomatch h.symm.trans e
      tail_nil := fun _ => rfl }⟩
  · rw [if_pos rfl]
    exact ⟨[addedItem { r with log := r.log ++ [⟨"D", obj.id, obj.data, false⟩] } obj rev rev true], {
      frame := by constructor <;> rfl
      numReconciled := rfl
      results := rfl
      nextSid := rfl
      progressRev := rfl
      log := by rw [h]; rfl
      items := retryAdd_items _ _ _ _ _
      tail_item := fun it hit => List.mem_singleton.1 hit ▸ ⟨rfl, rfl, rfl, rfl⟩
      tail_pw := List.pairwise_singleton _ _
      tail_ne := fun _ => nofun
      tail_nil := fun e => nomatch h.symm.trans e }⟩

/-- a due retry of a Delete.  The id may have been re-created meanwhile. -/
theorem Core.retry_delete {r : R} {rs : List Res} (h : Core r rs) (it0 : Item) (hh : r.head = some it0) (hdel : it0.delete = true) :
    Keeps (Core (r.retryPop.processSingle it0.obj it0.rev true) rs)
      (Calm r rs → Calm (r.retryPop.processSingle it0.obj it0.rev true) rs)
      (Fresh r rs → Fresh (r.retryPop.processSingle it0.obj it0.rev true) rs) := by
  obtain ⟨hit0, hq0, _⟩ := head_spec hh
  have hobj := (h.itemOK it0 hit0).obj_id
  have huniq : ∀ it ∈ r.items, it.id = it0.id → it = it0 := fun it hit hid => eq_of_id h.items_pw hit hit0 hid
  have hnores := h.queued_no_res hit0 hq0
  have hlive : ∀ cur ∈ r.objs, cur.id = it0.id → needs cur.kind := by
    intro cur hcur hcid
    refine (h.objOK cur hcur).needs_of_item (fun hk => ?_) hit0 hcid.symm
    rcases (h.objOK cur hcur).of_error hk with ⟨it, hit, b1, b2, _⟩ | ⟨res, hres, e1, e2⟩
    · rw [huniq it hit (b1.trans hcid), hdel] at b2
      cases b2
    · exact hnores res hres (e1.trans hcid) cur hcur hcid (Or.inl e2.symm)
  have hjust : Stale r.objs r.dels r.itRev r.itDelRev it0.id ∨ ∃ d ∈ r.dels, d.1.id = it0.id :=
    (h.itemOK it0 hit0).reason.imp_right (·.elim (·.2) fun a => nomatch a.1.symm.trans hdel)
  obtain ⟨tail, d⟩ := processSingle_delete_spec r.retryPop it0.obj it0.rev
  have hF := (frameT_retryPop r).trans d.frame
  have hitems := d.items
  have hlog := d.log
  have t1 := d.tail_item
  have t3 := d.tail_ne
  have t4 := d.tail_nil
  rw [retryPop_items r it0 hh, hobj, filter_map_pop] at hitems
  rw [hobj] at t1
  rw [isFailing_retryPop] at hlog t3 t4
  rw [retryPop_log] at hlog
  have s := h.step_delete it0.id (r.isFailing it0.obj.id) r.itDelRev _ tail h.tinv.itd_le
    (fun x _ hx => Or.inr hx) hlive hnores ⟨hobj, rfl, rfl⟩ t1 d.tail_pw t3 t4 (fun _ => hjust)
    hF.objs hF.dels hF.tableRev hF.itRev hF.itDelRev hF.refreshedAt hitems hlog
  exact ⟨s.core, fun hC => s.calm hC (Nat.le_refl _) hF.injects, fun hf => s.fresh hf (d.nextSid.trans (retryPop_nextSid r))⟩

theorem InvL.cast_results {x : R} {A : List Res} (e : x.results = A) (hx : InvL x A) : InvL x x.results := by
  rw [e]; exact hx

theorem retry_update_items {r : R} {it0 : Item} (hpw : r.items.Pairwise (fun a b => a.id ≠ b.id)) (hh : r.head = some it0)
    (hobj : it0.obj.id = it0.id) :
    (∀ it : Item, it.id ≠ it0.id → (it ∈ (r.retryPop.preUpdate it0.obj it0.rev).items ↔ it ∈ r.items)) ∧
    (∀ it ∈ (r.retryPop.preUpdate it0.obj it0.rev).items, it.id = it0.id →
      r.isFailing it0.obj.id = true ∧ it = { it0 with inQueue := false }) ∧
    (r.retryPop.preUpdate it0.obj it0.rev).items.Pairwise (fun a b => a.id ≠ b.id) := by
  have hit0 := (head_spec hh).1
  rw [(preUpdate_facts r.retryPop it0.obj it0.rev).items, isFailing_retryPop, retryPop_items r it0 hh]
  cases r.isFailing it0.obj.id
  · rw [if_neg Bool.false_ne_true, hobj, filter_map_pop]
    exact ⟨mem_filter_off, fun it hit hid => absurd hid (mem_filter_id_ne.1 hit).2, hpw.filter _⟩
  · rw [if_pos rfl]
    have hmem : ∀ it, it ∈ r.items.map (fun (i : Item) => if i.id = it0.id then { i with inQueue := false } else i) ↔
        (it ∈ r.items ∧ it.id ≠ it0.id) ∨ it = { it0 with inQueue := false } := by
      intro it
      rw [List.mem_map]
      constructor
      · rintro ⟨i, hi, rfl⟩
        by_cases hid : i.id = it0.id
        · rw [if_pos hid, eq_of_id hpw hi hit0 hid]; exact Or.inr rfl
        · rw [if_neg hid]; exact Or.inl ⟨hi, hid⟩
      · rintro (⟨hi, hid⟩ | rfl)
        · exact ⟨it, hi, if_neg hid⟩
        · exact ⟨it0, hit0, if_pos rfl⟩
    refine ⟨fun it hid => (hmem it).trans ⟨fun a => a.elim (·.1) (fun e => absurd (congrArg Item.id e) hid), fun a => Or.inl ⟨a, hid⟩⟩,
      fun it hit hid => ⟨rfl, ((hmem it).1 hit).resolve_left (fun a => a.2 hid)⟩, ?_⟩
    have hid : ∀ i : Item, (if i.id = it0.id then { i with inQueue := false } else i).id = i.id := fun i => by split <;> rfl
    rw [List.pairwise_map]
    exact hpw.imp fun hab => by rw [hid, hid]; exact hab

/-- the bookkeeping of a due retry of an Update.  `hrev`: the revision the item was queued for is
    one the table has had. -/
theorem Core.retry_update {r : R} (h : Core r r.results) (it0 : Item) (hh : r.head = some it0) (hdel : it0.delete = false)
    (hrev : it0.rev ≤ r.tableRev) :
    Keeps (Core (r.retryPop.preUpdate it0.obj it0.rev) (r.retryPop.preUpdate it0.obj it0.rev).results)
      (Calm r r.results → ¬ Stale r.objs r.dels r.itRev r.itDelRev it0.id →
        Calm (r.retryPop.preUpdate it0.obj it0.rev) (r.retryPop.preUpdate it0.obj it0.rev).results)
      (Fresh r r.results → Fresh (r.retryPop.preUpdate it0.obj it0.rev) (r.retryPop.preUpdate it0.obj it0.rev).results) := by
  obtain ⟨hit0, hq0, _⟩ := head_spec hh
  have hobj := (h.itemOK it0 hit0).obj_id
  obtain ⟨hI, hX, hpw⟩ := retry_update_items h.items_pw hh hobj
  have p := preUpdate_facts r.retryPop it0.obj it0.rev
  have hlog := p.log
  have hres := p.results
  rw [isFailing_retryPop] at hlog hres
  rw [retryPop_log] at hlog
  rw [retryPop_results] at hres
  have s := h.step_retry_update it0 (r.isFailing it0.obj.id) hit0 hq0 hdel hrev hI hX hpw
    (p.objs.trans (retryPop_objs r)) (p.dels.trans (retryPop_dels r)) (p.tableRev.trans (retryPop_tableRev r))
    (p.itRev.trans (retryPop_itRev r)) (p.itDelRev.trans (retryPop_itDelRev r)) (p.refreshedAt.trans (retryPop_refreshedAt r)) hlog
  rw [hres]
  refine ⟨s.core, fun hC hns => s.calm hC hns ?_, fun hf => s.fresh hf (p.nextSid.trans (retryPop_nextSid r))⟩
  rw [p.injects, retryPop_injects, hC.noinj]
  rfl

theorem frameT_processSingle {r : R} (hinj : r.injects = []) (obj : RObj) (rev : Nat) (del : Bool) :
    FrameT r (r.processSingle obj rev del) ∧ (r.processSingle obj rev del).numReconciled = r.numReconciled := by
  cases del with
  | false =>
    have p := preUpdate_facts r obj rev
    rw [processSingle_update_pre hinj]
    exact ⟨⟨p.objs, p.dels, p.tableRev, p.itRev, p.itDelRev, p.refreshedAt, p.pending, p.cfg, p.now, p.failing,
      p.injects.trans (by rw [hinj]; rfl)⟩, p.numReconciled⟩
  | true =>
    obtain ⟨_, d⟩ := processSingle_delete_spec r obj rev
    exact ⟨d.frame, d.numReconciled⟩

/-- one iteration of `processRetries`, on the due head `h` -/
def retryStep (r : R) (h : Item) : R :=
  { (r.retryPop.processSingle h.obj h.rev h.delete) with
    numReconciled := (r.retryPop.processSingle h.obj h.rev h.delete).numReconciled + 1 }

theorem processRetries_succ (r : R) (fuel : Nat) : r.processRetries (fuel + 1) =
    if r.numReconciled ≥ r.cfg.roundSize then r else
    match r.head with
    | none => r
    | some h => if h.retryAt > r.now then r else (retryStep r h).processRetries fuel := by
  rw [R.processRetries]; rfl

/-- `k` counts the steps; the last clause: with fuel left, a step that is possible is made -/
theorem processRetries_steps {P : Nat → R → Prop}
    (hstep : ∀ k r h, P k r → r.numReconciled < r.cfg.roundSize → r.head = some h → h.retryAt ≤ r.now → P (k + 1) (retryStep r h))
    (fuel k : Nat) (r : R) (h : P k r) :
    ∃ k', k ≤ k' ∧ P k' (r.processRetries fuel) ∧
      (1 ≤ fuel → r.numReconciled < r.cfg.roundSize → (∃ h0, r.head = some h0 ∧ h0.retryAt ≤ r.now) → k < k') := by
  induction fuel generalizing k r with
  | zero => exact ⟨k, Nat.le_refl _, h, fun h1 => absurd h1 (by decide)⟩
  | succ n ih =>
    rw [processRetries_succ]
    by_cases hfull : r.numReconciled ≥ r.cfg.roundSize
    · rw [if_pos hfull]; exact ⟨k, Nat.le_refl _, h, fun _ hlt => absurd hlt (Nat.not_lt.2 hfull)⟩
    · rw [if_neg hfull]
      cases hh : r.head with
      | none => exact ⟨k, Nat.le_refl _, h, fun _ _ ⟨_, e, _⟩ => nomatch e⟩
      | some h0 =>
        dsimp only
        by_cases hd : h0.retryAt > r.now
        · rw [if_pos hd]
          exact ⟨k, Nat.le_refl _, h, fun _ _ ⟨_, e, hle⟩ => absurd (Option.some.inj e ▸ hle) (Nat.not_le.2 hd)⟩
        · rw [if_neg hd]
          obtain ⟨k', a, b, _⟩ := ih (k + 1) (retryStep r h0) (hstep k r h0 h (Nat.lt_of_not_le hfull) hh (Nat.le_of_not_lt hd))
          exact ⟨k', Nat.le_of_succ_le a, b, fun _ _ _ => a⟩

theorem processRetries_of_not_due {r : R} (fuel : Nat) (h : ¬ ∃ h0, r.head = some h0 ∧ h0.retryAt ≤ r.now) :
    r.processRetries fuel = r := by
  cases fuel with
  | zero => rfl
  | succ n =>
    rw [processRetries_succ]
    split
    · rfl
    · split
      · rfl
      · rename_i h0 hh
        exact if_pos (Nat.lt_of_not_le (fun hle => h ⟨h0, hh, hle⟩))

theorem processRetries_inv {P : R → Prop}
    (hstep : ∀ r h, P r → r.numReconciled < r.cfg.roundSize → r.head = some h → h.retryAt ≤ r.now → P (retryStep r h))
    (fuel : Nat) (r : R) (h : P r) : P (r.processRetries fuel) :=
  have ⟨_, _, a, _⟩ := processRetries_steps (P := fun _ => P) (fun _ => hstep) fuel 0 r h
  a

theorem InvL.retryStep {r : R} (h : InvL r r.results) (hcu : CaughtUp r) (it0 : Item) (hh : r.head = some it0) :
    InvL (retryStep r it0) (retryStep r it0).results ∧ FrameT r (retryStep r it0) := by
  have hinj : r.retryPop.injects = [] := by rw [retryPop_injects]; exact h.noinj
  obtain ⟨hfr, _⟩ := frameT_processSingle hinj it0.obj it0.rev it0.delete
  have hI : InvL (r.retryPop.processSingle it0.obj it0.rev it0.delete) (r.retryPop.processSingle it0.obj it0.rev it0.delete).results := by
    have hns := hcu.not_stale it0.id
    cases hdel : it0.delete with
    | false =>
      obtain ⟨o, ho, _, _, hor⟩ := (h.core.itemOK it0 (head_mem hh)).errAt hdel hns
      have s := h.core.retry_update it0 hh hdel (hor ▸ h.tinv.objs_le o ho)
      rw [processSingle_update_pre hinj]
      exact s.core.invL (s.calm h.calm hns)
    | true =>
      have s := h.core.retry_delete it0 hh hdel
      refine InvL.cast_results (A := r.results) ?_ (s.core.invL (s.calm h.calm))
      rw [processSingle_delete]; split <;> simp
  have hfr := (frameT_retryPop r).trans hfr
  unfold Sdb.Rec.retryStep
  generalize r.retryPop.processSingle it0.obj it0.rev it0.delete = x at hI hfr ⊢
  exact ⟨hI.congr rfl rfl rfl rfl rfl rfl rfl rfl rfl, hfr.trans (by constructor <;> rfl)⟩

/-- `hc`: the retry loop runs only while the round is not full, and then the change stream
    was consumed completely -/
theorem InvL.processRetries (fuel : Nat) {r : R} (h : InvL r r.results)
    (hc : r.numReconciled < r.cfg.roundSize → CaughtUp r) :
    InvL (r.processRetries fuel) (r.processRetries fuel).results ∧ FrameT r (r.processRetries fuel) := by
  obtain ⟨a, _, f⟩ := processRetries_inv
    (P := fun x => InvL x x.results ∧ (x.numReconciled < x.cfg.roundSize → CaughtUp x) ∧ FrameT r x)
    (fun x it0 ⟨hI, hcu, hF⟩ hlt hh _ =>
      ⟨(hI.retryStep (hcu hlt) it0 hh).1, fun _ => (hI.retryStep (hcu hlt) it0 hh).2.caughtUp (hcu hlt),
        hF.trans (hI.retryStep (hcu hlt) it0 hh).2⟩)
    fuel r ⟨h, hc, FrameT.refl r⟩
  exact ⟨a, f⟩

end Sdb.Rec
