import SdbModel.Lemmas.ReconcilerBatchMeasure

/-!
  A batch round and a single round from the same state (no writes from inside an Update) make the
  same calls up to their order, and end in states that differ at most in the order of the call log
  and in the unobservable distinction of the retry timer / tie ghost.  The tail of a round, the same in
  both modes, ignores these three fields and only appends to the log (`LogOnly`); before it, the loop
  of `single()` is related step by step to the collecting loop (`JRel`).
-/
namespace Sdb.Rec

def asm (c : R) (l : List Call) (t : Timer) (s : Bool) : R := { c with log := l, timer := t, tieSeen := s }

@[simp] theorem asm_cfg (c : R) (l t s) : (asm c l t s).cfg = c.cfg := rfl
@[simp] theorem asm_objs (c : R) (l t s) : (asm c l t s).objs = c.objs := rfl
@[simp] theorem asm_tableRev (c : R) (l t s) : (asm c l t s).tableRev = c.tableRev := rfl
@[simp] theorem asm_dels (c : R) (l t s) : (asm c l t s).dels = c.dels := rfl
@[simp] theorem asm_items (c : R) (l t s) : (asm c l t s).items = c.items := rfl
@[simp] theorem asm_now (c : R) (l t s) : (asm c l t s).now = c.now := rfl
@[simp] theorem asm_failing (c : R) (l t s) : (asm c l t s).failing = c.failing := rfl
@[simp] theorem asm_injects (c : R) (l t s) : (asm c l t s).injects = c.injects := rfl
@[simp] theorem asm_log (c : R) (l t s) : (asm c l t s).log = l := rfl
@[simp] theorem asm_results (c : R) (l t s) : (asm c l t s).results = c.results := rfl
@[simp] theorem asm_numReconciled (c : R) (l t s) : (asm c l t s).numReconciled = c.numReconciled := rfl
@[simp] theorem asm_nextSid (c : R) (l t s) : (asm c l t s).nextSid = c.nextSid := rfl
@[simp] theorem asm_progressRev (c : R) (l t s) : (asm c l t s).progressRev = c.progressRev := rfl
@[simp] theorem asm_head (c : R) (l t s) : (asm c l t s).head = c.head := rfl
@[simp] theorem asm_get (c : R) (l t s) (id : Nat) : (asm c l t s).get id = c.get id := rfl
@[simp] theorem asm_isFailing (c : R) (l t s) (id : Nat) : (asm c l t s).isFailing id = c.isFailing id := rfl
@[simp] theorem asm_lowWatermark (c : R) (l t s) : (asm c l t s).lowWatermark = c.lowWatermark := rfl
@[simp] theorem asm_asm (c : R) (l t s l' t' s') : asm (asm c l t s) l' t' s' = asm c l' t' s' := rfl
theorem asm_setObj (y : R) (l : List Call) (t : Timer) (s : Bool) (o : RObj) : (asm y l t s).setObj o = asm (y.setObj o) l t s := rfl

/-- `f` acts on a state (without writes from inside an Update) independently of its log, timer
    and tie ghost, and only appends to the log -/
def LogOnly (f : R → R) : Prop :=
  ∀ y l t s, y.injects = [] → ∃ Δ t' s', f (asm y l t s) = asm (f y) (l ++ Δ) t' s' ∧ (f y).log = y.log ++ Δ ∧ (f y).injects = []

theorem LogOnly.comp {f g : R → R} (hf : LogOnly f) (hg : LogOnly g) : LogOnly (fun r => g (f r)) := by
  intro y l t s hi
  obtain ⟨Δ, t', s', e1, e2, i1⟩ := hf y l t s hi
  obtain ⟨Δ', t'', s'', e3, e4, i2⟩ := hg (f y) (l ++ Δ) t' s' i1
  refine ⟨Δ ++ Δ', t'', s'', ?_, ?_, i2⟩
  · simp only [e1, e3, List.append_assoc]
  · rw [e4, e2, List.append_assoc]

theorem LogOnly.id : LogOnly (fun r => r) := fun y l t s hi => ⟨[], t, s, by simp, by simp, hi⟩

theorem LogOnly.ite {f g : R → R} (c : R → Prop) [∀ r, Decidable (c r)] (hc : ∀ y l t s, c (asm y l t s) ↔ c y)
    (hf : LogOnly f) (hg : LogOnly g) : LogOnly (fun r => if c r then f r else g r) := by
  intro y l t s hi
  simp only [hc]
  split
  · exact hf y l t s hi
  · exact hg y l t s hi

theorem logOnly_retryAdd (o : RObj) (a b : Nat) (d : Bool) : LogOnly (fun r => r.retryAdd o a b d) := by
  intro y l t s hi
  exact ⟨[], _, _, by rw [List.append_nil]; rfl, by simp, hi⟩

theorem logOnly_retryClear (id : Nat) : LogOnly (fun r => r.retryClear id) := by
  intro y l t s hi
  refine ⟨[], ?_⟩
  simp only [List.append_nil, retryClear_log, retryClear_injects, hi, and_true]
  unfold R.retryClear
  simp only [asm_items]
  cases y.items.find? (·.id = id) with
  | none => exact ⟨t, s, rfl⟩
  | some it => exact ⟨_, _, rfl⟩

theorem logOnly_retryPop : LogOnly (fun r => r.retryPop) := by
  intro y l t s hi
  refine ⟨[], ?_⟩
  simp only [List.append_nil, retryPop_log, retryPop_injects, hi, and_true]
  unfold R.retryPop
  simp only [asm_head]
  cases y.head with
  | none => exact ⟨t, s, rfl⟩
  | some it => exact ⟨_, _, rfl⟩

theorem logOnly_call (c : Call) (rs : List Res) : LogOnly (fun r => { r with log := r.log ++ [c], results := r.results ++ rs }) :=
  fun _ _ t s hi => ⟨[c], t, s, rfl, rfl, hi⟩

theorem logOnly_processSingle (obj : RObj) (rev : Nat) (del : Bool) : LogOnly (fun r => r.processSingle obj rev del) := by
  have hc : ∀ (y : R) l t s, (asm y l t s).isFailing obj.id = true ↔ y.isFailing obj.id = true := fun _ _ _ _ => Iff.rfl
  cases del with
  | true =>
    have h := LogOnly.ite (fun r => r.isFailing obj.id = true) hc
      ((logOnly_call ⟨"D", obj.id, obj.data, false⟩ []).comp (logOnly_retryAdd obj rev rev true))
      ((logOnly_call ⟨"D", obj.id, obj.data, true⟩ []).comp (logOnly_retryClear obj.id))
    simp only [List.append_nil] at h
    simp only [processSingle_delete]
    exact h
  | false =>
    intro y l t s hi
    have h := LogOnly.ite (fun r => r.isFailing obj.id = true) hc
      (logOnly_call ⟨"U", obj.id, obj.data, false⟩ [(obj, obj, rev, obj.sid, true)])
      ((logOnly_call ⟨"U", obj.id, obj.data, true⟩ [(obj, obj, rev, obj.sid, false)]).comp (logOnly_retryClear obj.id)) y l t s hi
    simp only
    rw [processSingle_update (r := asm y l t s) hi, processSingle_update hi]
    exact h

theorem logOnly_writeStatus (base orig : RObj) (rev : Nat) (failed : Bool) :
    LogOnly (fun r => r.writeStatus base orig rev failed) := by
  intro y l t s hi
  cases failed with
  | false =>
    refine ⟨[], t, s, ?_, (List.append_nil _).symm, hi⟩
    simp only [writeStatus_done, List.append_nil]
    rfl
  | true =>
    simp only [writeStatus_error]
    exact logOnly_retryAdd orig _ rev false
      { (y.setObj { base with kind := .error, sid := y.nextSid }) with nextSid := y.nextSid + 1 } l t s hi

theorem logOnly_commitOne (res : Res) : LogOnly (fun r => r.commitOne res) := by
  intro y l t s hi
  simp only [commitOne_eq, asm_get]
  cases y.get res.1.id with
  | none => exact LogOnly.id y l t s hi
  | some cur =>
    dsimp only
    by_cases h1 : cur.rev = res.2.2.1
    · rw [if_pos h1, if_pos h1]; exact logOnly_writeStatus _ _ _ _ y l t s hi
    · rw [if_neg h1, if_neg h1]
      by_cases h2 : cur.kind = .pending ∧ cur.sid = res.2.2.2.1
      · rw [if_pos h2, if_pos h2]; exact logOnly_writeStatus _ _ _ _ y l t s hi
      · rw [if_neg h2, if_neg h2]; exact LogOnly.id y l t s hi

theorem logOnly_foldl_commitOne (rs : List Res) : LogOnly (fun r => rs.foldl R.commitOne r) := by
  induction rs with
  | nil => exact LogOnly.id
  | cons x xs ih => exact (logOnly_commitOne x).comp ih

theorem logOnly_commitStatus : LogOnly R.commitStatus := by
  intro y l t s hi
  unfold R.commitStatus
  obtain ⟨Δ, t', s', e1, e2, i1⟩ := logOnly_foldl_commitOne y.results y l t s hi
  simp only [asm_results]
  simp only at e1
  rw [e1]
  exact ⟨Δ, t', s', rfl, e2, i1⟩

theorem logOnly_setNum (f : R → Nat) (hf : ∀ y l t s, f (asm y l t s) = f y) : LogOnly (fun r => { r with numReconciled := f r }) := by
  intro y l t s hi
  exact ⟨[], t, s, by simp only [hf, List.append_nil]; rfl, by simp, hi⟩

theorem logOnly_processRetries (fuel : Nat) : LogOnly (fun r => r.processRetries fuel) := by
  induction fuel with
  | zero => exact LogOnly.id
  | succ n ih =>
    intro y l t s hi
    simp only
    unfold R.processRetries
    simp only [asm_numReconciled, asm_cfg, asm_head, asm_now]
    by_cases h1 : y.numReconciled ≥ y.cfg.roundSize
    · simp only [h1, if_true]
      exact LogOnly.id y l t s hi
    · simp only [h1, if_false]
      cases hh : y.head with
      | none => exact LogOnly.id y l t s hi
      | some h =>
        simp only
        by_cases h2 : h.retryAt > y.now
        · simp only [h2, if_true]
          exact LogOnly.id y l t s hi
        · simp only [h2, if_false]
          have hc := ((logOnly_retryPop.comp (logOnly_processSingle h.obj h.rev h.delete)).comp
            (logOnly_setNum (fun r => r.numReconciled + 1) (fun _ _ _ _ => rfl))).comp ih
          exact hc y l t s hi

/-- the state after the first status commit and the retries of a round's tail -/
def tail5 (r : R) : R := r.commitStatus.processRetries (r.commitStatus.items.length + 1)

def tailFin (last : Nat) (r5 : R) : R :=
  let r6 := r5.commitStatus
  { r6 with numReconciled := 0, progressRev := if last > r6.progressRev then last else r6.progressRev,
            progressLW := r5.lowWatermark }

theorem roundTail_eq (r : R) (last : Nat) : roundTail r last = tailFin last (tail5 r) := rfl

theorem logOnly_tail5 : LogOnly tail5 := by
  intro y l t s hi
  have hn : (asm y l t s).commitStatus.items = y.commitStatus.items := by
    obtain ⟨_, _, _, a1, _⟩ := logOnly_commitStatus y l t s hi
    rw [a1]; rfl
  unfold tail5
  rw [hn]
  exact (logOnly_commitStatus.comp (logOnly_processRetries _)) y l t s hi

theorem logOnly_tailFin (last : Nat) : LogOnly (tailFin last) := by
  intro y l t s hi
  unfold tailFin
  obtain ⟨Δ, t', s', a, b, i⟩ := logOnly_commitStatus y l t s hi
  simp only [a, asm_lowWatermark, asm_progressRev]
  exact ⟨Δ, t', s', rfl, b, i⟩

theorem logOnly_roundTail (last : Nat) : LogOnly (fun r => roundTail r last) :=
  logOnly_tail5.comp (logOnly_tailFin last)

/-- what the single-mode loop and the collecting loop of the batch mode agree on all along: the
    state without its retry items, recorded results, log, timer and tie ghost -/
def base (r : R) : R := { r with items := [], results := [], log := [], timer := .none, tieSeen := false }

theorem eq_asm_of_base {x y : R} (hb : base x = base y) (hi : x.items = y.items) (hr : x.results = y.results) :
    x = asm y x.log x.timer x.tieSeen := by
  -- `base` keeps all fields but five: `hi`, `hr`, and the three `asm` sets
  cases x; cases y
  simp only [base, R.mk.injEq] at hb
  simp_all [asm]

@[simp] theorem base_retryClear (r : R) (id : Nat) : base (r.retryClear id) = base r := by
  unfold R.retryClear
  cases r.items.find? (·.id = id) <;> rfl

@[simp] theorem base_retryAdd (r : R) (o : RObj) (a b : Nat) (d : Bool) : base (r.retryAdd o a b d) = base r := rfl

theorem base_now {x y : R} (h : base x = base y) : x.now = y.now := (congrArg R.now h :)
theorem base_cfg {x y : R} (h : base x = base y) : x.cfg = y.cfg := (congrArg R.cfg h :)
theorem base_failing {x y : R} (h : base x = base y) : x.failing = y.failing := (congrArg R.failing h :)
theorem base_injects {x y : R} (h : base x = base y) : x.injects = y.injects := (congrArg R.injects h :)
theorem base_pending {x y : R} (h : base x = base y) : x.pending = y.pending := (congrArg R.pending h :)
theorem base_numReconciled {x y : R} (h : base x = base y) : x.numReconciled = y.numReconciled := (congrArg R.numReconciled h :)

/-- the retry item a failed Delete of the entry `e` leaves (first failure after the change was read) -/
def mkItemD (n : R) (e : BEntry) : Item :=
  { id := e.1.id, obj := e.1, rev := e.2, origRev := e.2, delete := true, retryAt := n.now + backoff n.cfg.minB n.cfg.maxB 1,
    numRetries := 1, inQueue := true, inRevQueue := true }

def mkRes (fl : List Nat) (e : BEntry) : Res := (e.1, e.1, e.2, e.1.sid, fl.contains e.1.id)

theorem filter_ne_self (l : List Item) (id : Nat) (h : ∀ it ∈ l, it.id ≠ id) : l.filter (·.id ≠ id) = l := by
  rw [List.filter_eq_self]
  intro it hit
  simpa using h it hit

theorem retryAdd_items_fresh (r : R) (o : RObj) (v : Nat) (h : ∀ it ∈ r.items, it.id ≠ o.id) :
    (r.retryAdd o v v true).items = r.items ++ [mkItemD r (o, v)] := by
  have hf : r.items.find? (·.id = o.id) = none := (LB.find_key_none Item.id).2 h
  unfold R.retryAdd
  simp only [hf, filter_ne_self _ _ h]
  rfl

def setD (r : R) (v : Nat) : R := { r with itDelRev := v, numReconciled := r.numReconciled + 1 }
def setU (r : R) (v : Nat) : R := { r with itRev := v, numReconciled := r.numReconciled + 1 }

theorem base_setD {x y : R} (h : base x = base y) (v : Nat) : base (setD x v) = base (setD y v) := by
  show setD (base x) v = setD (base y) v
  rw [h]

theorem base_setU {x y : R} (h : base x = base y) (v : Nat) : base (setU x v) = base (setU y v) := by
  show setU (base x) v = setU (base y) v
  rw [h]

/-- all of `x` but its timer and tie ghost (`eq_asm_of_base`) -/
structure SameBase (x b : R) (its : List Item) (rs : List Res) (lg : List Call) : Prop where
  base : base x = base b
  items : x.items = its
  results : x.results = rs
  log : x.log = lg

theorem ps_del_spec (X : R) (o : RObj) (v : Nat) (hfresh : ∀ it ∈ X.items, it.id ≠ o.id) :
    SameBase (X.processSingle o v true) X (X.items ++ (if X.failing.contains o.id then [mkItemD X (o, v)] else [])) X.results
      (X.log ++ [callD X.failing (o, v)]) := by
  rw [processSingle_delete]
  have hfail : X.isFailing o.id = X.failing.contains o.id := rfl
  rw [hfail]
  cases hf : X.failing.contains o.id with
  | true =>
    simp only [if_true]
    exact ⟨rfl, retryAdd_items_fresh { X with log := X.log ++ [⟨"D", o.id, o.data, false⟩] } o v hfresh, rfl,
      by simp only [retryAdd_log, callD, hf, Bool.not_true]⟩
  | false =>
    simp only [Bool.false_eq_true, if_false, List.append_nil]
    refine ⟨by simp [base], ?_, by simp, by simp only [retryClear_log, callD, hf, Bool.not_false]⟩
    rw [retryClear_items]
    exact filter_ne_self _ _ hfresh

theorem ps_upd_spec (X : R) (o : RObj) (v : Nat) (hinj : X.injects = []) (hfresh : ∀ it ∈ X.items, it.id ≠ o.id) :
    SameBase (X.processSingle o v false) X X.items (X.results ++ [mkRes X.failing (o, v)]) (X.log ++ [callU X.failing (o, v)]) := by
  rw [processSingle_update hinj]
  have hfail : X.isFailing o.id = X.failing.contains o.id := rfl
  rw [hfail]
  cases hf : X.failing.contains o.id with
  | true =>
    simp only [if_true]
    exact ⟨rfl, rfl, by simp only [mkRes, hf], by simp only [callU, hf, Bool.not_true]⟩
  | false =>
    simp only [Bool.false_eq_true, if_false]
    refine ⟨by simp [base], ?_, by simp only [retryClear_results, mkRes, hf], by simp only [retryClear_log, callU, hf, Bool.not_false]⟩
    rw [retryClear_items]
    exact filter_ne_self _ _ hfresh

theorem retryClear_spec (x : R) (id : Nat) : SameBase (x.retryClear id) x (x.items.filter (·.id ≠ id)) x.results x.log :=
  ⟨base_retryClear _ _, retryClear_items _ _, by simp, by simp⟩

theorem procD_spec (r : R) (c : Change) :
    SameBase (procD r c) (setD r c.rev)
      (r.items.filter (·.id ≠ c.obj.id) ++ (if r.failing.contains c.obj.id then [mkItemD r (c.obj, c.rev)] else []))
      r.results (r.log ++ [callD r.failing (c.obj, c.rev)]) := by
  unfold procD
  have x := retryClear_spec { r with itDelRev := c.rev } c.obj.id
  generalize R.retryClear { r with itDelRev := c.rev } c.obj.id = X at x
  have y := ps_del_spec X c.obj c.rev (fun it hit => (mem_filter_id_ne.1 (x.items ▸ hit)).2)
  generalize X.processSingle c.obj c.rev true = Y at y
  refine ⟨?_, ?_, y.results.trans x.results, by rw [y.log, x.log, base_failing x.base]⟩
  · show ({ base Y with numReconciled := Y.numReconciled + 1 } : R) = _
    rw [y.base, x.base, base_numReconciled y.base, base_numReconciled x.base]
    rfl
  · show Y.items = _
    rw [y.items, x.items, base_failing x.base]
    simp only [mkItemD, base_now x.base, base_cfg x.base]

theorem procU_spec (r : R) (c : Change) (hinj : r.injects = []) :
    SameBase (procU r c) (setU r c.rev) (r.items.filter (·.id ≠ c.obj.id)) (r.results ++ [mkRes r.failing (c.obj, c.rev)])
      (r.log ++ [callU r.failing (c.obj, c.rev)]) := by
  unfold procU
  have x := retryClear_spec { r with itRev := c.rev } c.obj.id
  generalize R.retryClear { r with itRev := c.rev } c.obj.id = X at x
  have y := ps_upd_spec X c.obj c.rev ((base_injects x.base).trans hinj) (fun it hit => (mem_filter_id_ne.1 (x.items ▸ hit)).2)
  generalize X.processSingle c.obj c.rev false = Y at y
  refine ⟨?_, y.items.trans x.items, by rw [y.results, x.results, base_failing x.base], by rw [y.log, x.log, base_failing x.base]⟩
  show ({ base Y with numReconciled := Y.numReconciled + 1 } : R) = _
  rw [y.base, x.base, base_numReconciled y.base, base_numReconciled x.base]
  rfl

/-- the state `x` of the collecting loop of `batch()` started in `n`: `cs` the changes still to
    be read, `ds` / `us` the entries collected so far.  The bookkeeping invariant holds of `x` with
    the iterator put back to where it was in `n` (`ginv`) -/
structure CB (n x : R) (cs : List Change) (ds us : List BEntry) : Prop where
  frame : FrameC n x
  log : x.log = n.log
  results : x.results = n.results
  ginv : InvL (ghost x n.itRev n.itDelRev) []
  ch : ChOK x [] cs
  itU : n.itRev ≤ x.itRev
  itUt : x.itRev ≤ x.tableRev
  itDle : n.itDelRev ≤ x.itDelRev
  itD : ds.foldl (fun _ e => e.2) n.itDelRev = x.itDelRev
  dsSorted : ds.Pairwise (fun e e' => e.2 < e'.2)
  dsMem : ∀ e ∈ ds, e ∈ n.dels ∧ n.itDelRev < e.2 ∧ e.2 ≤ x.itDelRev
  dsCov : ∀ d ∈ n.dels, n.itDelRev < d.2 → d.2 ≤ x.itDelRev → d ∈ ds
  usSorted : us.Pairwise (fun e e' => e.2 < e'.2)
  usMem : ∀ e ∈ us, e.1 ∈ n.objs ∧ e.2 = e.1.rev ∧ needs e.1.kind ∧ n.itRev < e.2 ∧ e.2 ≤ x.itRev
  usCov : ∀ o ∈ n.objs, needs o.kind → n.itRev < o.rev → o.rev ≤ x.itRev → (o, o.rev) ∈ us
  clrD : ∀ e ∈ ds, ∀ it ∈ x.items, it.id ≠ e.1.id
  clrU : ∀ e ∈ us, ∀ it ∈ x.items, it.id ≠ e.1.id

theorem CB.init {n : R} {cs : List Change} (h : InvL n []) (hch : ChOK n [] cs) : CB n n cs [] [] where
  frame := FrameC.refl n
  log := rfl
  results := rfl
  ginv := h.congr rfl rfl rfl rfl rfl rfl rfl rfl rfl
  ch := hch
  itU := Nat.le_refl _
  itUt := h.tinv.it_le
  itDle := Nat.le_refl _
  itD := rfl
  dsSorted := List.Pairwise.nil
  dsMem := fun e he => by cases he
  dsCov := fun d _ h1 h2 => by omega
  usSorted := List.Pairwise.nil
  usMem := fun e he => by cases he
  usCov := fun o _ _ h1 h2 => by omega
  clrD := fun e he => by cases he
  clrU := fun e he => by cases he

theorem CB.skip {n x : R} {c : Change} {cs : List Change} {ds us : List BEntry} (h : CB n x (c :: cs) ds us)
    (hc : c.deleted = false) (hn : ¬ needs c.obj.kind) : CB n { x with itRev := c.rev } cs ds us := by
  obtain ⟨ho, hrev, hgt⟩ := h.ch.upd c (List.mem_cons_self ..) hc
  exact { h with
    frame := { h.frame with }
    ch := h.ch.tail_upd hc rfl rfl rfl rfl (fun res hres => Or.inl hres)
    itU := Nat.le_of_lt (Nat.lt_of_le_of_lt h.itU hgt)
    itUt := by show c.rev ≤ x.tableRev; rw [hrev]; exact h.ginv.tinv.objs_le c.obj ho
    usMem := fun e he => by
      obtain ⟨a, b, c', d, e'⟩ := h.usMem e he
      exact ⟨a, b, c', d, Nat.le_of_lt (Nat.lt_of_le_of_lt e' hgt)⟩
    usCov := fun o ho' hno h1 h2 => by
      have h2' : o.rev ≤ c.rev := h2
      by_cases hle : o.rev ≤ x.itRev
      · exact h.usCov o ho' hno h1 hle
      · rcases h.ch.lt_upd hc o (by rw [h.frame.objs]; exact ho') (Nat.lt_of_not_le hle) with a | a
        · rw [a] at hno; exact absurd hno hn
        · exact absurd h2' (Nat.not_le.2 a) }

theorem CB.readD {n x : R} {c : Change} {cs : List Change} {ds us : List BEntry} (h : CB n x (c :: cs) ds us)
    (hc : c.deleted = true) : CB n (readD x c) cs (ds ++ [(c.obj, c.rev)]) us := by
  obtain ⟨hd, hgt⟩ := h.ch.del c (List.mem_cons_self ..) hc
  have f := readD_frame x c
  have hcn : n.itDelRev < c.rev := Nat.lt_of_le_of_lt h.itDle hgt
  exact {
    frame := h.frame.trans f.toFrameC
    log := f.log.trans h.log
    results := f.results.trans h.results
    ginv := h.ginv.clear_stale c.obj.id (Or.inr ⟨(c.obj, c.rev), hd, rfl, hcn⟩) f.objs f.dels f.tableRev rfl rfl f.refreshedAt
      f.items f.log f.injects
    ch := h.ch.tail_del hc f.objs f.dels f.itRev f.itDelRev
    itU := by rw [f.itRev]; exact h.itU
    itUt := by rw [f.itRev, f.tableRev]; exact h.itUt
    itDle := by rw [f.itDelRev]; exact Nat.le_of_lt hcn
    itD := by rw [List.foldl_append, f.itDelRev]; rfl
    dsSorted := by
      rw [List.pairwise_append]
      refine ⟨h.dsSorted, by simp, fun a ha b hb => ?_⟩
      simp only [List.mem_singleton] at hb
      rw [hb]
      exact Nat.lt_of_le_of_lt (h.dsMem a ha).2.2 hgt
    dsMem := fun e he => by
      rw [f.itDelRev]
      rcases List.mem_append.1 he with he | he
      · obtain ⟨a, b, c'⟩ := h.dsMem e he
        exact ⟨a, b, Nat.le_of_lt (Nat.lt_of_le_of_lt c' hgt)⟩
      · simp only [List.mem_singleton] at he
        rw [he]
        exact ⟨by rw [← h.frame.dels]; exact hd, hcn, Nat.le_refl _⟩
    dsCov := fun d hd' h1 h2 => by
      rw [f.itDelRev] at h2
      by_cases hle : d.2 ≤ x.itDelRev
      · exact List.mem_append_left _ (h.dsCov d hd' h1 hle)
      · rcases h.ch.lt_del hc d (by rw [h.frame.dels]; exact hd') (Nat.lt_of_not_le hle) with a | a
        · rw [a]; exact List.mem_append_right _ (List.mem_singleton.2 rfl)
        · exact absurd h2 (Nat.not_le.2 a)
    usSorted := h.usSorted
    usMem := fun e he => by rw [f.itRev]; exact h.usMem e he
    usCov := fun o ho hno h1 h2 => by rw [f.itRev] at h2; exact h.usCov o ho hno h1 h2
    clrD := fun e he it hit => by
      rw [f.items, mem_filter_id_ne] at hit
      rcases List.mem_append.1 he with he | he
      · exact h.clrD e he it hit.1
      · simp only [List.mem_singleton] at he
        rw [he]; exact hit.2
    clrU := fun e he it hit => by
      rw [f.items, mem_filter_id_ne] at hit
      exact h.clrU e he it hit.1 }

theorem CB.readU {n x : R} {c : Change} {cs : List Change} {ds us : List BEntry} (h : CB n x (c :: cs) ds us)
    (hc : c.deleted = false) (hn : needs c.obj.kind) : CB n (readU x c) cs ds (us ++ [(c.obj, c.rev)]) := by
  obtain ⟨ho, hrev, hgt⟩ := h.ch.upd c (List.mem_cons_self ..) hc
  have f := readU_frame x c
  have hcn : n.itRev < c.rev := Nat.lt_of_le_of_lt h.itU hgt
  exact {
    frame := h.frame.trans f.toFrameC
    log := f.log.trans h.log
    results := f.results.trans h.results
    ginv := h.ginv.clear_stale c.obj.id (Or.inl ⟨c.obj, ho, rfl, hrev ▸ hcn, hn⟩) f.objs f.dels f.tableRev rfl rfl f.refreshedAt
      f.items f.log f.injects
    ch := h.ch.tail_upd hc f.objs f.dels f.itRev f.itDelRev (fun res hres => Or.inl hres)
    itU := by rw [f.itRev]; exact Nat.le_of_lt hcn
    itUt := by rw [f.itRev, f.tableRev, hrev]; exact h.ginv.tinv.objs_le c.obj ho
    itDle := by rw [f.itDelRev]; exact h.itDle
    itD := by rw [f.itDelRev]; exact h.itD
    dsSorted := h.dsSorted
    dsMem := fun e he => by rw [f.itDelRev]; exact h.dsMem e he
    dsCov := fun d hd h1 h2 => by rw [f.itDelRev] at h2; exact h.dsCov d hd h1 h2
    usSorted := by
      rw [List.pairwise_append]
      refine ⟨h.usSorted, by simp, fun a ha b hb => ?_⟩
      simp only [List.mem_singleton] at hb
      rw [hb]
      exact Nat.lt_of_le_of_lt (h.usMem a ha).2.2.2.2 hgt
    usMem := fun e he => by
      rw [f.itRev]
      rcases List.mem_append.1 he with he | he
      · obtain ⟨a, b, c', d, e'⟩ := h.usMem e he
        exact ⟨a, b, c', d, Nat.le_of_lt (Nat.lt_of_le_of_lt e' hgt)⟩
      · simp only [List.mem_singleton] at he
        rw [he]
        exact ⟨by rw [← h.frame.objs]; exact ho, hrev, hn, hcn, Nat.le_refl _⟩
    usCov := fun o ho' hno h1 h2 => by
      rw [f.itRev] at h2
      by_cases hle : o.rev ≤ x.itRev
      · exact List.mem_append_left _ (h.usCov o ho' hno h1 hle)
      · rcases h.ch.lt_upd hc o (by rw [h.frame.objs]; exact ho') (Nat.lt_of_not_le hle) with a | a
        · rw [a, ← hrev]; exact List.mem_append_right _ (List.mem_singleton.2 rfl)
        · exact absurd h2 (Nat.not_le.2 a)
    clrD := fun e he it hit => by
      rw [f.items, mem_filter_id_ne] at hit
      exact h.clrD e he it hit.1
    clrU := fun e he it hit => by
      rw [f.items, mem_filter_id_ne] at hit
      rcases List.mem_append.1 he with he | he
      · exact h.clrU e he it hit.1
      · simp only [List.mem_singleton] at he
        rw [he]; exact hit.2 }

theorem CB.consumeB {n : R} (cs : List Change) {x : R} (last : Nat) {ds us : List BEntry} (h : CB n x cs ds us) :
    CB n (x.consumeB cs last ds us).1 (x.consumeB cs last ds us).2.1 (x.consumeB cs last ds us).2.2.2.1 (x.consumeB cs last ds us).2.2.2.2 ∧
    ((x.consumeB cs last ds us).1.numReconciled < (x.consumeB cs last ds us).1.cfg.roundSize → (x.consumeB cs last ds us).2.1 = []) := by
  exact consumeB_ind (P := CB n) (fun _ _ _ _ _ h hc hn => h.skip hc hn) (fun _ _ _ _ _ h hc => h.readD hc)
    (fun _ _ _ _ _ h hc hn => h.readU hc hn) cs x last ds us h

theorem CB.ds_ids {n x : R} {cs : List Change} {ds us : List BEntry} (h : CB n x cs ds us) (ht : TInv n) :
    ds.Pairwise (fun e e' => e.1.id ≠ e'.1.id) := by
  refine List.Pairwise.imp_of_mem ?_ h.dsSorted
  intro a b ha hb hlt hid
  have := ht.del_eq (h.dsMem a ha).1 (h.dsMem b hb).1 hid
  rw [this] at hlt; omega

/-- the single-mode loop (state `xs`) against the collecting loop of the batch
    mode (state `xb`, collected `ds` / `us`), both started in `n`: the single
    loop is ahead by the calls, retries and results of the collected entries -/
structure JRel (n xs xb : R) (ds us : List BEntry) : Prop where
  b : base xs = base xb
  items : xs.items = xb.items ++ (ds.filter (fun e => n.failing.contains e.1.id)).map (mkItemD n)
  results : xs.results = xb.results ++ us.map (mkRes n.failing)
  log : xs.log.Perm (xb.log ++ ds.map (callD n.failing) ++ us.map (callU n.failing))

theorem JRel.init (n : R) : JRel n n n [] [] := ⟨rfl, by simp, by simp, by simp⟩

theorem base_readD (x : R) (c : Change) : base (readD x c) = base (setD x c.rev) := by
  unfold readD
  show ({ base (R.retryClear { x with itDelRev := c.rev } c.obj.id) with numReconciled := x.numReconciled + 1 } : R) = _
  rw [base_retryClear]; rfl

theorem base_readU (x : R) (c : Change) : base (readU x c) = base (setU x c.rev) := by
  unfold readU
  show ({ base (R.retryClear { x with itRev := c.rev } c.obj.id) with numReconciled := x.numReconciled + 1 } : R) = _
  rw [base_retryClear]; rfl

theorem filter_map_mkItemD_ne (n : R) (l : List BEntry) (id : Nat) (h : ∀ e ∈ l, e.1.id ≠ id) :
    (l.map (mkItemD n)).filter (·.id ≠ id) = l.map (mkItemD n) :=
  filter_ne_self _ _ fun it hit => by
    obtain ⟨e, he, rfl⟩ := List.mem_map.1 hit
    exact h e he

theorem JRel.skip {n xs xb : R} {ds us : List BEntry} (h : JRel n xs xb ds us) (v : Nat) :
    JRel n { xs with itRev := v } { xb with itRev := v } ds us := by
  refine ⟨?_, h.items, h.results, h.log⟩
  show ({ base xs with itRev := v } : R) = { base xb with itRev := v }
  rw [h.b]

theorem JRel.del {n xs xb : R} {c : Change} {cs : List Change} {ds us : List BEntry} (h : JRel n xs xb ds us)
    (hcb : CB n xb (c :: cs) ds us) (hc : c.deleted = true) :
    JRel n (procD xs c) (readD xb c) (ds ++ [(c.obj, c.rev)]) us := by
  have p := procD_spec xs c
  have f := readD_frame xb c
  obtain ⟨hd, hgt⟩ := hcb.ch.del c (List.mem_cons_self ..) hc
  have hfl : xs.failing = n.failing := (base_failing h.b).trans hcb.frame.failing
  have hnow : xs.now = n.now := (base_now h.b).trans hcb.frame.now
  have hcfg : xs.cfg = n.cfg := (base_cfg h.b).trans hcb.frame.cfg
  have hne : ∀ e ∈ ds, e.1.id ≠ c.obj.id := by
    intro e he hid
    obtain ⟨m1, _, m3⟩ := hcb.dsMem e he
    have hd' : (c.obj, c.rev) ∈ n.dels := by rw [← hcb.frame.dels]; exact hd
    have := hcb.ginv.tinv.del_eq (a := e) (b := (c.obj, c.rev)) (by show e ∈ xb.dels; rw [hcb.frame.dels]; exact m1) hd hid
    rw [this] at m3
    simp only at m3; omega
  refine ⟨?_, ?_, by rw [p.results, h.results, f.results], ?_⟩
  · rw [p.base, base_readD]; exact base_setD h.b _
  · rw [p.items, h.items, List.filter_append, f.items, List.filter_append, List.map_append, List.append_assoc]
    congr 1
    rw [filter_map_mkItemD_ne n _ _ (fun e he => hne e (List.mem_filter.1 he).1), hfl]
    congr 1
    cases hf : n.failing.contains c.obj.id
    · simp only [hf, List.filter_cons, List.filter_nil, Bool.false_eq_true, if_false, List.map_nil]
    · simp only [hf, List.filter_cons, List.filter_nil, if_true, List.map_cons, List.map_nil, mkItemD, hnow, hcfg]
  · rw [p.log, hfl, List.map_append, f.log]
    have h1 := (h.log.append_right [callD n.failing (c.obj, c.rev)])
    refine h1.trans ?_
    simp only [List.map_cons, List.map_nil, List.append_assoc]
    refine List.Perm.append_left _ (List.Perm.append_left _ ?_)
    exact List.perm_append_comm

theorem JRel.upd {n xs xb : R} {c : Change} {cs : List Change} {ds us : List BEntry} (h : JRel n xs xb ds us)
    (hcb : CB n xb (c :: cs) ds us) (hc : c.deleted = false) :
    JRel n (procU xs c) (readU xb c) ds (us ++ [(c.obj, c.rev)]) := by
  have hinj : xs.injects = [] := (base_injects h.b).trans hcb.ginv.noinj
  have p := procU_spec xs c hinj
  have f := readU_frame xb c
  obtain ⟨ho, _, _⟩ := hcb.ch.upd c (List.mem_cons_self ..) hc
  have hfl : xs.failing = n.failing := (base_failing h.b).trans hcb.frame.failing
  have hne : ∀ e ∈ ds, e.1.id ≠ c.obj.id := by
    intro e he hid
    obtain ⟨m1, _, _⟩ := hcb.dsMem e he
    exact hcb.ginv.tinv.disj c.obj ho e (by show e ∈ xb.dels; rw [hcb.frame.dels]; exact m1) hid.symm
  refine ⟨?_, ?_, ?_, ?_⟩
  · rw [p.base, base_readU]; exact base_setU h.b _
  · rw [p.items, h.items, List.filter_append, f.items]
    congr 1
    exact filter_map_mkItemD_ne n _ _ (fun e he => hne e (List.mem_filter.1 he).1)
  · rw [p.results, h.results, f.results, hfl, List.map_append, List.append_assoc]
    rfl
  · rw [p.log, hfl, List.map_append, f.log]
    have h1 := (h.log.append_right [callU n.failing (c.obj, c.rev)])
    refine h1.trans ?_
    simp only [List.map_cons, List.map_nil, List.append_assoc]
    exact List.Perm.refl _

theorem JRel.consume {n : R} (cs : List Change) {xs xb : R} {ds us : List BEntry} (last : Nat)
    (h : JRel n xs xb ds us) (hcb : CB n xb cs ds us) :
    JRel n (xs.consume cs last).1 (xb.consumeB cs last ds us).1 (xb.consumeB cs last ds us).2.2.2.1 (xb.consumeB cs last ds us).2.2.2.2 ∧
    (xs.consume cs last).2.1 = (xb.consumeB cs last ds us).2.1 ∧ (xs.consume cs last).2.2 = (xb.consumeB cs last ds us).2.2.1 := by
  induction cs generalizing xs xb ds us last with
  | nil => rw [consume_nil, consumeB_nil]; exact ⟨h, rfl, rfl⟩
  | cons c cs ih =>
    cases hc : c.deleted with
    | true =>
      have h1 := h.del hcb hc
      have en := base_numReconciled h1.b
      have ec := base_cfg h1.b
      rw [consume_del _ _ _ _ hc, consumeB_del _ _ _ _ _ _ hc, en, ec]
      split
      · exact ⟨h1, rfl, rfl⟩
      · exact ih c.rev h1 (hcb.readD hc)
    | false =>
      by_cases hn : needs c.obj.kind
      · have h1 := h.upd hcb hc
        have en := base_numReconciled h1.b
        have ec := base_cfg h1.b
        rw [consume_upd _ _ _ _ hc hn, consumeB_upd _ _ _ _ _ _ hc hn, en, ec]
        split
        · exact ⟨h1, rfl, rfl⟩
        · exact ih c.rev h1 (hcb.readU hc hn)
      · rw [consume_skip _ _ _ _ hc hn, consumeB_skip _ _ _ _ _ _ hc hn]
        exact ih c.rev (h.skip c.rev) (hcb.skip hc hn)

theorem foldl_stepD_closed (dl : List BEntry) (x : R)
    (hclr : ∀ e ∈ dl, ∀ it ∈ x.items, it.id ≠ e.1.id) (hids : dl.Pairwise (fun e e' => e.1.id ≠ e'.1.id)) :
    SameBase (dl.foldl (stepD x.failing) x) x (x.items ++ (dl.filter (fun e => x.failing.contains e.1.id)).map (mkItemD x))
      x.results (x.log ++ dl.map (callD x.failing)) := by
  induction dl generalizing x with
  | nil => exact ⟨rfl, by simp, rfl, by simp⟩
  | cons e dl ih =>
    rw [List.pairwise_cons] at hids
    have hclre := hclr e (List.mem_cons_self ..)
    have s := ps_del_spec x e.1 e.2 hclre
    have hmk : mkItemD (x.processSingle e.1 e.2 true) = mkItemD x := by
      funext e'
      simp only [mkItemD, base_now s.base, base_cfg s.base]
    have a := ih (x.processSingle e.1 e.2 true)
      (processSingle_delete_clear hids.1 fun e' he' => hclr e' (List.mem_cons_of_mem _ he')) hids.2
    rw [List.foldl_cons, stepD_eq_processSingle x e hclre]
    rw [base_failing s.base] at a
    refine ⟨a.base.trans s.base, ?_, a.results.trans s.results, ?_⟩
    · rw [a.items, s.items, hmk, List.append_assoc]
      congr 1
      cases hf : x.failing.contains e.1.id
      · simp only [hf, Bool.false_eq_true, if_false, List.nil_append, List.filter_cons]
      · simp only [hf, if_true, List.filter_cons, List.map_cons, List.singleton_append]
    · rw [a.log, s.log, List.map_cons, List.append_assoc]
      rfl

theorem foldl_stepU_closed (ul : List BEntry) (x : R) (hinj : x.injects = [])
    (hclr : ∀ e ∈ ul, ∀ it ∈ x.items, it.id ≠ e.1.id) :
    SameBase (ul.foldl (stepU x.failing) x) x x.items (x.results ++ ul.map (mkRes x.failing))
      (x.log ++ ul.map (callU x.failing)) := by
  induction ul generalizing x with
  | nil => exact ⟨rfl, rfl, by simp, by simp⟩
  | cons e ul ih =>
    have s := ps_upd_spec x e.1 e.2 hinj (hclr e (List.mem_cons_self ..))
    have a := ih (x.processSingle e.1 e.2 false) ((base_injects s.base).trans hinj) (fun e' he' it hit => by
      rw [s.items] at hit; exact hclr e' (List.mem_cons_of_mem _ he') it hit)
    rw [List.foldl_cons, stepU_eq_processSingle x e hinj]
    rw [base_failing s.base] at a
    refine ⟨a.base.trans s.base, a.items.trans s.items, ?_, ?_⟩
    · rw [a.results, s.results, List.map_cons, List.append_assoc]; rfl
    · rw [a.log, s.log, List.map_cons, List.append_assoc]; rfl

theorem batchOps_closed {n b : R} {rest : List Change} {lst : Nat} {ds us : List BEntry} (ht : TInv n) (hinj : n.injects = [])
    (hcb : CB n b rest ds us) (pend : Option (List Change)) :
    SameBase (batchOps (b, rest, lst, ds, us) pend) { b with pending := pend }
      (b.items ++ (ds.filter (fun e => n.failing.contains e.1.id)).map (mkItemD n)) (b.results ++ us.map (mkRes n.failing))
      (b.log ++ ds.map (callD n.failing) ++ us.map (callU n.failing)) := by
  have hids := hcb.ds_ids ht
  unfold batchOps
  simp only
  have e_fl : ({ b with pending := pend } : R).failing = n.failing := hcb.frame.failing
  have e_now : ({ b with pending := pend } : R).now = n.now := hcb.frame.now
  have e_cfg : ({ b with pending := pend } : R).cfg = n.cfg := hcb.frame.cfg
  have e_items : ({ b with pending := pend } : R).items = b.items := rfl
  have e_res : ({ b with pending := pend } : R).results = b.results := rfl
  have e_log : ({ b with pending := pend } : R).log = b.log := rfl
  have e_inj : ({ b with pending := pend } : R).injects = [] := hcb.frame.injects.trans hinj
  generalize ({ b with pending := pend } : R) = xb at e_fl e_now e_cfg e_items e_res e_log e_inj ⊢
  have hmk : mkItemD xb = mkItemD n := by
    funext e'
    simp only [mkItemD, e_now, e_cfg]
  rw [deleteBatch_eq]
  have d := foldl_stepD_closed ds xb
    (fun e he it hit => hcb.clrD e he it (by rw [← e_items]; exact hit)) hids
  have hclrU : ∀ e ∈ us, ∀ it ∈ (ds.foldl (stepD xb.failing) xb).items, it.id ≠ e.1.id := by
    intro e he it hit
    rw [d.items] at hit
    rcases List.mem_append.1 hit with hit | hit
    · exact hcb.clrU e he it (by rw [← e_items]; exact hit)
    · obtain ⟨e', he', rfl⟩ := List.mem_map.1 hit
      have hd' := (hcb.dsMem e' (List.mem_filter.1 he').1).1
      have ho := (hcb.usMem e he).1
      exact fun heq => ht.disj e.1 ho e' hd' heq.symm
  generalize ds.foldl (stepD xb.failing) xb = xd at d hclrU
  have hinjd : xd.injects = [] := (base_injects d.base).trans e_inj
  rw [updateBatch_eq_stepU _ _ hinjd]
  have u := foldl_stepU_closed us xd hinjd hclrU
  generalize us.foldl (stepU xd.failing) xd = xu at u
  have hfd : xd.failing = n.failing := (base_failing d.base).trans e_fl
  refine ⟨u.base.trans d.base, ?_, ?_, ?_⟩
  · rw [u.items, d.items, e_items, e_fl, hmk]
  · rw [u.results, d.results, e_res, hfd]
  · rw [u.log, d.log, e_log, e_fl, hfd]

/-- `cS` is what `consume` returned, `cB` what `consumeB` returned on the same changes -/
structure PhaseSim (cS : R × List Change × Nat) (cB : R × List Change × Nat × List BEntry × List BEntry) : Prop where
  rest : cS.2.1 = cB.2.1
  last : cS.2.2 = cB.2.2.1
  base : base cS.1 = base cB.1
  ops : ∀ pend, ({ cS.1 with pending := pend } : R) = asm (batchOps cB pend) cS.1.log cS.1.timer cS.1.tieSeen ∧
    cS.1.log.Perm (batchOps cB pend).log

theorem phase_sim {n : R} {cs : List Change} (h : InvL n []) (hch : ChOK n [] cs) (last : Nat) :
    PhaseSim (n.consume cs last) (n.consumeB cs last [] []) := by
  obtain ⟨hcb, _⟩ := (CB.init h hch).consumeB cs last
  obtain ⟨hj, hrest, hlast⟩ := (JRel.init n).consume cs last (CB.init h hch)
  generalize n.consume cs last = cS at hj hrest hlast ⊢
  generalize n.consumeB cs last [] [] = cB at hcb hj hrest hlast ⊢
  obtain ⟨xs, restS, lastS⟩ := cS
  obtain ⟨b, rest, lst, ds, us⟩ := cB
  simp only at hcb hj hrest hlast
  refine ⟨hrest, hlast, hj.b, fun pend => ?_⟩
  have c := batchOps_closed (lst := lst) h.tinv h.noinj hcb pend
  generalize batchOps (b, rest, lst, ds, us) pend = xu at c
  refine ⟨eq_asm_of_base (x := { xs with pending := pend }) ?_ ?_ ?_, ?_⟩
  · rw [c.base]
    show ({ base xs with pending := pend } : R) = { base b with pending := pend }
    rw [hj.b]
  · show xs.items = xu.items
    rw [c.items, hj.items]
  · show xs.results = xu.results
    rw [c.results, hj.results]
  · rw [c.log]
    exact hj.log

structure NextOK (r : R) : Prop where
  inv : InvL r.nextChanges.1 []
  ch : ChOK r.nextChanges.1 [] r.nextChanges.2
  results : r.nextChanges.1.results = []
  failing : r.nextChanges.1.failing = r.failing
  log : r.nextChanges.1.log = r.log

theorem RInv.nextChanges {r : R} (hr : RInv r) : NextOK r := by
  obtain ⟨v, e, hI, hch⟩ := hr.next
  constructor <;> rw [e]
  · exact hI
  · exact hch
  · exact hr.res

theorem asm_proj {x y : R} {l : List Call} {t : Timer} {s : Bool} (e : x = asm y l t s) :
    x = asm y x.log x.timer x.tieSeen ∧ x.log = l := by
  subst e; exact ⟨rfl, rfl⟩

theorem round_sim {r : R} (hr : RInv r) :
    r.round = asm r.roundB r.round.log r.round.timer r.round.tieSeen ∧ r.round.log.Perm r.roundB.log := by
  have p := phase_sim hr.nextChanges.inv hr.nextChanges.ch 0
  have hinj3 : (batchMid r).injects = [] := hr.roundB_mid.inv.noinj
  have h3 : round3 r = { (r.nextChanges.1.consume r.nextChanges.2 0).1 with pending := pendAfter r.nextChanges.2 (collectB r) } := by
    unfold round3 pendAfter collectB
    rw [p.rest, base_numReconciled p.base, base_cfg p.base, base_pending p.base]
  obtain ⟨e1, hperm⟩ := p.ops (pendAfter r.nextChanges.2 (collectB r))
  obtain ⟨Δ, t', s', a1, a2, _⟩ := logOnly_roundTail (collectB r).2.2.1 (batchMid r)
    (r.nextChanges.1.consume r.nextChanges.2 0).1.log (r.nextChanges.1.consume r.nextChanges.2 0).1.timer
    (r.nextChanges.1.consume r.nextChanges.2 0).1.tieSeen hinj3
  have e : r.round = asm r.roundB ((r.nextChanges.1.consume r.nextChanges.2 0).1.log ++ Δ) t' s' := by
    rw [round_eq3, h3, roundLast, p.last, e1, roundB_eq]
    exact a1
  obtain ⟨e', hl⟩ := asm_proj e
  refine ⟨e', ?_⟩
  rw [hl, roundB_eq, a2]
  exact hperm.append_right Δ

theorem consume_log_prefix (cs : List Change) (x : R) (last : Nat) (hinj : x.injects = []) :
    ∃ L, (x.consume cs last).1.log = x.log ++ L :=
  (consume_inv (P := fun y _ _ => y.injects = [] ∧ ∃ L, y.log = x.log ++ L)
    (fun _ _ _ _ h _ _ => h)
    (fun y c _ _ ⟨hi, L, hL⟩ _ => ⟨(base_injects (procD_spec y c).base).trans hi, _, by rw [(procD_spec y c).log, hL, List.append_assoc]⟩)
    (fun y c _ _ ⟨hi, L, hL⟩ _ _ =>
      ⟨(base_injects (procU_spec y c hi).base).trans hi, _, by rw [(procU_spec y c hi).log, hL, List.append_assoc]⟩)
    cs x last ⟨hinj, [], (List.append_nil _).symm⟩).2

theorem roundTail_log_prefix (y : R) (last : Nat) (hinj : y.injects = []) : ∃ Δ, (roundTail y last).log = y.log ++ Δ := by
  obtain ⟨Δ, _, _, _, a2, _⟩ := logOnly_roundTail last y y.log y.timer y.tieSeen hinj
  exact ⟨Δ, a2⟩

theorem round_log_prefix {r : R} (hr : RInv r) : ∃ cs, r.round.log = r.log ++ cs := by
  have hn := hr.nextChanges
  obtain ⟨L, hL⟩ := consume_log_prefix r.nextChanges.2 r.nextChanges.1 0 hn.inv.noinj
  have hinj2 : (r.nextChanges.1.consume r.nextChanges.2 0).1.injects = [] :=
    ((InvL.cast_results hn.results hn.inv).consume r.nextChanges.2 0 (hn.results ▸ hn.ch)).1.noinj
  rw [round_eq3, round3, roundLast]
  have key : ∀ pend : Option (List Change), ∃ Δ,
      (roundTail ({ (r.nextChanges.1.consume r.nextChanges.2 0).1 with pending := pend } : R)
        (r.nextChanges.1.consume r.nextChanges.2 0).2.2).log = (r.nextChanges.1.consume r.nextChanges.2 0).1.log ++ Δ :=
    fun pend => roundTail_log_prefix _ _ hinj2
  obtain ⟨Δ, hΔ⟩ := key _
  exact ⟨L ++ Δ, by rw [hΔ, hL, hn.log, List.append_assoc]⟩

/-- what the two batches hold: `CB.dsMem`, `CB.usMem` of `(CB.init _ _).consumeB` -/
theorem roundB_log_prefix {r : R} (hr : RInv r) : ∃ Δ : List Call, r.roundB.log = r.log ++
    ((collectB r).2.2.2.1.map (callD r.failing) ++ (collectB r).2.2.2.2.map (callU r.failing) ++ Δ) := by
  have hn := hr.nextChanges
  obtain ⟨hcb, _⟩ := (CB.init hn.inv hn.ch).consumeB r.nextChanges.2 0
  have hinj3 : (batchMid r).injects = [] := hr.roundB_mid.inv.noinj
  rw [roundB_eq]
  unfold batchMid collectB at hinj3 ⊢
  generalize hco : r.nextChanges.1.consumeB r.nextChanges.2 0 [] [] = co at hcb hinj3 ⊢
  obtain ⟨b, rest, lst, ds, us⟩ := co
  simp only at hcb ⊢
  have c4 := (batchOps_closed (lst := lst) hn.inv.tinv hn.inv.noinj hcb (pendAfter r.nextChanges.2 (b, rest, lst, ds, us))).log
  obtain ⟨Δ, hΔ⟩ := roundTail_log_prefix _ lst hinj3
  refine ⟨Δ, ?_⟩
  rw [hΔ, c4, hcb.log, hn.log, hn.failing]
  simp only [List.append_assoc]

theorem round_calls_perm {r : R} (hr : RInv r) :
    ∃ cs cb, r.round.log = r.log ++ cs ∧ r.roundB.log = r.log ++ cb ∧ cs.Perm cb := by
  obtain ⟨cs, hcs⟩ := round_log_prefix hr
  obtain ⟨Δ, hcb⟩ := roundB_log_prefix hr
  have hp := (round_sim hr).2
  rw [hcs, hcb] at hp
  exact ⟨cs, _, hcs, hcb, (List.perm_append_left_iff _).1 hp⟩

theorem triggered_asm {P Q : Nat → Prop} {y : R} {l : List Call} {t : Timer} {s : Bool}
    (hx : QInv P (asm y l t s)) (hy : QInv Q y) : (asm y l t s).triggered = y.triggered := by
  rw [Bool.eq_iff_iff, hx.triggered_iff, hy.triggered_iff]
  rfl

end Sdb.Rec
