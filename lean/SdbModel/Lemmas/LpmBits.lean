import SdbModel.Model.Lpm
import SdbModel.Lemmas.Enc

/-! Bits of bytes and of byte strings, and `longestMatch` as the length of the common bit prefix of two
    keys, capped at both prefix lengths. -/
namespace Sdb.Lpm

/-- bit `j` (0 = most significant) of a byte -/
def bbit (x j : Nat) : Nat := x / 2 ^ (7 - j) % 2

theorem bbit_lt_two (x j : Nat) : bbit x j < 2 := Nat.mod_lt _ (by omega)

theorem bbit_zero (j : Nat) : bbit 0 j = 0 := by simp [bbit]

theorem div_pow_eq_bbit (x i : Nat) (hi : i < 8) : x / 2 ^ (7 - i) = 2 * (x / 2 ^ (8 - i)) + bbit x i := by
  rw [show 8 - i = 7 - i + 1 by omega, Nat.pow_succ, ← Nat.div_div_eq_div_mul]
  exact (Nat.div_add_mod _ 2).symm

theorem div_pow_eq_of_bits (x y : Nat) (hx : x < 256) (hy : y < 256) :
    ∀ i ≤ 8, (∀ j < i, bbit x j = bbit y j) → x / 2 ^ (8 - i) = y / 2 ^ (8 - i)
  | 0, _, _ => by rw [Nat.div_eq_of_lt hx, Nat.div_eq_of_lt hy]
  | i + 1, hi, h => by
    have ih := div_pow_eq_of_bits x y hx hy i (by omega) fun j hj => h j (by omega)
    rw [show 8 - (i + 1) = 7 - i by omega, div_pow_eq_bbit x i (by omega), div_pow_eq_bbit y i (by omega), ih,
      h i (by omega)]

theorem byte_ext (a b : Nat) (ha : a < 256) (hb : b < 256) (h : ∀ j < 8, bbit a j = bbit b j) : a = b := by
  simpa using div_pow_eq_of_bits a b ha hb 8 (Nat.le_refl _) h

theorem byte_lt_of_bits (x y i : Nat) (hx : x < 256) (hy : y < 256) (hi : i < 8)
    (ha : ∀ j < i, bbit x j = bbit y j) (hb : bbit x i < bbit y i) : x < y := by
  apply Nat.lt_of_div_lt_div (c := 2 ^ (7 - i))
  rw [div_pow_eq_bbit x i hi, div_pow_eq_bbit y i hi, div_pow_eq_of_bits x y hx hy i (by omega) ha]
  omega

theorem bbit_xor (a b j : Nat) : bbit (Nat.xor a b) j = (bbit a j + bbit b j) % 2 := by
  change bbit (a ^^^ b) j = _
  unfold bbit
  have h := Nat.toNat_testBit (a ^^^ b) (7 - j)
  have ha := Nat.toNat_testBit a (7 - j)
  have hb := Nat.toNat_testBit b (7 - j)
  rw [← h, ← ha, ← hb, Nat.testBit_xor]
  cases a.testBit (7 - j) <;> cases b.testBit (7 - j) <;> rfl

theorem bbit_xor_eq_zero (a b j : Nat) : bbit (Nat.xor a b) j = 0 ↔ bbit a j = bbit b j := by
  rw [bbit_xor]
  have := bbit_lt_two a j; have := bbit_lt_two b j
  omega

theorem lz8_range (x : Nat) (hx : x < 256) :
    lz8 x ≤ 8 ∧ x < 2 ^ (8 - lz8 x) ∧ (lz8 x < 8 → 2 ^ (7 - lz8 x) ≤ x) := by
  unfold lz8
  by_cases h0 : x ≥ 128; · rw [if_pos h0]; omega
  rw [if_neg h0]
  by_cases h1 : x ≥ 64; · rw [if_pos h1]; omega
  rw [if_neg h1]
  by_cases h2 : x ≥ 32; · rw [if_pos h2]; omega
  rw [if_neg h2]
  by_cases h3 : x ≥ 16; · rw [if_pos h3]; omega
  rw [if_neg h3]
  by_cases h4 : x ≥ 8; · rw [if_pos h4]; omega
  rw [if_neg h4]
  by_cases h5 : x ≥ 4; · rw [if_pos h5]; omega
  rw [if_neg h5]
  by_cases h6 : x ≥ 2; · rw [if_pos h6]; omega
  rw [if_neg h6]
  by_cases h7 : x ≥ 1; · rw [if_pos h7]; omega
  rw [if_neg h7]; omega

theorem lz8_spec (x : Nat) (hx : x < 256) :
    lz8 x ≤ 8 ∧ (∀ j < lz8 x, bbit x j = 0) ∧ (lz8 x < 8 → bbit x (lz8 x) = 1) := by
  obtain ⟨hle, hlt, hge⟩ := lz8_range x hx
  refine ⟨hle, fun j hj => ?_, fun h => ?_⟩
  · have : 2 ^ (8 - lz8 x) ≤ 2 ^ (7 - j) := Nat.pow_le_pow_right (by omega) (by omega)
    rw [bbit, Nat.div_eq_of_lt (by omega)]
  · rw [show 8 - lz8 x = 7 - lz8 x + 1 by omega, Nat.pow_succ] at hlt
    rw [bbit, Nat.div_eq_of_lt_le (k := 1) (by omega) (by omega)]

theorem xor_lt_256 (a b : Nat) (ha : a < 256) (hb : b < 256) : Nat.xor a b < 256 :=
  Nat.xor_lt_two_pow (n := 8) ha hb

theorem getD_lt_256 (l : List Nat) (h : ∀ b ∈ l, b < 256) (i : Nat) : l.getD i 0 < 256 := by
  rw [List.getD_eq_getElem?_getD]
  cases hi : l[i]? with
  | none => simp
  | some x => simpa using h x (List.mem_of_getElem? hi)

theorem key_lt_256 {d : List Nat} (h : ∀ b ∈ d, b < 256) (n : Nat) : ∀ b ∈ d ++ be 2 n, b < 256 :=
  fun b hb => (List.mem_append.mp hb).elim (h b) (be_lt_256 2 n b)

theorem getBitAt_eq (d : List Nat) (i : Nat) : getBitAt d i = bbit (d.getD (i / 8) 0) (i % 8) := rfl

theorem getBitAt_lt_two (d : List Nat) (i : Nat) : getBitAt d i < 2 := Nat.mod_lt _ (by omega)

theorem getBitAt_eq_one {d : List Nat} {i : Nat} (h : getBitAt d i ≠ 0) : getBitAt d i = 1 := by
  have := getBitAt_lt_two d i; omega

theorem getBitAt_mul_add (l : List Nat) (i j : Nat) (hj : j < 8) :
    getBitAt l (8 * i + j) = bbit (l.getD i 0) j := by
  rw [getBitAt_eq]
  have h1 : (8 * i + j) / 8 = i := by omega
  have h2 : (8 * i + j) % 8 = j := by omega
  rw [h1, h2]

theorem getBitAt_append_left (a b : List Nat) (j : Nat) (h : j < 8 * a.length) :
    getBitAt (a ++ b) j = getBitAt a j := by
  unfold getBitAt
  have : j / 8 < a.length := by omega
  simp [List.getD_eq_getElem?_getD, List.getElem?_append_left this]

/-- the walks compare against a node's encoded key: `nd` followed by two length bytes -/
theorem getBitAt_nodeKey (nd : List Nat) (npl j : Nat) (hnl : npl ≤ 8 * nd.length) (hj : j < npl) :
    getBitAt (nd ++ be 2 npl) j = getBitAt nd j :=
  getBitAt_append_left nd (be 2 npl) j (Nat.lt_of_lt_of_le hj hnl)

theorem getBitAt_oob (l : List Nat) (j : Nat) (h : l.length ≤ j / 8) : getBitAt l j = 0 := by
  unfold getBitAt
  rw [List.getD_eq_getElem?_getD, List.getElem?_eq_none h]
  simp

theorem getBitAt_take (l : List Nat) (n j : Nat) (h : j / 8 < n) : getBitAt (l.take n) j = getBitAt l j := by
  unfold getBitAt
  simp only [List.getD_eq_getElem?_getD]
  rw [List.getElem?_take_of_lt h]

theorem getBitAt_cons_lt (x : Nat) (l : List Nat) (j : Nat) (h : j < 8) : getBitAt (x :: l) j = bbit x j := by
  have := getBitAt_mul_add (x :: l) 0 j h
  simpa using this

theorem getBitAt_cons_add (x : Nat) (l : List Nat) (j : Nat) : getBitAt (x :: l) (j + 8) = getBitAt l j := by
  unfold getBitAt
  rw [Nat.add_div_right j (by decide : 0 < 8), Nat.add_mod_right]
  rfl

/-- the first `n` bits of `a` and `b` coincide (bits beyond the data read 0) -/
def Agree (a b : List Nat) (n : Nat) : Prop := ∀ j, j < n → getBitAt a j = getBitAt b j

theorem Agree.refl (a : List Nat) (n : Nat) : Agree a a n := fun _ _ => rfl
theorem Agree.symm {a b : List Nat} {n : Nat} (h : Agree a b n) : Agree b a n := fun j hj => (h j hj).symm
theorem Agree.trans {a b c : List Nat} {n : Nat} (h : Agree a b n) (h' : Agree b c n) : Agree a c n :=
  fun j hj => (h j hj).trans (h' j hj)
theorem Agree.mono {a b : List Nat} {n m : Nat} (h : Agree a b n) (hm : m ≤ n) : Agree a b m :=
  fun j hj => h j (by omega)
theorem Agree.zero (a b : List Nat) : Agree a b 0 := fun _ h => by omega

theorem lmLoop_spec (nk kd : List Nat) (hnk : ∀ b ∈ nk, b < 256) (hkd : ∀ b ∈ kd, b < 256) (minPl : Nat)
    (hmin : minPl ≤ 8 * min nk.length kd.length) :
    ∀ (fuel i : Nat), 8 * i ≤ minPl → nk.length + 1 ≤ i + fuel → Agree nk kd (8 * i) →
      ∃ r, lmLoop nk kd minPl fuel i (8 * i) = r ∧ r ≤ minPl ∧ Agree nk kd r ∧
        (r < minPl → getBitAt nk r ≠ getBitAt kd r) := by
  intro fuel
  induction fuel with
  | zero => intro i h1 h2 _; omega
  | succ fuel ih =>
    intro i h1 h2 hag
    simp only [lmLoop]
    by_cases hi : i < min nk.length kd.length
    · rw [if_pos hi]
      obtain ⟨hle, hz, hone⟩ := lz8_spec _ (xor_lt_256 _ _ (getD_lt_256 nk hnk i) (getD_lt_256 kd hkd i))
      -- the bits of byte `i` before the leading one of the xor agree
      have hagree : Agree nk kd (8 * i + lz8 (Nat.xor (nk.getD i 0) (kd.getD i 0))) := by
        intro q hq
        by_cases hq' : q < 8 * i
        · exact hag q hq'
        · obtain ⟨j, rfl⟩ : ∃ j, q = 8 * i + j := ⟨q - 8 * i, by omega⟩
          have hj : j < 8 := by omega
          rw [getBitAt_mul_add _ _ _ hj, getBitAt_mul_add _ _ _ hj]
          exact (bbit_xor_eq_zero _ _ _).mp (hz j (by omega))
      generalize lz8 (Nat.xor (nk.getD i 0) (kd.getD i 0)) = m at *
      by_cases hge : 8 * i + m ≥ minPl
      · rw [if_pos hge]
        exact ⟨_, rfl, Nat.le_refl _, hagree.mono hge, fun h => absurd h (Nat.lt_irrefl _)⟩
      · rw [if_neg hge]
        by_cases hm : m < 8
        · rw [if_pos hm]
          refine ⟨_, rfl, by omega, hagree, fun _ heq => ?_⟩
          rw [getBitAt_mul_add _ _ _ hm, getBitAt_mul_add _ _ _ hm, ← bbit_xor_eq_zero, hone hm] at heq
          exact absurd heq nofun
        · obtain rfl : m = 8 := by omega
          rw [if_neg hm]
          exact Nat.mul_succ 8 i ▸ ih (i + 1) (by omega) (by omega) (Nat.mul_succ 8 i ▸ hagree)
    · rw [if_neg hi]
      exact ⟨_, rfl, h1, hag, fun h => by omega⟩

/-- under the conditions the trie walks guarantee: `s` bits are already known to be shared and do not
    exceed either prefix length -/
theorem longestMatch_spec (nd : List Nat) (npl : Nat) (kd : List Nat) (plen s : Nat)
    (hnd : ∀ b ∈ nd, b < 256) (hkd : ∀ b ∈ kd, b < 256)
    (hnl : npl ≤ 8 * nd.length) (hkl : plen ≤ 8 * kd.length)
    (hs : s ≤ npl) (hs' : s ≤ plen) (hag : Agree nd kd s) :
    ∃ ml, longestMatch s nd npl kd plen = ml ∧ ml ≤ npl ∧ ml ≤ plen ∧ Agree nd kd ml ∧
      (ml < npl → ml < plen → getBitAt nd ml ≠ getBitAt kd ml) := by
  have hbit := fun j => getBitAt_nodeKey nd npl j hnl
  have hs8 : 8 * (s / 8) ≤ s := Nat.mul_div_le s 8
  have hr1 := Nat.min_le_left npl plen
  have hr2 := Nat.min_le_right npl plen
  obtain ⟨r, hr, hle, hagr, hner⟩ := lmLoop_spec (nd ++ be 2 npl) kd (key_lt_256 hnd npl) hkd (min npl plen)
    (by rw [List.length_append]; omega) ((nd ++ be 2 npl).length + 1) (s / 8) (by omega) (Nat.le_add_left _ _)
    (fun j hj => (hbit j (by omega)).trans (hag j (by omega)))
  refine ⟨r, hr, Nat.le_trans hle hr1, Nat.le_trans hle hr2,
    fun j hj => (hbit j (by omega)).symm.trans (hagr j hj), fun ha hb => ?_⟩
  rw [← hbit r ha]
  exact hner (Nat.lt_min.mpr ⟨ha, hb⟩)

theorem matchLen_unique (a b : List Nat) (p q r r' : Nat)
    (h1 : r ≤ p) (h2 : r ≤ q) (h3 : Agree a b r) (h4 : r < p → r < q → getBitAt a r ≠ getBitAt b r)
    (h1' : r' ≤ p) (h2' : r' ≤ q) (h3' : Agree a b r') (h4' : r' < p → r' < q → getBitAt a r' ≠ getBitAt b r') :
    r = r' := by
  rcases Nat.lt_trichotomy r r' with h | h | h
  · exact absurd (h3' r h) (h4 (by omega) (by omega))
  · exact h
  · exact absurd (h3 r' h) (h4' (by omega) (by omega))

end Sdb.Lpm
