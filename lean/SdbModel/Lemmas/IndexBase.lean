import SdbModel.Lemmas.Table
import SdbModel.Props.C18
/-!
  What the index lemmas for C04 share.  `partIndexTxn.reindex` is two loops: insert the new object under its
  keys, then erase the old object's keys that are not new ones.  `get_reindexLoops` reads them as one map
  update, and `partIndex_write` turns that into: a write keeps "the index holds exactly the live objects,
  each under all its keys".  `Reindexed` says what `modify` / `delete` do to the four secondary-index fields,
  so that the per-index files never unfold a write.
  From Props/C18: `Gen.encParams_wf` and `composite_injective` (a composite key determines both its parts).
-/
namespace Sdb.Tbl
open OMap

section folds
variable {α : Type}

theorem sorted_foldl_insert (ks : List Key) (f : Key → Key) (v : α) (m : OMap α) (hs : Sorted m) :
    Sorted (ks.foldl (fun m k => m.insert (f k) v) m) := by
  induction ks generalizing m with
  | nil => exact hs
  | cons k ks ih => exact ih _ (sorted_insert m hs _ _)

theorem get_foldl_insert (ks : List Key) (f : Key → Key) (v : α) (m : OMap α) (c : Key) :
    get (ks.foldl (fun m k => m.insert (f k) v) m) c = if c ∈ ks.map f then some v else get m c := by
  induction ks generalizing m with
  | nil => rfl
  | cons k ks ih =>
    rw [List.foldl_cons, ih, get_insert, List.map_cons]
    by_cases h1 : c ∈ ks.map f <;> by_cases h2 : c = f k <;> simp [h1, h2]

theorem sorted_foldl_erase (ks : List Key) (f : Key → Key) (m : OMap α) (hs : Sorted m) :
    Sorted (ks.foldl (fun m k => m.erase (f k)) m) := by
  induction ks generalizing m with
  | nil => exact hs
  | cons k ks ih => exact ih _ (sorted_erase m hs _)

theorem get_foldl_erase (ks : List Key) (f : Key → Key) (m : OMap α) (hs : Sorted m) (c : Key) :
    get (ks.foldl (fun m k => m.erase (f k)) m) c = if c ∈ ks.map f then none else get m c := by
  induction ks generalizing m with
  | nil => rfl
  | cons k ks ih =>
    rw [List.foldl_cons, ih _ (sorted_erase m hs _), get_erase m hs, List.map_cons]
    by_cases h1 : c ∈ ks.map f <;> by_cases h2 : c = f k <;> simp [h1, h2]

/-- both remove loops of `reindex` skip the keys of the new object -/
theorem foldl_skip {α β : Type} (p : β → Bool) (f : α → β → α) (ks : List β) (a : α) :
    ks.foldl (fun a k => if p k then a else f a k) a = (ks.filter (fun k => !p k)).foldl f a := by
  induction ks generalizing a with
  | nil => rfl
  | cons k ks ih =>
    rw [List.foldl_cons, List.filter_cons]
    cases p k <;> exact ih _

/-- the two loops of `reindex` under the key transformation `f`, `v` the new object -/
def reindexLoops (f : Key → Key) (m : OMap α) (old new : List Key) (v : α) : OMap α :=
  old.foldl (fun m k => if new.contains k then m else m.erase (f k)) (new.foldl (fun m k => m.insert (f k) v) m)

theorem get_reindexLoops (f : Key → Key) (hf : ∀ a b, f a = f b → a = b) (m : OMap α) (hs : Sorted m)
    (old new : List Key) (v : α) (c : Key) :
    get (reindexLoops f m old new v) c =
      if c ∈ new.map f then some v else if c ∈ old.map f then none else get m c := by
  rw [reindexLoops, foldl_skip, get_foldl_erase _ _ _ (sorted_foldl_insert _ _ _ _ hs), get_foldl_insert]
  by_cases hn : c ∈ new.map f
  · obtain ⟨k, hk, rfl⟩ := List.mem_map.mp hn
    have : f k ∉ (old.filter (fun k => !new.contains k)).map f := by
      intro h
      obtain ⟨k', hk', e⟩ := List.mem_map.mp h
      rw [hf _ _ e] at hk'
      simp [hk] at hk'
    rw [if_neg this, if_pos hn, if_pos hn]
  · have : c ∈ (old.filter (fun k => !new.contains k)).map f ↔ c ∈ old.map f := by
      simp only [List.mem_map, List.mem_filter]
      constructor
      · rintro ⟨k, ⟨hk, _⟩, rfl⟩; exact ⟨k, hk, rfl⟩
      · rintro ⟨k, hk, rfl⟩
        exact ⟨k, ⟨hk, by simpa using fun h => hn (List.mem_map.mpr ⟨k, h, rfl⟩)⟩, rfl⟩
    simp only [this, hn, if_false]

theorem sorted_reindexLoops (f : Key → Key) (m : OMap α) (hs : Sorted m) (old new : List Key) (v : α) :
    Sorted (reindexLoops f m old new v) := by
  rw [reindexLoops, foldl_skip]
  exact sorted_foldl_erase _ _ _ (sorted_foldl_insert _ _ _ _ hs)

end folds

theorem P_wf : P.WellFormed := Gen.encParams_wf

theorem comp_inj (p s p' s' : Key) (h : P.composite p s = P.composite p' s') : p = p' ∧ s = s' :=
  composite_injective P P_wf p s p' s' h

theorem reindexUnique_loops (idx : OMap Obj) (old new : Option Obj) (keys : Obj → List Key) :
    reindexUnique idx old new keys =
      reindexLoops (fun k => k) idx (old.elim [] keys) (new.elim [] keys) (new.getD default) := by
  cases old <;> cases new <;> rfl

theorem reindexNonUnique_loops (idx : OMap Obj) (id : Key) (old new : Option Obj) (keys : Obj → List Key) :
    reindexNonUnique idx id old new keys =
      reindexLoops (P.composite id) idx (old.elim [] keys) (new.elim [] keys) (new.getD default) := by
  cases old <;> cases new <;> rfl

theorem sorted_reindexUnique (idx : OMap Obj) (hs : Sorted idx) (old new : Option Obj) (keys : Obj → List Key) :
    Sorted (reindexUnique idx old new keys) := by
  rw [reindexUnique_loops]; exact sorted_reindexLoops _ idx hs _ _ _

theorem sorted_reindexNonUnique (idx : OMap Obj) (hs : Sorted idx) (id : Key) (old new : Option Obj)
    (keys : Obj → List Key) : Sorted (reindexNonUnique idx id old new keys) := by
  rw [reindexNonUnique_loops]; exact sorted_reindexLoops _ idx hs _ _ _

theorem get_reindexUnique (idx : OMap Obj) (hs : Sorted idx) (old new : Option Obj) (keys : Obj → List Key)
    (c : Key) :
    (reindexUnique idx old new keys).get c =
      if c ∈ new.elim [] keys then new else if c ∈ old.elim [] keys then none else idx.get c := by
  rw [reindexUnique_loops, get_reindexLoops _ (fun _ _ e => e) idx hs, List.map_id', List.map_id']
  cases new <;> rfl

theorem get_reindexNonUnique (idx : OMap Obj) (hs : Sorted idx) (id : Key) (old new : Option Obj)
    (keys : Obj → List Key) (c : Key) :
    (reindexNonUnique idx id old new keys).get c =
      if c ∈ new.elim [] (fun o => (keys o).map (P.composite id)) then new
      else if c ∈ old.elim [] (fun o => (keys o).map (P.composite id)) then none else idx.get c := by
  rw [reindexNonUnique_loops, get_reindexLoops _ (fun _ _ e => (comp_inj _ _ _ _ e).2) idx hs]
  cases old <;> cases new <;> rfl

/-- the secondary indexes of `t'` are those of `t` redone for the object under `id` going from `old` to `new` -/
structure Reindexed (t : TableS) (id : Key) (old new : Option Obj) (t' : TableS) : Prop where
  tagIdx : t'.tagIdx = reindexNonUnique t.tagIdx id old new (·.tags)
  uIdx : t'.uIdx = if t.full then reindexUnique t.uIdx old new (fun o => [o.ukey]) else t.uIdx
  lpm : t'.lpm = if t.full then reindexLpm false t.lpm id old new (·.pfxs) else t.lpm
  ulpm : t'.ulpm = if t.full then reindexLpm true t.ulpm id old new (·.upKey) else t.ulpm

/-- `reindexAll` on a table that differs from `t` in other fields only -/
theorem reindexAll_reindexed {t T : TableS} (id : Key) (old new : Option Obj) (e1 : T.tagIdx = t.tagIdx)
    (e2 : T.uIdx = t.uIdx) (e3 : T.lpm = t.lpm) (e4 : T.ulpm = t.ulpm) (e5 : T.full = t.full) :
    Reindexed t id old new (reindexAll T old new id) :=
  ⟨by rw [reindexAll_tagIdx, e1], by rw [reindexAll_uIdx, e2, e5], by rw [reindexAll_lpm, e3, e5],
    by rw [reindexAll_ulpm, e4, e5]⟩

theorem modify_ok_idx (t : TableS) (g : Nat) (o : Obj) (m : Bool) (h : t.locked = true)
    (hok : GuardOk g (t.primary.get o.id)) :
    Reindexed t o.id (t.primary.get o.id) (some (newObj t o m)) (modify t g o m).1 := by
  rw [modify_ok_eq t g o m h hok]
  exact reindexAll_reindexed _ _ _ rfl rfl rfl rfl rfl

theorem delete_ok_idx (t : TableS) (g : Nat) (id : Key) (h : t.locked = true)
    (old : Obj) (hs : t.primary.get id = some old) (hg : g = 0 ∨ old.rev = g) :
    Reindexed t id (some old) none (delete t g id).1 := by
  have hr : Reindexed t id (some old) none (reindexAll (delCore t id old) (some old) none id) :=
    reindexAll_reindexed _ _ _ rfl rfl rfl rfl rfl
  rw [delete_ok_eq t g id h old hs hg]
  show Reindexed _ _ _ _ (if _ then _ else _)
  split
  · exact hr
  · exact ⟨hr.tagIdx, hr.uIdx, hr.lpm, hr.ulpm⟩

/-- the part of `TInv` the index lemmas need -/
structure POk (primary : OMap Obj) : Prop where
  sorted : Sorted primary
  idOk : ∀ k o, primary.get k = some o → o.id = k

theorem POk.nil : POk [] := ⟨sorted_nil, fun k o h => by simp at h⟩

theorem POk.insert {primary : OMap Obj} (h : POk primary) (n : Obj) : POk (primary.insert n.id n) := by
  refine ⟨sorted_insert _ h.sorted _ _, ?_⟩
  intro k o hk
  rw [get_insert] at hk
  split at hk
  · rename_i e; simp only [Option.some.injEq] at hk; subst hk; exact e.symm
  · exact h.idOk k o hk

theorem POk.erase {primary : OMap Obj} (h : POk primary) (id : Key) : POk (primary.erase id) := by
  refine ⟨sorted_erase _ h.sorted _, ?_⟩
  intro k o hk
  rw [get_erase _ h.sorted] at hk
  split at hk
  · simp at hk
  · exact h.idOk k o hk

theorem POk.mem {primary : OMap Obj} (h : POk primary) (k : Key) (o : Obj) :
    (k, o) ∈ primary ↔ primary.get k = some o := mem_iff_get _ h.sorted k o

theorem TInv.pOk {t : TableS} (inv : TInv t) : POk t.primary := ⟨inv.sortedP, inv.idOk⟩

theorem POk.entry {primary : OMap Obj} (h : POk primary) {e : Key × Obj} (he : e ∈ primary) : e.1 = e.2.id :=
  (h.idOk e.1 e.2 ((h.mem _ _).mp he)).symm

theorem POk.get_iff {primary : OMap Obj} (h : POk primary) (k : Key) (x : Obj) :
    primary.get k = some x ↔ primary.get x.id = some x ∧ x.id = k :=
  ⟨fun hk => have e := h.idOk k x hk; ⟨e ▸ hk, e⟩, fun ⟨hk, e⟩ => e ▸ hk⟩

/-! ### an index that stores every object under `key` of it -/

section keyed
variable (m : OMap Obj) (key : Obj → Key) (h : ∀ k v, (k, v) ∈ m → k = key v)
include h

theorem filter_keys_map (q : Key → Bool) :
    (m.filter (fun e => q e.1)).map (·.2) = (m.map (·.2)).filter (fun x => q (key x)) := by
  rw [List.filter_map]
  congr 1
  apply List.filter_congr
  intro e he
  simp only [Function.comp_apply, h e.1 e.2 he]

theorem mem_keys_map (hs : Sorted m) (x : Obj) : x ∈ m.map (·.2) ↔ m.get (key x) = some x := by
  rw [← mem_iff_get m hs, List.mem_map]
  constructor
  · rintro ⟨e, he, rfl⟩; rw [← h e.1 e.2 he]; exact he
  · intro hx; exact ⟨_, hx, rfl⟩

end keyed

theorem POk.mem_qAll {t : TableS} (h : POk t.primary) (x : Obj) : x ∈ qAll t ↔ t.primary.get x.id = some x :=
  mem_keys_map t.primary Obj.id (fun _ _ => h.entry) h.sorted x

theorem ite_ite_none_eq_some {β : Type} {p q : Prop} [Decidable p] [Decidable q] {a b : Option β} {x : β} :
    (if p then a else if q then none else b) = some x ↔ (p ∧ a = some x) ∨ (¬ p ∧ ¬ q ∧ b = some x) := by
  by_cases hp : p <;> by_cases hq : q <;> simp [hp, hq]

/-- One write to a part index keyed by `K`.  `hK`: a key of a live object with another id is never a key of
    the replaced or the new object; otherwise the write would take that object's entry away. -/
theorem partIndex_write {K : Key → Obj → List Key} {primary idx primary' idx' : OMap Obj} {id : Key}
    {new : Option Obj}
    (char : ∀ c x, idx.get c = some x ↔ primary.get x.id = some x ∧ c ∈ K x.id x)
    (hid : ∀ n, new = some n → n.id = id)
    (hK : ∀ x y c, primary.get x.id = some x → (primary.get id = some y ∨ new = some y) →
      c ∈ K x.id x → c ∈ K id y → x.id = id)
    (hP : Updated primary id new primary')
    (hI : ∀ c, idx'.get c = if c ∈ new.elim [] (K id) then new
      else if c ∈ (primary.get id).elim [] (K id) then none else idx.get c)
    (c : Key) (x : Obj) : idx'.get c = some x ↔ primary'.get x.id = some x ∧ c ∈ K x.id x := by
  have mem_elim : ∀ o : Option Obj, c ∈ o.elim [] (K id) ↔ ∃ y, o = some y ∧ c ∈ K id y := by
    intro o; cases o <;> simp
  rw [hI, hP, ite_ite_none_eq_some]
  by_cases hx : x.id = id
  · rw [if_pos hx, hx]
    constructor
    · rintro (⟨hn, h⟩ | ⟨_, ho, h⟩)
      · rw [h] at hn; exact ⟨h, hn⟩
      · -- `x` would be the replaced object and `c` one of its keys
        obtain ⟨h1, h2⟩ := (char c x).mp h
        rw [hx] at h1 h2
        rw [h1] at ho
        exact absurd h2 ho
    · rintro ⟨h, hc⟩
      rw [h]; exact Or.inl ⟨hc, rfl⟩
  · rw [if_neg hx]
    constructor
    · rintro (⟨_, h⟩ | ⟨_, _, h⟩)
      · exact absurd (hid x h) hx
      · exact (char c x).mp h
    · rintro ⟨hl, hc⟩
      refine Or.inr ⟨?_, ?_, (char c x).mpr ⟨hl, hc⟩⟩
      · rw [mem_elim]; rintro ⟨y, hy, hcy⟩; exact hx (hK x y c hl (Or.inr hy) hc hcy)
      · rw [mem_elim]; rintro ⟨y, hy, hcy⟩; exact hx (hK x y c hl (Or.inl hy) hc hcy)

end Sdb.Tbl
