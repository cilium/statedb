import SdbModel.Lemmas.ConcSimCor

/-!
  Deadlock freedom of `Model.Conc`, for all schedules.

  `Tidy`: a finished thread has an empty program and an unfinished one a non-empty program (this is where
  the fuel of `Conc.step` matters).  With the abstraction relation `R` a disabled thread is waiting either
  for a table mutex — whose owner is an unfinished thread that is enabled, or waits for a LARGER table, or
  waits for the root mutex — or for the root mutex, whose owner is inside its critical section and always
  enabled.  Hence some thread is enabled whenever some thread is unfinished; and running an enabled thread
  strictly reduces the remaining work (`work`).
-/
namespace Sdb.Conc
open Sdb.Serial (Txn Phase)

def TidyT (th : Thread) : Prop := (th.done = true → th.prog = []) ∧ (th.done = false → th.prog ≠ [])

def Tidy (st : State) : Prop := ∀ (tid : Nat) (th : Thread), st.threads[tid]? = some th → TidyT th

/-- the fuel `Conc.step` gives `runThread` (`prog.length + 2`) is enough: every micro step consumes one element
    of the program, so the "fuel" exit is never taken -/
theorem runThread_fuel_irrelevant (tid : Nat) : ∀ (n : Nat) (st : State) (th : Thread) (m : Nat),
    th.prog.length < n → th.prog.length < m → runThread st tid th n = runThread st tid th m := by
  intro n
  induction n with
  | zero => intro st th m h; omega
  | succ n ih =>
    intro st th m hn hm
    cases m with
    | zero => omega
    | succ m =>
      rcases runThread_succ st tid th with ⟨l, h, _⟩ | ⟨_, h⟩ | ⟨x, rest, st', th', hp, _, hr, _, h⟩
      · rw [h, h]
      · rw [h, h]
      · rw [h, h]
        rw [hp] at hn hm
        exact ih st' th' m (by rw [hr]; simpa using hn) (by rw [hr]; simpa using hm)

theorem runThread_tidy (tid : Nat) : ∀ (fuel : Nat) (st : State) (th : Thread),
    th.prog.length < fuel → th.done = false → TidyT (runThread st tid th fuel).2.1 := by
  intro fuel
  induction fuel with
  | zero => intro st th h; omega
  | succ n ih =>
    intro st th hn hd
    rcases runThread_succ st tid th with ⟨l, h, hwhy⟩ | ⟨hp, h⟩ | ⟨x, rest, st', th', hp, _, hr, hd', h⟩
    · rw [h]
      refine ⟨fun h => (by rw [hd] at h; cases h), fun _ hnil => ?_⟩
      rcases hwhy with ⟨_, hp⟩ | ⟨_, _, hp, _⟩ | ⟨_, hp, _⟩ <;> rw [hnil] at hp <;> cases hp
    · rw [h]; exact ⟨fun _ => hp, fun h => nomatch h⟩
    · rw [h]; rw [hp] at hn
      exact ih st' th' (by rw [hr]; simpa using hn) (hd'.trans hd)

theorem step_tidy (st : State) (tid : Nat) (h : Tidy st) : Tidy (step st tid).1 := by
  rcases step_run st tid with he | ⟨th, hth, hd, _, he⟩
  · rw [he]; exact h
  · rw [he]
    have hdd : (dropPark th).done = false := (dropPark_done th).trans hd
    have hthr := mstar_threads (runThread_mstar tid ((dropPark th).prog.length + 2) st (dropPark th) hdd)
    intro j thj hj
    simp only [install] at hj hthr
    rw [hthr, LB.getElem?_set_lt (LB.lt_of_getElem? hth)] at hj
    by_cases hjt : j = tid
    · rw [if_pos hjt] at hj; cases hj
      exact runThread_tidy tid _ st (dropPark th) (by omega) hdd
    · rw [if_neg hjt] at hj
      exact h j thj hj

theorem reach_tidy (P : Protocol) (n : Nat) (st : State) (cs : List Bool) (h : Reach P n st cs) : Tidy st := by
  have spawn : ∀ (st : State) (thn : Thread), Tidy st → thn.done = false → thn.prog ≠ [] →
      Tidy { st with threads := st.threads ++ [thn] } := fun st thn ht hd hp =>
    LB.forall_concat thn _ ⟨fun h => absurd (hd.symm.trans h) Bool.false_ne_true, fun _ => hp⟩ ht
  induction h with
  | init => intro j thj hj; simp [initState] at hj
  | writer st cs tabs commit mi ri _ _ ih => exact spawn st _ ih rfl (by simp [writerProg])
  | register st cs _ ih => exact spawn st _ ih rfl (by simp [registerProg])
  | registerDup st cs _ ih => exact spawn st _ ih rfl (by simp [registerDupProg])
  | step st cs tid _ ih => exact step_tidy st tid ih

theorem disabled_head (st : State) (th : Thread) (hne : th.prog ≠ []) (hd : th.done = false)
    (he : th.enabled st = false) :
    (∃ t rest, strip th.prog = .acquire t :: rest ∧ (st.lockOwner.getD t none).isSome = true) ∨
    (∃ rest, strip th.prog = .acquireRoot :: rest ∧ st.rootMu.isSome = true) := by
  unfold Thread.enabled at he
  rw [hd] at he
  simp only [Bool.false_eq_true, if_false] at he
  split at he
  · rename_i l t r hp
    left
    refine ⟨t, strip r, by rw [hp]; simp [strip_cons, relevant_park, relevant_acquire], ?_⟩
    cases ho : st.lockOwner.getD t none with
    | none => rw [ho] at he; simp at he
    | some v => rfl
  · rename_i l r hp
    right
    refine ⟨strip r, by rw [hp]; simp [strip_cons, relevant_park, relevant_acquireRoot], ?_⟩
    cases ho : st.rootMu with
    | none => rw [ho] at he; simp at he
    | some v => rfl
  · rename_i t r hp
    left
    refine ⟨t, strip r, by rw [hp]; simp [strip_cons, relevant_acquire], ?_⟩
    cases ho : st.lockOwner.getD t none with
    | none => rw [ho] at he; simp at he
    | some v => rfl
  · rename_i r hp
    right
    refine ⟨strip r, by rw [hp]; simp [strip_cons, relevant_acquireRoot], ?_⟩
    cases ho : st.rootMu with
    | none => rw [ho] at he; simp at he
    | some v => rfl
  · rename_i hp; exact absurd hp hne
  · simp at he

theorem TRel.next_acquire {root : List TableV} {mu : Option Nat} {n tid : Nat} {th : Thread} {t : Txn}
    (hT : TRel root mu n tid th t) {t' : Nat} {r : List Micro} (h : strip th.prog = .acquire t' :: r) :
    t' ∈ lockList th ∧ ∀ tb ∈ Serial.held t, tb < t' := by
  have htabs := hT.tabs
  obtain ⟨p, hp, _, hl⟩ := hT.pos
  rw [hp] at h
  have hm : Micro.acquire t' ∈ code (lockList th) t.commit p := by rw [h]; exact List.mem_cons_self
  rcases hl.stage with ⟨k, rfl⟩ | ⟨_, _, hw⟩ | rfl | ⟨k, rfl⟩ | ⟨_, _, hnr⟩
  · rw [code_next] at h
    simp only [next] at h
    cases hk : (lockList th)[k]? with
    | none => rw [hk] at h; cases h
    | some a =>
      rw [hk] at h; cases h
      simp only [Serial.held, hl.1, htabs]
      exact ⟨List.mem_of_getElem? hk, Serial.ascending_take_lt _ (lockOrder_ascending th.tables).1 k t' hk⟩
  · exact absurd hm (hw.noAcquire t')
  · simp [code] at hm
  · simp [code, -List.map_drop] at hm
  · exact absurd hm (hnr t').2

theorem code_head_inCS (L : List Nat) (c : Bool) (p : Pos) (hp : inCS p = true) :
    (∀ t r, code L c p ≠ .acquire t :: r) ∧ (∀ r, code L c p ≠ .acquireRoot :: r) ∧ code L c p ≠ [] := by
  cases p <;> first | (simp [inCS] at hp; done) | simp [code]

/-- a thread that can be scheduled: unfinished and not blocked -/
def Runnable (st : State) : Prop :=
  ∃ (tid : Nat) (th : Thread), st.threads[tid]? = some th ∧ th.done = false ∧ th.enabled st = true

theorem rootOwner_runnable (st : State) (s : Serial.State) (hR : R st s) (htidy : Tidy st) (j : Nat)
    (hmu : st.rootMu = some j) : Runnable st := by
  have hlt := hR.muLt j hmu
  have hth : st.threads[j]? = some st.threads[j] := List.getElem?_eq_getElem hlt
  generalize st.threads[j] = th at hth
  obtain ⟨t, _, _, _, p, hp, hcs, _⟩ := hR.thr j th hth
  obtain ⟨c1, c2, c3⟩ := code_head_inCS (lockList th) t.commit p (hcs.1 hmu)
  obtain ⟨td, tn⟩ := htidy j th hth
  cases hd : th.done with
  | true => rw [td hd] at hp; exact absurd hp.symm c3
  | false =>
    refine ⟨j, th, hth, hd, ?_⟩
    cases he : th.enabled st with
    | true => rfl
    | false =>
      rcases disabled_head st th (tn hd) hd he with ⟨t', r, h1, _⟩ | ⟨r, h1, _⟩
      · rw [hp] at h1; exact absurd h1 (c1 t' r)
      · rw [hp] at h1; exact absurd h1 (c2 r)

theorem tableOwner_runnable (st : State) (s : Serial.State) (hs : Serial.Reachable s) (hR : R st s)
    (htidy : Tidy st) : ∀ tb, (st.lockOwner.getD tb none).isSome = true → Runnable st :=
  Serial.wait_chain (fun tb => (st.lockOwner.getD tb none).isSome = true) st.lockOwner.length fun tb hsome => by
    cases ho : st.lockOwner.getD tb none with
    | none => rw [ho] at hsome; cases hsome
    | some j =>
      rw [hR.owner tb] at ho
      obtain ⟨t, ht, hheld⟩ := (Serial.inv_reachable s hs).ownerHeld tb j ho
      have hlt : j < st.threads.length := by rw [← hR.len]; exact LB.lt_of_getElem? ht
      have hth : st.threads[j]? = some st.threads[j] := List.getElem?_eq_getElem hlt
      generalize st.threads[j] = th at hth
      obtain ⟨t', ht', hT⟩ := hR.thr j th hth
      rw [ht] at ht'; cases ht'
      -- the owner still has the release ahead, so it is not finished
      have hrel := ((hT.held_iff tb).1 hheld).1
      have hd : th.done = false := by
        cases hd : th.done with
        | false => rfl
        | true => rw [(htidy j th hth).1 hd] at hrel; cases hrel
      cases he : th.enabled st with
      | true => exact .inl ⟨j, th, hth, hd, he⟩
      | false =>
        rcases disabled_head st th ((htidy j th hth).2 hd) hd he with ⟨t', r, h1, hs'⟩ | ⟨r, _, hmu⟩
        · obtain ⟨hmem, hlt'⟩ := hT.next_acquire h1
          exact .inr ⟨t', hlt' tb hheld, (hT.bound t' hmem).2, hs'⟩
        · cases hm : st.rootMu with
          | none => rw [hm] at hmu; cases hmu
          | some j' => exact .inl (rootOwner_runnable st s hR htidy j' hm)

theorem runnable_of_unfinished (st : State) (cs : List Bool) (hsim : Sim st cs) (htidy : Tidy st)
    (hex : ∃ (tid : Nat) (th : Thread), st.threads[tid]? = some th ∧ th.done = false) : Runnable st := by
  obtain ⟨s, hs, hR, _⟩ := hsim
  obtain ⟨tid, th, hth, hd⟩ := hex
  cases he : th.enabled st with
  | true => exact ⟨tid, th, hth, hd, he⟩
  | false =>
    rcases disabled_head st th ((htidy tid th hth).2 hd) hd he with ⟨t', r, _, hs'⟩ | ⟨r, _, hmu⟩
    · exact tableOwner_runnable st s hs hR htidy t' hs'
    · cases hm : st.rootMu with
      | none => rw [hm] at hmu; simp at hmu
      | some j' => exact rootOwner_runnable st s hR htidy j' hm

/-- remaining work of a thread: its remaining program, plus one for setting `done` -/
def workT (th : Thread) : Nat := th.prog.length + (if th.done then 0 else 1)

def work (st : State) : Nat := (st.threads.map workT).sum

theorem runThread_prog_le (tid : Nat) (fuel : Nat) (st : State) (th : Thread) (hd : th.done = false) :
    (runThread st tid th fuel).2.1.prog.length ≤ th.prog.length :=
  MStar.invariant (tid := tid) (fun x => x.2.prog.length ≤ th.prog.length)
    (fun x y hx hs => by rw [(mstep_frame x.1 tid x.2 y.1 y.2 hs).prog, List.length_tail]; exact Nat.le_trans (Nat.sub_le _ _) hx)
    (runThread_mstar tid fuel st th hd) (Nat.le_refl _)

theorem run_work_lt (st : State) (tid : Nat) (th : Thread) (hd : th.done = false) (he : th.enabled st = true) :
    workT (runThread st tid (dropPark th) ((dropPark th).prog.length + 2)).2.1 < workT th := by
  have hdd : (dropPark th).done = false := by rw [dropPark_done]; exact hd
  have htidy := runThread_tidy tid ((dropPark th).prog.length + 2) st (dropPark th) (by omega) hdd
  have hle := runThread_prog_le tid ((dropPark th).prog.length + 2) st (dropPark th) hdd
  -- it suffices that the program got shorter, or the thread finished
  have key : ∀ r : Thread, TidyT r → (r.prog.length < th.prog.length ∨ r.done = true) → workT r < workT th := by
    intro r ht hr
    unfold workT
    rw [hd]
    cases hrd : r.done with
    | true => rw [ht.1 hrd]; simp
    | false =>
      rcases hr with h | h
      · simp; omega
      · rw [hrd] at h; cases h
  refine key _ htidy (.inl ?_)
  by_cases hpk : ∃ l rest, th.prog = .park l :: rest
  · -- the park the thread rested at is gone
    obtain ⟨l, rest, hp⟩ := hpk
    have : (dropPark th).prog = rest := by simp only [dropPark, hp]
    rw [this] at hle ⊢; rw [hp]
    exact Nat.lt_succ_of_le hle
  · have hdp : dropPark th = th := by
      unfold dropPark; split
      · exact absurd ⟨_, _, ‹_›⟩ hpk
      · rfl
    rw [hdp]
    -- an enabled thread is not stopped by a held mutex, so the first micro step is taken
    rcases runThread_succ st tid th with ⟨l, _, hwhy⟩ | ⟨hp, _⟩ | ⟨x, rest, st', th', hp, _, hr, hd', h⟩
    · exfalso
      rcases hwhy with ⟨r, hp⟩ | ⟨t, r, hp, hb⟩ | ⟨r, hp, hb⟩
      · exact hpk ⟨_, _, hp⟩
      · simp [Thread.enabled, hd, hp] at he; simp [he] at hb
      · simp [Thread.enabled, hd, hp] at he; simp [he] at hb
    · simp [Thread.enabled, hd, hp] at he
    · have := runThread_prog_le tid (th.prog.length + 1) st' th' (hd'.trans hd)
      rw [h, hp]; rw [hr, hp] at this
      exact Nat.lt_succ_of_le this

end Sdb.Conc
