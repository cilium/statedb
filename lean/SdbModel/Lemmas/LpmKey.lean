import SdbModel.Lemmas.LpmBits

/-! `Canon d p`: `(d, p)` is what `EncodeLPMKey` produces, without the two length bytes.  Canonical keys of
    one prefix length are equal when their first `p` bits agree; `maskData`, the data part of `EncodeLPMKey`,
    produces them and leaves them as they are. -/
namespace Sdb.Lpm

structure Canon (d : List Nat) (p : Nat) : Prop where
  len : d.length = (p + 7) / 8
  bytes : ∀ b ∈ d, b < 256
  zeros : ∀ i, p ≤ i → getBitAt d i = 0

theorem Canon.le_len {d : List Nat} {p : Nat} (h : Canon d p) : p ≤ 8 * d.length := by
  have := h.len; omega

theorem canon_ext (a b : List Nat) (p : Nat) (ha : Canon a p) (hb : Canon b p) (h : Agree a b p) : a = b := by
  have hall : ∀ j, getBitAt a j = getBitAt b j := by
    intro j
    by_cases hj : j < p
    · exact h j hj
    · rw [ha.zeros j (by omega), hb.zeros j (by omega)]
  apply List.ext_getElem (by rw [ha.len, hb.len])
  intro i h1 h2
  apply byte_ext _ _ (ha.bytes _ (List.getElem_mem h1)) (hb.bytes _ (List.getElem_mem h2))
  intro j hj
  have := hall (8 * i + j)
  rw [getBitAt_mul_add _ _ _ hj, getBitAt_mul_add _ _ _ hj] at this
  simpa [List.getD_eq_getElem?_getD, List.getElem?_eq_getElem h1, List.getElem?_eq_getElem h2] using this

theorem lpmMask_bit : ∀ r < 8, ∀ j < 8, (lpmMask r).testBit (7 - j) = decide (j < r) := by decide

theorem bbit_land_mask (y r j : Nat) (hr : r < 8) (hj : j < 8) :
    bbit (Nat.land y (lpmMask r)) j = if j < r then bbit y j else 0 := by
  change bbit (y &&& lpmMask r) j = _
  unfold bbit
  rw [← Nat.toNat_testBit (y &&& lpmMask r), ← Nat.toNat_testBit y, Nat.testBit_and, lpmMask_bit r hr j hj]
  by_cases h : j < r <;> simp [h]

theorem maskData_eq (data : List Nat) (plen : Nat) (h : (plen + 7) / 8 ≤ data.length) :
    maskData data plen =
      if 0 < (plen + 7) / 8 ∧ plen % 8 ≠ 0 then
        data.take ((plen + 7) / 8 - 1) ++ [Nat.land (data.getD ((plen + 7) / 8 - 1) 0) (lpmMask (plen % 8))]
      else data.take ((plen + 7) / 8) := by
  unfold maskData
  rw [encodeLPM_eq, if_neg (Nat.not_lt.mpr h)]
  exact take_len_sub_two _ _ (be_length 2 plen)

theorem getD_take_append (l : List Nat) (n x i : Nat) (hn : n ≤ l.length) :
    (l.take n ++ [x]).getD i 0 = if i < n then l.getD i 0 else if i = n then x else 0 := by
  simp only [List.getD_eq_getElem?_getD]
  by_cases h1 : i < n
  · rw [if_pos h1, List.getElem?_append_left (by rw [List.length_take]; omega), List.getElem?_take_of_lt h1]
  · rw [if_neg h1, List.getElem?_append_right (by rw [List.length_take]; omega), List.length_take, Nat.min_eq_left hn]
    by_cases h2 : i = n
    · rw [if_pos h2, h2, Nat.sub_self]; rfl
    · rw [if_neg h2, List.getElem?_eq_none (by simp; omega)]; rfl

theorem getBitAt_maskData (data : List Nat) (plen j : Nat) (h : (plen + 7) / 8 ≤ data.length) :
    getBitAt (maskData data plen) j = if j < plen then getBitAt data j else 0 := by
  rw [maskData_eq data plen h]
  -- bit `k` of byte `i`; `plen` is `q` whole bytes and `r` bits
  obtain ⟨i, k, hk, rfl⟩ : ∃ i k, k < 8 ∧ j = 8 * i + k :=
    ⟨j / 8, j % 8, Nat.mod_lt _ (by omega), (Nat.div_add_mod j 8).symm⟩
  obtain ⟨q, r, hr, rfl⟩ : ∃ q r, r < 8 ∧ plen = 8 * q + r :=
    ⟨plen / 8, plen % 8, Nat.mod_lt _ (by omega), (Nat.div_add_mod plen 8).symm⟩
  rw [getBitAt_mul_add _ _ _ hk, getBitAt_mul_add _ _ _ hk, Nat.mul_add_mod, Nat.mod_eq_of_lt hr]
  by_cases hc : r = 0
  · subst hc
    rw [show (8 * q + 0 + 7) / 8 = q by omega] at h ⊢
    rw [if_neg (fun h => h.2 rfl), List.getD_eq_getElem?_getD, List.getD_eq_getElem?_getD]
    by_cases hi : i < q
    · rw [if_pos (by omega), List.getElem?_take_of_lt hi]
    · rw [if_neg (by omega), List.getElem?_eq_none (by rw [List.length_take]; omega)]; exact bbit_zero k
  · -- the last byte, `q`, is masked
    rw [show (8 * q + r + 7) / 8 = q + 1 by omega] at h ⊢
    rw [if_pos ⟨Nat.succ_pos q, hc⟩, Nat.add_sub_cancel, getD_take_append _ _ _ _ (Nat.le_of_succ_le h)]
    by_cases hi : i < q
    · rw [if_pos hi, if_pos (by omega)]
    · rw [if_neg hi]
      by_cases hi' : i = q
      · subst hi'
        rw [if_pos rfl, bbit_land_mask _ _ _ hr hk]
        by_cases hlt : k < r
        · rw [if_pos hlt, if_pos (by omega)]
        · rw [if_neg hlt, if_neg (by omega)]
      · rw [if_neg hi', if_neg (by omega)]; exact bbit_zero k

theorem canon_maskData (data : List Nat) (plen : Nat) (hb : ∀ b ∈ data, b < 256)
    (h : (plen + 7) / 8 ≤ data.length) : Canon (maskData data plen) plen := by
  refine ⟨?_, ?_, ?_⟩
  · rw [maskData_eq data plen h]
    split
    · rw [List.length_append, List.length_take, List.length_singleton]; omega
    · rw [List.length_take]; omega
  · rw [maskData_eq data plen h]
    intro b hb'
    split at hb'
    · rcases List.mem_append.mp hb' with h' | h'
      · exact hb b (List.mem_of_mem_take h')
      · simp only [List.mem_singleton] at h'
        rw [h']
        exact Nat.lt_of_le_of_lt Nat.and_le_left (getD_lt_256 data hb _)
    · exact hb b (List.mem_of_mem_take hb')
  · intro i hi
    rw [getBitAt_maskData data plen i h, if_neg (by omega)]

theorem agree_maskData (data : List Nat) (plen : Nat) (h : (plen + 7) / 8 ≤ data.length) :
    Agree (maskData data plen) data plen := by
  intro j hj
  rw [getBitAt_maskData data plen j h, if_pos hj]

theorem maskData_eq_self (d : List Nat) (p : Nat) (h : Canon d p) : maskData d p = d :=
  canon_ext _ _ p (canon_maskData d p h.bytes (by rw [h.len]; omega)) h (agree_maskData d p (by rw [h.len]; omega))

end Sdb.Lpm
