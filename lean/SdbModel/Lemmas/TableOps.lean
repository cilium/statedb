import SdbModel.Model.Table
import SdbModel.Lemmas.Enc
import SdbModel.Lemmas.OMap
/-!
  What `modify` / `delete` of Model.Table return and write, apart from any invariant (`ModOk`, `DelOk`), what the
  collector's loop writes (`gcFold_eq`), and `Pair`, the shape shared by the index pairs `primary` / `revIdx` and
  `grave` / `graveRev`.  The table invariants of C03 / C09 (Lemmas/Table) and of C07 / C08 (Lemmas/ChgTableInv)
  both start from here.
-/
namespace Sdb.Tbl

theorem pow_256_8 : (256 : Nat) ^ 8 = 2 ^ 64 := by decide

theorem revKey_inj (a b : Nat) (ha : a < 2 ^ 64) (hb : b < 2 ^ 64) (h : revKey a = revKey b) : a = b :=
  be_injective 8 a b (by rw [pow_256_8]; exact ha) (by rw [pow_256_8]; exact hb) h

theorem revKey_cmp (a b : Nat) (ha : a < 2 ^ 64) (hb : b < 2 ^ 64) : cmpL (revKey a) (revKey b) = cmpN a b :=
  be_cmp 8 a b (by rw [pow_256_8]; exact ha) (by rw [pow_256_8]; exact hb)

theorem revKey_lt_iff (a b : Nat) (ha : a < 2 ^ 64) (hb : b < 2 ^ 64) :
    cmpL (revKey a) (revKey b) = .lt ↔ a < b := by
  rw [revKey_cmp a b ha hb]; unfold cmpN
  by_cases h1 : a < b
  · simp [h1]
  · by_cases h2 : b < a <;> simp [h1, h2]

theorem reindexAll_eq (t : TableS) (old new : Option Obj) (id : Key) :
    ∃ tg u l ul, reindexAll t old new id = { t with tagIdx := tg, uIdx := u, lpm := l, ulpm := ul } := by
  unfold reindexAll
  simp only
  split
  · exact ⟨_, _, _, _, rfl⟩
  · exact ⟨_, _, _, _, rfl⟩

@[simp] theorem reindexAll_primary (t : TableS) (old new : Option Obj) (id : Key) :
    (reindexAll t old new id).primary = t.primary := by
  obtain ⟨_, _, _, _, h⟩ := reindexAll_eq t old new id; rw [h]
@[simp] theorem reindexAll_revIdx (t : TableS) (old new : Option Obj) (id : Key) :
    (reindexAll t old new id).revIdx = t.revIdx := by
  obtain ⟨_, _, _, _, h⟩ := reindexAll_eq t old new id; rw [h]
@[simp] theorem reindexAll_rev (t : TableS) (old new : Option Obj) (id : Key) :
    (reindexAll t old new id).rev = t.rev := by
  obtain ⟨_, _, _, _, h⟩ := reindexAll_eq t old new id; rw [h]
@[simp] theorem reindexAll_locked (t : TableS) (old new : Option Obj) (id : Key) :
    (reindexAll t old new id).locked = t.locked := by
  obtain ⟨_, _, _, _, h⟩ := reindexAll_eq t old new id; rw [h]
@[simp] theorem reindexAll_trackers (t : TableS) (old new : Option Obj) (id : Key) :
    (reindexAll t old new id).trackers = t.trackers := by
  obtain ⟨_, _, _, _, h⟩ := reindexAll_eq t old new id; rw [h]
@[simp] theorem reindexAll_grave (t : TableS) (old new : Option Obj) (id : Key) :
    (reindexAll t old new id).grave = t.grave := by
  obtain ⟨_, _, _, _, h⟩ := reindexAll_eq t old new id; rw [h]
@[simp] theorem reindexAll_graveRev (t : TableS) (old new : Option Obj) (id : Key) :
    (reindexAll t old new id).graveRev = t.graveRev := by
  obtain ⟨_, _, _, _, h⟩ := reindexAll_eq t old new id; rw [h]
@[simp] theorem reindexAll_full (t : TableS) (old new : Option Obj) (id : Key) :
    (reindexAll t old new id).full = t.full := by
  obtain ⟨_, _, _, _, h⟩ := reindexAll_eq t old new id; rw [h]
@[simp] theorem reindexAll_init (t : TableS) (old new : Option Obj) (id : Key) :
    (reindexAll t old new id).init = t.init := by
  obtain ⟨_, _, _, _, h⟩ := reindexAll_eq t old new id; rw [h]
@[simp] theorem reindexAll_gen (t : TableS) (old new : Option Obj) (id : Key) :
    (reindexAll t old new id).gen = t.gen := by
  obtain ⟨_, _, _, _, h⟩ := reindexAll_eq t old new id; rw [h]
@[simp] theorem reindexAll_revDirty (t : TableS) (old new : Option Obj) (id : Key) :
    (reindexAll t old new id).revDirty = t.revDirty := by
  obtain ⟨_, _, _, _, h⟩ := reindexAll_eq t old new id; rw [h]

@[simp] theorem reindexAll_tagIdx (t : TableS) (old new : Option Obj) (id : Key) :
    (reindexAll t old new id).tagIdx = reindexNonUnique t.tagIdx id old new (·.tags) := by
  unfold reindexAll; simp only; split <;> rfl

theorem reindexAll_uIdx (t : TableS) (old new : Option Obj) (id : Key) :
    (reindexAll t old new id).uIdx =
      if t.full then reindexUnique t.uIdx old new (fun o => [o.ukey]) else t.uIdx := by
  unfold reindexAll; simp only; split <;> rfl

theorem reindexAll_lpm (t : TableS) (old new : Option Obj) (id : Key) :
    (reindexAll t old new id).lpm =
      if t.full then reindexLpm false t.lpm id old new (·.pfxs) else t.lpm := by
  unfold reindexAll; simp only; split <;> rfl

theorem reindexAll_ulpm (t : TableS) (old new : Option Obj) (id : Key) :
    (reindexAll t old new id).ulpm =
      if t.full then reindexLpm true t.ulpm id old new (·.upKey) else t.ulpm := by
  unfold reindexAll; simp only; split <;> rfl

/-- the object version `modify` writes -/
def newObj (t : TableS) (o : Obj) (merge : Bool) : Obj :=
  match t.primary.get o.id, merge with
  | some oo, true => { o with rev := t.rev + 1, val := oo.val + o.val }
  | _, _ => { o with rev := t.rev + 1 }

@[simp] theorem newObj_id (t : TableS) (o : Obj) (merge : Bool) : (newObj t o merge).id = o.id := by
  unfold newObj; split <;> rfl
@[simp] theorem newObj_rev (t : TableS) (o : Obj) (merge : Bool) : (newObj t o merge).rev = t.rev + 1 := by
  unfold newObj; split <;> rfl

@[simp] theorem newObj_tags (t : TableS) (o : Obj) (m : Bool) : (newObj t o m).tags = o.tags := by
  unfold newObj; split <;> rfl
@[simp] theorem newObj_uvar (t : TableS) (o : Obj) (m : Bool) : (newObj t o m).uvar = o.uvar := by
  unfold newObj; split <;> rfl
@[simp] theorem newObj_pfxs (t : TableS) (o : Obj) (m : Bool) : (newObj t o m).pfxs = o.pfxs := by
  unfold newObj; split <;> rfl
@[simp] theorem newObj_up (t : TableS) (o : Obj) (m : Bool) : (newObj t o m).up = o.up := by
  unfold newObj; split <;> rfl
@[simp] theorem newObj_ord (t : TableS) (o : Obj) (m : Bool) : (newObj t o m).ord = o.ord := by
  unfold newObj; split <;> rfl
@[simp] theorem newObj_upKey (t : TableS) (o : Obj) (m : Bool) : (newObj t o m).upKey = o.upKey := by
  simp [Obj.upKey]
@[simp] theorem newObj_ukey (t : TableS) (o : Obj) (m : Bool) : (newObj t o m).ukey = o.ukey := by
  simp [Obj.ukey]

def GuardOk (guard : Nat) (old : Option Obj) : Prop := guard = 0 ∨ ∃ oo, old = some oo ∧ oo.rev = guard

theorem GuardOk.none_iff {g : Nat} : GuardOk g none ↔ g = 0 :=
  ⟨fun h => h.elim id (fun ⟨_, h, _⟩ => nomatch h), Or.inl⟩

theorem GuardOk.some_iff {g : Nat} {o : Obj} : GuardOk g (some o) ↔ g = 0 ∨ o.rev = g :=
  ⟨fun h => h.imp_right (fun ⟨_, h, hr⟩ => Option.some.inj h ▸ hr), fun h => h.imp_right fun hr => ⟨o, rfl, hr⟩⟩

@[simp] theorem qGet_id (t : TableS) (k : Key) (plen : Nat) : qGet t .id k plen = t.primary.get k := rfl

theorem modify_notLocked (t : TableS) (g : Nat) (o : Obj) (m : Bool) (h : t.locked = false) :
    modify t g o m = (t, none, .notLocked) := by
  unfold modify; simp [h]

theorem modify_notFound (t : TableS) (g : Nat) (o : Obj) (m : Bool) (h : t.locked = true)
    (hg : g > 0) (hn : t.primary.get o.id = none) : modify t g o m = (t, none, .notFound) := by
  unfold modify; simp [h, hg, hn]

theorem modify_revNotEqual (t : TableS) (g : Nat) (o : Obj) (m : Bool) (h : t.locked = true)
    (hg : g > 0) (oo : Obj) (hs : t.primary.get o.id = some oo) (hr : oo.rev ≠ g) :
    modify t g o m = (t, some oo, .revNotEqual) := by
  unfold modify; simp [h, hg, hs, hr]

/-- the table `modify` produces on success -/
structure ModOk (t : TableS) (o : Obj) (m : Bool) (t' : TableS) : Prop where
  rev : t'.rev = t.rev + 1
  primary : t'.primary = t.primary.insert o.id (newObj t o m)
  revIdx : t'.revIdx = (match t.primary.get o.id with
      | some oo => t.revIdx.erase (revKey oo.rev)
      | none => t.revIdx).insert (revKey (t.rev + 1)) (newObj t o m)
  locked : t'.locked = t.locked
  trackers : t'.trackers = t.trackers
  full : t'.full = t.full
  init : t'.init = t.init
  gen : t'.gen = t.gen
  revDirty : t'.revDirty = true

theorem GuardOk.passes {g : Nat} {old : Option Obj} (hok : GuardOk g old) :
    ¬ (g > 0 ∧ old.isNone = true) ∧ ¬ (g > 0 ∧ old.map (·.rev) ≠ some g) := by
  rcases hok with h0 | ⟨oo, ho, hr⟩
  · omega
  · simp [ho, hr]

/-- what a `modify` that passes its guard writes before it redoes the secondary indexes -/
def modCore (t : TableS) (o : Obj) (m : Bool) : TableS :=
  { t with
    rev := t.rev + 1
    revDirty := true
    primary := t.primary.insert o.id (newObj t o m)
    revIdx := (match t.primary.get o.id with
      | some oo => t.revIdx.erase (revKey oo.rev)
      | none => t.revIdx).insert (revKey (t.rev + 1)) (newObj t o m)
    grave := match t.primary.get o.id, t.grave.get o.id with
      | none, some _ => t.grave.erase o.id
      | _, _ => t.grave
    graveRev := match t.primary.get o.id, t.grave.get o.id with
      | none, some g => t.graveRev.erase (revKey g.rev)
      | _, _ => t.graveRev }

theorem modify_ok_eq (t : TableS) (g : Nat) (o : Obj) (m : Bool) (h : t.locked = true)
    (hok : GuardOk g (t.primary.get o.id)) :
    modify t g o m =
      (reindexAll (modCore t o m) (t.primary.get o.id) (some (newObj t o m)) o.id, t.primary.get o.id, .ok) := by
  have hl : (!t.locked) = false := by rw [h]; rfl
  unfold modify
  simp only [hl, Bool.false_eq_true, if_false, hok.passes]
  unfold modCore newObj
  cases t.primary.get o.id with
  | some oo => cases m <;> rfl
  | none => cases t.grave.get o.id <;> cases m <;> rfl

theorem modify_ok (t : TableS) (g : Nat) (o : Obj) (m : Bool) (h : t.locked = true)
    (hok : GuardOk g (t.primary.get o.id)) :
    ∃ t', modify t g o m = (t', t.primary.get o.id, .ok) ∧ ModOk t o m t' :=
  ⟨_, modify_ok_eq t g o m h hok, reindexAll_rev .., reindexAll_primary .., reindexAll_revIdx .., reindexAll_locked ..,
    reindexAll_trackers .., reindexAll_full .., reindexAll_init .., reindexAll_gen .., reindexAll_revDirty ..⟩

/-- a re-inserted key leaves the graveyard -/
theorem modify_ok_grave (t : TableS) (g : Nat) (o : Obj) (m : Bool) (h : t.locked = true)
    (hok : GuardOk g (t.primary.get o.id)) :
    (modify t g o m).1.grave = (match t.primary.get o.id, t.grave.get o.id with
        | none, some _ => t.grave.erase o.id | _, _ => t.grave) ∧
    (modify t g o m).1.graveRev = (match t.primary.get o.id, t.grave.get o.id with
        | none, some g => t.graveRev.erase (revKey g.rev) | _, _ => t.graveRev) := by
  rw [modify_ok_eq t g o m h hok]
  exact ⟨reindexAll_grave .., reindexAll_graveRev ..⟩

theorem delete_notLocked (t : TableS) (g : Nat) (id : Key) (h : t.locked = false) :
    delete t g id = (t, none, .notLocked) := by
  unfold delete; simp [h]

theorem delete_absent (t : TableS) (g : Nat) (id : Key) (h : t.locked = true)
    (hn : t.primary.get id = none) : delete t g id = (t, none, .ok) := by
  unfold delete; simp [h, hn]

theorem delete_revNotEqual (t : TableS) (g : Nat) (id : Key) (h : t.locked = true)
    (old : Obj) (hs : t.primary.get id = some old) (hg : g > 0) (hr : old.rev ≠ g) :
    delete t g id = (t, some old, .revNotEqual) := by
  unfold delete; simp [h, hs, hg, hr]

/-- the table `delete` produces on success -/
structure DelOk (t : TableS) (id : Key) (old : Obj) (t' : TableS) : Prop where
  rev : t'.rev = t.rev + 1
  primary : t'.primary = t.primary.erase id
  revIdx : t'.revIdx = t.revIdx.erase (revKey old.rev)
  locked : t'.locked = t.locked
  trackers : t'.trackers = t.trackers
  full : t'.full = t.full
  init : t'.init = t.init
  gen : t'.gen = t.gen
  revDirty : t'.revDirty = true
  graveNoTracker : t.trackers = [] → t'.grave = t.grave ∧ t'.graveRev = t.graveRev
  graveTracker : t.trackers ≠ [] →
    t'.grave = t.grave.insert id { old with rev := t.rev + 1 } ∧
    t'.graveRev = t.graveRev.insert (revKey (t.rev + 1)) { old with rev := t.rev + 1 }

theorem DelOk.graves {t t' : TableS} {id : Key} {old : Obj} (hd : DelOk t id old t') :
    t'.grave = (if t.trackers.isEmpty then t.grave else t.grave.insert id { old with rev := t.rev + 1 }) ∧
    t'.graveRev = (if t.trackers.isEmpty then t.graveRev
      else t.graveRev.insert (revKey (t.rev + 1)) { old with rev := t.rev + 1 }) := by
  cases htr : t.trackers with
  | nil => exact hd.graveNoTracker htr
  | cons a l => exact hd.graveTracker (by rw [htr]; exact List.cons_ne_nil a l)

/-- what a `delete` that removes `old` writes before it redoes the secondary indexes; the graveyard copy is written
    after them (`delete_ok_eq`) -/
def delCore (t : TableS) (id : Key) (old : Obj) : TableS :=
  { t with rev := t.rev + 1, revDirty := true, primary := t.primary.erase id, revIdx := t.revIdx.erase (revKey old.rev) }

theorem delete_ok_eq (t : TableS) (g : Nat) (id : Key) (h : t.locked = true)
    (old : Obj) (hs : t.primary.get id = some old) (hg : g = 0 ∨ old.rev = g) :
    delete t g id =
      (let r := reindexAll (delCore t id old) (some old) none id
       if t.trackers.isEmpty then r
       else { r with grave := r.grave.insert id { old with rev := t.rev + 1 }
                     graveRev := r.graveRev.insert (revKey (t.rev + 1)) { old with rev := t.rev + 1 } },
       some old, .ok) := by
  have hl : (!t.locked) = false := by rw [h]; rfl
  have h1 : ¬ (g > 0 ∧ old.rev ≠ g) := by omega
  unfold delete
  simp only [hl, Bool.false_eq_true, if_false, hs, h1, reindexAll_trackers]
  rfl

theorem delete_ok (t : TableS) (g : Nat) (id : Key) (h : t.locked = true)
    (old : Obj) (hs : t.primary.get id = some old) (hg : g = 0 ∨ old.rev = g) :
    ∃ t', delete t g id = (t', some old, .ok) ∧ DelOk t id old t' := by
  refine ⟨_, delete_ok_eq t g id h old hs hg, ?_⟩
  show DelOk t id old (if t.trackers.isEmpty = true then _ else _)
  obtain ⟨tg, u, l, ul, hr⟩ := reindexAll_eq (delCore t id old) (some old) none id
  rw [hr]
  cases ht : t.trackers with
  | nil =>
    rw [List.isEmpty_nil, if_pos rfl]
    constructor
    case graveNoTracker => exact fun _ => ⟨rfl, rfl⟩
    case graveTracker => exact fun hn => absurd ht hn
    all_goals rfl
  | cons a r =>
    rw [List.isEmpty_cons, if_neg Bool.false_ne_true]
    constructor
    case graveNoTracker => exact fun hn => nomatch ht.symm.trans hn
    case graveTracker => exact fun _ => ⟨rfl, rfl⟩
    all_goals rfl

inductive ModifyOutcome (t : TableS) (g : Nat) (o : Obj) (m : Bool) : Prop
  | notLocked (unlocked : t.locked = false) (eq : modify t g o m = (t, none, .notLocked))
  | notFound (locked : t.locked = true) (guarded : g > 0) (absent : t.primary.get o.id = none)
      (eq : modify t g o m = (t, none, .notFound))
  | revNotEqual (locked : t.locked = true) (guarded : g > 0) (old : Obj) (present : t.primary.get o.id = some old)
      (differs : old.rev ≠ g) (eq : modify t g o m = (t, some old, .revNotEqual))
  | ok (locked : t.locked = true) (guard : GuardOk g (t.primary.get o.id)) (t' : TableS)
      (eq : modify t g o m = (t', t.primary.get o.id, .ok)) (wrote : ModOk t o m t')

theorem modify_outcome (t : TableS) (g : Nat) (o : Obj) (m : Bool) : ModifyOutcome t g o m := by
  cases hl : t.locked with
  | false => exact .notLocked hl (modify_notLocked t g o m hl)
  | true =>
    by_cases hg : g = 0
    · have hok : GuardOk g (t.primary.get o.id) := Or.inl hg
      have ⟨t', e, hm⟩ := modify_ok t g o m hl hok
      exact .ok hl hok t' e hm
    · cases ho : t.primary.get o.id with
      | none => exact .notFound hl (Nat.pos_of_ne_zero hg) ho (modify_notFound t g o m hl (Nat.pos_of_ne_zero hg) ho)
      | some oo =>
        by_cases hr : oo.rev = g
        · have hok : GuardOk g (t.primary.get o.id) := ho ▸ GuardOk.some_iff.mpr (Or.inr hr)
          have ⟨t', e, hm⟩ := modify_ok t g o m hl hok
          exact .ok hl hok t' e hm
        · exact .revNotEqual hl (Nat.pos_of_ne_zero hg) oo ho hr
            (modify_revNotEqual t g o m hl (Nat.pos_of_ne_zero hg) oo ho hr)

theorem modify_cases (t : TableS) (g : Nat) (o : Obj) (m : Bool) :
    (t.locked = false ∧ modify t g o m = (t, none, .notLocked)) ∨
    (t.locked = true ∧ g > 0 ∧ t.primary.get o.id = none ∧ modify t g o m = (t, none, .notFound)) ∨
    (t.locked = true ∧ g > 0 ∧ (∃ oo, t.primary.get o.id = some oo ∧ oo.rev ≠ g ∧
        modify t g o m = (t, some oo, .revNotEqual))) ∨
    (t.locked = true ∧ GuardOk g (t.primary.get o.id) ∧
        ∃ t', modify t g o m = (t', t.primary.get o.id, .ok) ∧ ModOk t o m t') :=
  match modify_outcome t g o m with
  | .notLocked hl e => Or.inl ⟨hl, e⟩
  | .notFound hl hg hn e => Or.inr (Or.inl ⟨hl, hg, hn, e⟩)
  | .revNotEqual hl hg old ho hr e => Or.inr (Or.inr (Or.inl ⟨hl, hg, old, ho, hr, e⟩))
  | .ok hl hok t' e hm => Or.inr (Or.inr (Or.inr ⟨hl, hok, t', e, hm⟩))

inductive DeleteOutcome (t : TableS) (g : Nat) (id : Key) : Prop
  | notLocked (unlocked : t.locked = false) (eq : delete t g id = (t, none, .notLocked))
  | absent (locked : t.locked = true) (absent : t.primary.get id = none) (eq : delete t g id = (t, none, .ok))
  | revNotEqual (locked : t.locked = true) (guarded : g > 0) (old : Obj) (present : t.primary.get id = some old)
      (differs : old.rev ≠ g) (eq : delete t g id = (t, some old, .revNotEqual))
  | ok (locked : t.locked = true) (old : Obj) (present : t.primary.get id = some old) (guard : g = 0 ∨ old.rev = g)
      (t' : TableS) (eq : delete t g id = (t', some old, .ok)) (wrote : DelOk t id old t')

theorem delete_outcome (t : TableS) (g : Nat) (id : Key) : DeleteOutcome t g id := by
  cases hl : t.locked with
  | false => exact .notLocked hl (delete_notLocked t g id hl)
  | true =>
    cases ho : t.primary.get id with
    | none => exact .absent hl ho (delete_absent t g id hl ho)
    | some old =>
      by_cases hg : g = 0 ∨ old.rev = g
      · have ⟨t', e, hd⟩ := delete_ok t g id hl old ho hg
        exact .ok hl old ho hg t' e hd
      · have h0 : g > 0 := Nat.pos_of_ne_zero fun h => hg (Or.inl h)
        have hr : old.rev ≠ g := fun h => hg (Or.inr h)
        exact .revNotEqual hl h0 old ho hr (delete_revNotEqual t g id hl old ho h0 hr)

theorem delete_cases (t : TableS) (g : Nat) (id : Key) :
    (t.locked = false ∧ delete t g id = (t, none, .notLocked)) ∨
    (t.locked = true ∧ t.primary.get id = none ∧ delete t g id = (t, none, .ok)) ∨
    (t.locked = true ∧ g > 0 ∧ (∃ old, t.primary.get id = some old ∧ old.rev ≠ g ∧
        delete t g id = (t, some old, .revNotEqual))) ∨
    (t.locked = true ∧ ∃ old, t.primary.get id = some old ∧ (g = 0 ∨ old.rev = g) ∧
        ∃ t', delete t g id = (t', some old, .ok) ∧ DelOk t id old t') :=
  match delete_outcome t g id with
  | .notLocked hl e => Or.inl ⟨hl, e⟩
  | .absent hl hn e => Or.inr (Or.inl ⟨hl, hn, e⟩)
  | .revNotEqual hl hg old ho hr e => Or.inr (Or.inr (Or.inl ⟨hl, hg, old, ho, hr, e⟩))
  | .ok hl old ho hg t' e hd => Or.inr (Or.inr (Or.inr ⟨hl, old, ho, hg, t', e, hd⟩))

theorem modify_writes (t : TableS) (g : Nat) (o : Obj) (m : Bool) :
    (modify t g o m).1 = t ∨ ModOk t o m (modify t g o m).1 := by
  match modify_outcome t g o m with
  | .notLocked (eq := h) .. | .notFound (eq := h) .. | .revNotEqual (eq := h) .. => rw [h]; exact Or.inl rfl
  | .ok (eq := h) (wrote := hm) .. => rw [h]; exact Or.inr hm

theorem delete_writes (t : TableS) (g : Nat) (id : Key) :
    (delete t g id).1 = t ∨ ∃ old, t.primary.get id = some old ∧ DelOk t id old (delete t g id).1 := by
  match delete_outcome t g id with
  | .notLocked (eq := h) .. | .absent (eq := h) .. | .revNotEqual (eq := h) .. => rw [h]; exact Or.inl rfl
  | .ok (old := old) (present := hs) (eq := h) (wrote := hd) .. => rw [h]; exact Or.inr ⟨old, hs, hd⟩

theorem modify_success {t : TableS} {g : Nat} {o : Obj} {m : Bool} (h : (modify t g o m).2.2 = .ok) :
    ModOk t o m (modify t g o m).1 := by
  match modify_outcome t g o m with
  | .notLocked (eq := h') .. | .notFound (eq := h') .. | .revNotEqual (eq := h') .. => rw [h'] at h; cases h
  | .ok (eq := h') (wrote := hm) .. => rw [h']; exact hm

theorem modify_ok_locked {t : TableS} {g : Nat} {o : Obj} {m : Bool} (h : (modify t g o m).2.2 = .ok) :
    t.locked = true :=
  match modify_outcome t g o m with
  | .notLocked (eq := h') .. | .notFound (eq := h') .. | .revNotEqual (eq := h') .. => by rw [h'] at h; cases h
  | .ok (locked := hl) .. => hl

theorem delete_success {t : TableS} {g : Nat} {id : Key} (h : (delete t g id).2.2 = .ok) :
    (t.primary.get id = none ∧ (delete t g id).1 = t) ∨
    ∃ old, t.primary.get id = some old ∧ DelOk t id old (delete t g id).1 := by
  match delete_outcome t g id with
  | .notLocked (eq := h') .. | .revNotEqual (eq := h') .. => rw [h'] at h; cases h
  | .absent (absent := hn) (eq := h') .. => rw [h']; exact Or.inl ⟨hn, rfl⟩
  | .ok (old := old) (present := ho) (eq := h') (wrote := hd) .. => rw [h']; exact Or.inr ⟨old, ho, hd⟩

theorem delete_rejected {t : TableS} {g : Nat} {id : Key} (h : (delete t g id).2.2 ≠ .ok) : (delete t g id).1 = t := by
  match delete_outcome t g id with
  | .notLocked (eq := h') .. | .absent (eq := h') .. | .revNotEqual (eq := h') .. => rw [h']
  | .ok (eq := h') .. => rw [h'] at h; exact absurd rfl h

theorem modify_rev_cases (t : TableS) (g : Nat) (o : Obj) (m : Bool) :
    ((modify t g o m).2.2 = .ok ∧ (modify t g o m).1.rev = t.rev + 1) ∨
    ((modify t g o m).2.2 ≠ .ok ∧ (modify t g o m).1 = t) := by
  match modify_outcome t g o m with
  | .notLocked (eq := h) .. | .notFound (eq := h) .. | .revNotEqual (eq := h) .. =>
    rw [h]; exact Or.inr ⟨fun e => (nomatch e), rfl⟩
  | .ok (eq := h) (wrote := hm) .. => rw [h]; exact Or.inl ⟨rfl, hm.rev⟩

theorem modify_rejected {t : TableS} {g : Nat} {o : Obj} {m : Bool} (h : (modify t g o m).2.2 ≠ .ok) :
    (modify t g o m).1 = t :=
  (modify_rev_cases t g o m).elim (fun h' => absurd h'.1 h) And.right

theorem modify_rev_mono (t : TableS) (g : Nat) (o : Obj) (m : Bool) : t.rev ≤ (modify t g o m).1.rev := by
  rcases modify_rev_cases t g o m with ⟨_, h⟩ | ⟨_, h⟩ <;> rw [h] <;> omega

theorem delete_rev_le (t : TableS) (g : Nat) (id : Key) :
    t.rev ≤ (delete t g id).1.rev ∧ (delete t g id).1.rev ≤ t.rev + 1 := by
  rcases delete_writes t g id with h | ⟨_, _, hd⟩
  · rw [h]; omega
  · rw [hd.rev]; omega

theorem delete_locked (t : TableS) (g : Nat) (id : Key) : (delete t g id).1.locked = t.locked := by
  rcases delete_writes t g id with h | ⟨_, _, hd⟩
  · rw [h]
  · exact hd.locked

theorem modify_locked (t : TableS) (g : Nat) (o : Obj) (m : Bool) : (modify t g o m).1.locked = t.locked := by
  rcases modify_writes t g o m with h | hm
  · rw [h]
  · exact hm.locked

/-- the loop of `DeleteAll` over a list of entries -/
def delFold (l : List (Key × Obj)) (t : TableS) : TableS :=
  l.foldl (fun t (x : Key × Obj) => (delete t 0 x.1).1) t

theorem deleteAll_eq (t : TableS) :
    deleteAll t = if t.locked then (delFold t.primary t, .ok)
      else (t, if t.primary.isEmpty then .ok else .notLocked) := by
  unfold deleteAll delFold
  cases t.locked <;> rfl

@[simp] theorem delFold_nil (t : TableS) : delFold [] t = t := rfl
@[simp] theorem delFold_cons (x : Key × Obj) (l : List (Key × Obj)) (t : TableS) :
    delFold (x :: l) t = delFold l (delete t 0 x.1).1 := rfl

/-- A trap: the `match` below is this module's matcher constant, not the one inside `gcApply`, though they print alike:
    `rw [gcFold_eq …]` finds no instance under an unfolded `gcApply`; `exact` and `congrArg (·.rev) (gcFold_eq …)` do. -/
theorem gcFold_eq (ks : List Key) (t : TableS) :
    ∃ gr g, ks.foldl (fun t k =>
        match t.graveRev.get k with
        | some o => { t with graveRev := t.graveRev.erase k, grave := t.grave.erase o.id }
        | none => t) t = { t with graveRev := gr, grave := g } := by
  induction ks generalizing t with
  | nil => exact ⟨t.graveRev, t.grave, rfl⟩
  | cons k ks ih =>
    simp only [List.foldl_cons]
    split
    · exact ih { t with graveRev := t.graveRev.erase k, grave := t.grave.erase ‹Obj›.id }
    · exact ih t

open OMap

/-- `P`, keyed by object id, and `R`, keyed by `revKey` of the revision, hold the same objects, none of a revision
    above `rev`.  A table keeps two such pairs: `primary` / `revIdx` and `grave` / `graveRev`. -/
structure Pair (rev : Nat) (P R : OMap Obj) : Prop where
  pS : Sorted P
  pK : ∀ k o, (k, o) ∈ P → k = o.id
  rS : Sorted R
  rK : ∀ k o, (k, o) ∈ R → k = revKey o.rev ∧ o.rev ≤ rev
  pr : ∀ o, (o.id, o) ∈ P ↔ (revKey o.rev, o) ∈ R

namespace Pair
variable {r : Nat} {P R : OMap Obj}

theorem mono {r' : Nat} (h : Pair r P R) (hr : r ≤ r') : Pair r' P R :=
  ⟨h.pS, h.pK, h.rS, fun k o hm => ⟨(h.rK k o hm).1, Nat.le_trans (h.rK k o hm).2 hr⟩, h.pr⟩

theorem of_mem_R (h : Pair r P R) {k : Key} {o : Obj} (hm : (k, o) ∈ R) : k = revKey o.rev ∧ (o.id, o) ∈ P := by
  have hk := (h.rK k o hm).1
  exact ⟨hk, (h.pr o).mpr (hk ▸ hm)⟩

theorem perm (h : Pair r P R) : (P.map (·.2)).Perm (R.map (·.2)) := by
  rw [List.perm_ext_iff_of_nodup (h.pS.values_nodup (·.id) h.pK)
    (h.rS.values_nodup (fun o => revKey o.rev) fun k o hm => (h.rK k o hm).1)]
  intro o
  simp only [List.mem_map, Prod.exists, exists_eq_right]
  constructor
  · rintro ⟨k, hm⟩
    exact ⟨_, (h.pr o).mp (h.pK _ _ hm ▸ hm)⟩
  · rintro ⟨k, hm⟩
    exact ⟨_, (h.pr o).mpr ((h.rK _ _ hm).1 ▸ hm)⟩

theorem length_eq (h : Pair r P R) : R.length = P.length := by
  have := h.perm.length_eq
  simpa using this.symm

theorem erase (h : Pair r P R) {x : Obj} (hx : (x.id, x) ∈ P) : Pair r (P.erase x.id) (R.erase (revKey x.rev)) := by
  refine ⟨sorted_erase _ h.pS _, fun k o hm => h.pK k o ((mem_erase_iff _ h.pS _ _ _).mp hm).2, sorted_erase _ h.rS _,
    fun k o hm => h.rK k o ((mem_erase_iff _ h.rS _ _ _).mp hm).2, fun o => ?_⟩
  rw [mem_erase_iff _ h.pS, mem_erase_iff _ h.rS, h.pr o]
  -- an entry of `R` with the id of `x`, or with its revision, is the entry of `x`: keys are unique in `P` and in `R`
  refine and_congr_left fun ho => not_congr ⟨fun e => ?_, fun e => ?_⟩
  · have ho' := (h.pr o).mpr ho
    rw [e] at ho'
    rw [sorted_unique _ h.pS _ _ _ ho' hx]
  · rw [e] at ho
    rw [sorted_unique _ h.rS _ _ _ ho ((h.pr x).mp hx)]

theorem insert (h : Pair r P R) (hb : r + 1 < 2 ^ 64) {n : Obj} (hrev : n.rev = r + 1) (hfresh : ∀ o, (n.id, o) ∉ P) :
    Pair (r + 1) (P.insert n.id n) (R.insert (revKey (r + 1)) n) := by
  refine ⟨sorted_insert _ h.pS _ _, fun k o hm => ?_, sorted_insert _ h.rS _ _, fun k o hm => ?_, fun o => ?_⟩
  · rcases (mem_insert_iff _ h.pS _ _ _ _).mp hm with ⟨e1, e2⟩ | ⟨_, hm⟩
    · rw [e1, e2]
    · exact h.pK k o hm
  · rcases (mem_insert_iff _ h.rS _ _ _ _).mp hm with ⟨e1, e2⟩ | ⟨_, hm⟩
    · rw [e1, e2, hrev]; exact ⟨rfl, Nat.le_refl _⟩
    · exact ⟨(h.rK k o hm).1, Nat.le_succ_of_le (h.rK k o hm).2⟩
  · rw [mem_insert_iff _ h.pS, mem_insert_iff _ h.rS]
    constructor
    · rintro (⟨_, e⟩ | ⟨_, ho⟩)
      · left; rw [e, hrev]; exact ⟨rfl, rfl⟩
      · have ho' := (h.pr o).mp ho
        have hle := (h.rK _ _ ho').2
        -- the key of the next revision is new in `R`
        exact Or.inr ⟨fun e => by have := revKey_inj _ _ (by omega) hb e; omega, ho'⟩
    · rintro (⟨_, e⟩ | ⟨_, ho⟩)
      · left; rw [e]; exact ⟨rfl, rfl⟩
      · have ho' := (h.pr o).mpr ho
        exact Or.inr ⟨fun e => hfresh o (e ▸ ho'), ho'⟩

/-- the write of `modify` -/
theorem put (h : Pair r P R) (hb : r + 1 < 2 ^ 64) {id : Key} {n : Obj} (hid : n.id = id) (hrev : n.rev = r + 1) :
    Pair (r + 1) (P.insert id n)
      ((match P.get id with | some oo => R.erase (revKey oo.rev) | none => R).insert (revKey (r + 1)) n) := by
  subst hid
  cases hold : P.get n.id with
  | none => exact h.insert hb hrev ((get_none_iff _ h.pS _).mp hold)
  | some oo =>
    have hoo := (mem_iff_get _ h.pS _ _).mpr hold
    have hoid : n.id = oo.id := h.pK _ _ hoo
    rw [hoid] at hoo
    have := (h.erase hoo).insert hb hrev fun o ho => ((mem_erase_iff _ h.pS _ _ _).mp ho).1 hoid
    rw [← hoid, insert_erase _ h.pS] at this
    exact this

end Pair

theorem ModOk.updated {t t' : TableS} {o : Obj} {m : Bool} (h : ModOk t o m t') :
    Updated t.primary o.id (some (newObj t o m)) t'.primary := by
  rw [h.primary]; exact .insert _ _ _

theorem DelOk.updated {t t' : TableS} {id : Key} {old : Obj} (h : DelOk t id old t') (hs : Sorted t.primary) :
    Updated t.primary id none t'.primary := by
  rw [h.primary]; exact .erase hs id

end Sdb.Tbl
