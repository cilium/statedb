import SdbModel.Model.Reconciler
import SdbModel.Lemmas.ListBasics

/-!
  The ground the reconciler proofs (C14–C16) stand on: the backoff arithmetic, the target as read
  off the call log, well-formedness `TInv` of the minimal table of `Model.Reconciler`, what the
  table's writes and the retry primitives do to each field, and the retry low-watermark as a
  function of the items.
-/
namespace Sdb
open Rec

/-! The backoff arithmetic of C16 (over ℕ; the float64 rounding of `exponentialBackoff.Duration`
  is in the trusted base). -/

theorem C16_backoff_le_max (minB maxB n : Nat) : backoff minB maxB n ≤ maxB := by
  unfold backoff; simp only; split <;> omega

theorem C16_backoff_ge_min (minB maxB n : Nat) (h : minB ≤ maxB) : minB ≤ backoff minB maxB n := by
  unfold backoff; simp only
  have : minB ≤ minB * 2 ^ n := Nat.le_mul_of_pos_right _ (Nat.pow_pos (by omega))
  split <;> omega

theorem C16_backoff_monotone (minB maxB n m : Nat) (h : n ≤ m) :
    backoff minB maxB n ≤ backoff minB maxB m := by
  unfold backoff; simp only
  have hp : 2 ^ n ≤ 2 ^ m := Nat.pow_le_pow_right (by omega) h
  have : minB * 2 ^ n ≤ minB * 2 ^ m := Nat.mul_le_mul_left _ hp
  split <;> split <;> omega

end Sdb

namespace Sdb.Rec
open LB

/-- the model keeps no target store: what the target holds for `id` is read off the last
    call logged for it -/
def lastCall (log : List Call) (id : Nat) : Option Call := (log.filter (·.id = id)).getLast?

theorem lastCall_append_other (log : List Call) (c : Call) (id : Nat) (h : c.id ≠ id) :
    lastCall (log ++ [c]) id = lastCall log id := by
  unfold lastCall; simp [List.filter_append, h]

theorem lastCall_append_self (log : List Call) (c : Call) : lastCall (log ++ [c]) c.id = some c := by
  unfold lastCall; simp [List.filter_append]

/-- the status kinds the incremental loop processes -/
def needs (k : SKind) : Prop := k = .pending ∨ k = .refreshing

instance (k : SKind) : Decidable (needs k) := by unfold needs; infer_instance

theorem needs_ne {k : SKind} (h : needs k) : k ≠ .done ∧ k ≠ .error := by
  rcases h with e | e <;> simp [e]

/-- well-formedness of the minimal table and the iterator positions -/
structure TInv (r : R) : Prop where
  objs_pw : r.objs.Pairwise (fun a b => a.id ≠ b.id ∧ a.rev ≠ b.rev)
  dels_pw : r.dels.Pairwise (fun a b => a.1.id ≠ b.1.id ∧ a.2 ≠ b.2)
  disj : ∀ o ∈ r.objs, ∀ d ∈ r.dels, o.id ≠ d.1.id
  objs_le : ∀ o ∈ r.objs, o.rev ≤ r.tableRev
  dels_le : ∀ d ∈ r.dels, d.2 ≤ r.tableRev
  it_le : r.itRev ≤ r.tableRev
  itd_le : r.itDelRev ≤ r.tableRev
  ref_le : r.refreshedAt ≤ r.tableRev

theorem TInv.obj_eq {r : R} (h : TInv r) {a b : RObj} (ha : a ∈ r.objs) (hb : b ∈ r.objs) (hid : a.id = b.id) : a = b :=
  eq_of_key RObj.id (h.objs_pw.imp And.left) ha hb hid

theorem TInv.del_eq {r : R} (h : TInv r) {a b : RObj × Nat} (ha : a ∈ r.dels) (hb : b ∈ r.dels) (hid : a.1.id = b.1.id) : a = b :=
  eq_of_key (fun d : RObj × Nat => d.1.id) (h.dels_pw.imp And.left) ha hb hid

theorem get_eq_some_iff {r : R} (h : TInv r) (id : Nat) (o : RObj) : r.get id = some o ↔ o ∈ r.objs ∧ o.id = id :=
  ⟨find_key_some RObj.id, fun ⟨hm, hid⟩ => hid ▸ find_key_of_mem RObj.id (h.objs_pw.imp And.left) hm⟩

theorem get_eq_none_iff (r : R) (id : Nat) : r.get id = none ↔ ∀ o ∈ r.objs, o.id ≠ id :=
  find_key_none RObj.id

theorem mem_setObj_objs (r : R) (o x : RObj) :
    x ∈ (r.setObj o).objs ↔ (x ∈ r.objs ∧ x.id ≠ o.id) ∨ x = { o with rev := r.tableRev + 1 } :=
  mem_upsert RObj.id r.objs { o with rev := r.tableRev + 1 } x

theorem setObj_objs_of_mem (r : R) (o cur : RObj) (hcur : cur ∈ r.objs) (hid : cur.id = o.id) :
    (r.setObj o).objs = r.objs.map (fun x => if x.id = o.id then { o with rev := r.tableRev + 1 } else x) := by
  unfold R.setObj
  simp only
  have : r.objs.any (fun x => decide (x.id = o.id)) = true := by
    rw [List.any_eq_true]; exact ⟨cur, hcur, by simpa using hid⟩
  rw [if_pos this]

theorem map_repl_of_not_mem (l : List RObj) (id : Nat) (n : RObj) (h : ∀ x ∈ l, x.id ≠ id) :
    l.map (fun x => if x.id = id then n else x) = l := by
  induction l with
  | nil => rfl
  | cons b bs ih =>
    simp only [List.map_cons]
    rw [if_neg (h b (List.mem_cons_self ..)), ih (fun x hx => h x (List.mem_cons_of_mem _ hx))]

@[simp] theorem setObj_dels (r : R) (o : RObj) : (r.setObj o).dels = r.dels.filter (·.1.id ≠ o.id) := rfl
@[simp] theorem setObj_tableRev (r : R) (o : RObj) : (r.setObj o).tableRev = r.tableRev + 1 := rfl
@[simp] theorem setObj_items (r : R) (o : RObj) : (r.setObj o).items = r.items := rfl
@[simp] theorem setObj_log (r : R) (o : RObj) : (r.setObj o).log = r.log := rfl
@[simp] theorem setObj_results (r : R) (o : RObj) : (r.setObj o).results = r.results := rfl
@[simp] theorem setObj_itRev (r : R) (o : RObj) : (r.setObj o).itRev = r.itRev := rfl
@[simp] theorem setObj_itDelRev (r : R) (o : RObj) : (r.setObj o).itDelRev = r.itDelRev := rfl
@[simp] theorem setObj_refreshedAt (r : R) (o : RObj) : (r.setObj o).refreshedAt = r.refreshedAt := rfl
@[simp] theorem setObj_injects (r : R) (o : RObj) : (r.setObj o).injects = r.injects := rfl
@[simp] theorem setObj_pending (r : R) (o : RObj) : (r.setObj o).pending = r.pending := rfl
@[simp] theorem setObj_now (r : R) (o : RObj) : (r.setObj o).now = r.now := rfl
@[simp] theorem setObj_cfg (r : R) (o : RObj) : (r.setObj o).cfg = r.cfg := rfl
@[simp] theorem setObj_failing (r : R) (o : RObj) : (r.setObj o).failing = r.failing := rfl
@[simp] theorem setObj_timer (r : R) (o : RObj) : (r.setObj o).timer = r.timer := rfl
@[simp] theorem setObj_numReconciled (r : R) (o : RObj) : (r.setObj o).numReconciled = r.numReconciled := rfl

theorem get_setObj (r : R) (o : RObj) (id : Nat) :
    (r.setObj o).get id = if id = o.id then some { o with rev := r.tableRev + 1 } else r.get id :=
  find_key_upsert RObj.id r.objs { o with rev := r.tableRev + 1 } id

theorem get_setObj_ne (r : R) (o : RObj) (id : Nat) (h : id ≠ o.id) : (r.setObj o).get id = r.get id := by
  rw [get_setObj, if_neg h]

theorem get_setObj_eq (r : R) (o : RObj) : (r.setObj o).get o.id = some { o with rev := r.tableRev + 1 } := by
  rw [get_setObj, if_pos rfl]

theorem TInv.setObj {r : R} (h : TInv r) (o : RObj) : TInv (r.setObj o) := by
  have hfresh : ∀ x ∈ r.objs, x.rev ≠ r.tableRev + 1 := fun x hx => by have := h.objs_le x hx; omega
  refine ⟨?_, ?_, ?_, ?_, ?_, ?_, ?_, ?_⟩
  · unfold R.setObj
    simp only
    split
    · rw [List.pairwise_map]
      refine List.Pairwise.imp_of_mem ?_ h.objs_pw
      intro a b ha hb hab
      have := hfresh a ha; have := hfresh b hb
      by_cases h1 : a.id = o.id <;> by_cases h2 : b.id = o.id
      · exact absurd (h1.trans h2.symm) hab.1
      · rw [if_pos h1, if_neg h2]; exact ⟨fun e => h2 e.symm, fun e => hfresh b hb e.symm⟩
      · rw [if_neg h1, if_pos h2]; exact ⟨h1, hfresh a ha⟩
      · rw [if_neg h1, if_neg h2]; exact hab
    · rename_i hany
      simp only [Bool.not_eq_true, List.any_eq_false, decide_eq_true_eq] at hany
      rw [List.pairwise_append]
      refine ⟨h.objs_pw, by simp, ?_⟩
      intro a ha b hb
      simp only [List.mem_singleton] at hb
      subst hb
      exact ⟨hany a ha, hfresh a ha⟩
  · simp only [setObj_dels]
    exact h.dels_pw.filter _
  · intro x hx d hd
    simp only [setObj_dels, List.mem_filter, decide_eq_true_eq] at hd
    rw [mem_setObj_objs] at hx
    rcases hx with ⟨hx, _⟩ | rfl
    · exact h.disj x hx d hd.1
    · exact fun e => hd.2 e.symm
  · intro x hx
    rw [mem_setObj_objs] at hx
    simp only [setObj_tableRev]
    rcases hx with ⟨hx, _⟩ | rfl
    · have := h.objs_le x hx; omega
    · simp
  · intro d hd
    simp only [setObj_dels, List.mem_filter] at hd
    have := h.dels_le d hd.1
    simp only [setObj_tableRev]; omega
  · have := h.it_le; simp only [setObj_itRev, setObj_tableRev]; omega
  · have := h.itd_le; simp only [setObj_itDelRev, setObj_tableRev]; omega
  · have := h.ref_le; simp only [setObj_refreshedAt, setObj_tableRev]; omega

theorem delObj_of_get {r : R} {id : Nat} {o : RObj} (h : r.get id = some o) :
    r.delObj id = { r with objs := r.objs.filter (·.id ≠ id), tableRev := r.tableRev + 1,
                           dels := r.dels ++ [({ o with rev := r.tableRev + 1 }, r.tableRev + 1)] } := by
  unfold R.delObj; rw [h]

theorem delObj_of_none {r : R} {id : Nat} (h : r.get id = none) : r.delObj id = r := by
  unfold R.delObj; rw [h]

theorem touch_of_get {r : R} {id : Nat} {o : RObj} (h : r.get id = some o) :
    r.touch id = r.setObj { o with other := o.other + 1 } := by
  unfold R.touch; rw [h]

theorem touch_of_none {r : R} {id : Nat} (h : r.get id = none) : r.touch id = r := by
  unfold R.touch; rw [h]

theorem get_delObj (r : R) (Y X : Nat) : (r.delObj Y).get X = if X = Y then none else r.get X := by
  cases hg : r.get Y with
  | none => rw [delObj_of_none hg]; split <;> simp_all
  | some o => rw [delObj_of_get hg]; exact find_key_filter RObj.id r.objs Y X

theorem get_delObj_self (r : R) (X : Nat) : (r.delObj X).get X = none := by
  rw [get_delObj, if_pos rfl]

theorem get_delObj_ne (r : R) (Y X : Nat) (h : X ≠ Y) : (r.delObj Y).get X = r.get X := by
  rw [get_delObj, if_neg h]

theorem TInv.delObj {r : R} (h : TInv r) (id : Nat) : TInv (r.delObj id) := by
  cases hg : r.get id with
  | none => rw [delObj_of_none hg]; exact h
  | some o =>
    rw [delObj_of_get hg]
    rw [get_eq_some_iff h] at hg
    refine ⟨?_, ?_, ?_, ?_, ?_, ?_, ?_, ?_⟩
    · exact h.objs_pw.filter _
    · simp only
      rw [List.pairwise_append]
      refine ⟨h.dels_pw, by simp, ?_⟩
      intro a ha b hb
      simp only [List.mem_singleton] at hb
      subst hb
      have := h.dels_le a ha
      refine ⟨?_, by simp only; omega⟩
      intro e
      exact h.disj o hg.1 a ha e.symm
    · intro x hx d hd
      simp only [List.mem_filter, decide_eq_true_eq] at hx
      simp only [List.mem_append, List.mem_singleton] at hd
      rcases hd with hd | rfl
      · exact h.disj x hx.1 d hd
      · simp only; rw [hg.2]; exact hx.2
    · intro x hx
      simp only [List.mem_filter] at hx
      have := h.objs_le x hx.1
      simp only; omega
    · intro d hd
      simp only [List.mem_append, List.mem_singleton] at hd
      rcases hd with hd | rfl
      · have := h.dels_le d hd; simp only; omega
      · simp
    · have := h.it_le; simp only; omega
    · have := h.itd_le; simp only; omega
    · have := h.ref_le; simp only; omega

theorem TInv.congr {r r' : R} (h : TInv r) (hobjs : r'.objs = r.objs) (hdels : r'.dels = r.dels) (htableRev : r'.tableRev = r.tableRev)
    (hitRev : r'.itRev = r.itRev) (hitDelRev : r'.itDelRev = r.itDelRev) (hrefreshedAt : r'.refreshedAt = r.refreshedAt) : TInv r' := by
  obtain ⟨a, b, c, d, e, f, g, i⟩ := h
  constructor <;> simp only [hobjs, hdels, htableRev, hitRev, hitDelRev, hrefreshedAt] <;> assumption

theorem TInv.set_it {r r' : R} (h : TInv r) (hobjs : r'.objs = r.objs) (hdels : r'.dels = r.dels) (htableRev : r'.tableRev = r.tableRev)
    (hitRev : r'.itRev ≤ r.tableRev) (hitDelRev : r'.itDelRev ≤ r.tableRev) (hrefreshedAt : r'.refreshedAt = r.refreshedAt) : TInv r' := by
  obtain ⟨a, b, c, d, e, f, g, i⟩ := h
  constructor <;> simp only [hobjs, hdels, htableRev, hrefreshedAt] <;> assumption

theorem TInv.set_refreshedAt {r : R} (h : TInv r) {v : Nat} (hv : v ≤ r.tableRev) : TInv { r with refreshedAt := v } :=
  ⟨h.objs_pw, h.dels_pw, h.disj, h.objs_le, h.dels_le, h.it_le, h.itd_le, hv⟩

@[simp] theorem retryClear_cfg (r : R) (id : Nat) : (r.retryClear id).cfg = r.cfg := by unfold R.retryClear; split <;> rfl
@[simp] theorem retryAdd_cfg (r : R) (o : RObj) (a b : Nat) (d : Bool) : (r.retryAdd o a b d).cfg = r.cfg := rfl
@[simp] theorem retryPop_cfg (r : R) : r.retryPop.cfg = r.cfg := by unfold R.retryPop; split <;> rfl
@[simp] theorem retryClear_objs (r : R) (id : Nat) : (r.retryClear id).objs = r.objs := by unfold R.retryClear; split <;> rfl
@[simp] theorem retryAdd_objs (r : R) (o : RObj) (a b : Nat) (d : Bool) : (r.retryAdd o a b d).objs = r.objs := rfl
@[simp] theorem retryPop_objs (r : R) : r.retryPop.objs = r.objs := by unfold R.retryPop; split <;> rfl
@[simp] theorem retryClear_tableRev (r : R) (id : Nat) : (r.retryClear id).tableRev = r.tableRev := by unfold R.retryClear; split <;> rfl
@[simp] theorem retryAdd_tableRev (r : R) (o : RObj) (a b : Nat) (d : Bool) : (r.retryAdd o a b d).tableRev = r.tableRev := rfl
@[simp] theorem retryPop_tableRev (r : R) : r.retryPop.tableRev = r.tableRev := by unfold R.retryPop; split <;> rfl
@[simp] theorem retryClear_dels (r : R) (id : Nat) : (r.retryClear id).dels = r.dels := by unfold R.retryClear; split <;> rfl
@[simp] theorem retryAdd_dels (r : R) (o : RObj) (a b : Nat) (d : Bool) : (r.retryAdd o a b d).dels = r.dels := rfl
@[simp] theorem retryPop_dels (r : R) : r.retryPop.dels = r.dels := by unfold R.retryPop; split <;> rfl
@[simp] theorem retryClear_itRev (r : R) (id : Nat) : (r.retryClear id).itRev = r.itRev := by unfold R.retryClear; split <;> rfl
@[simp] theorem retryAdd_itRev (r : R) (o : RObj) (a b : Nat) (d : Bool) : (r.retryAdd o a b d).itRev = r.itRev := rfl
@[simp] theorem retryPop_itRev (r : R) : r.retryPop.itRev = r.itRev := by unfold R.retryPop; split <;> rfl
@[simp] theorem retryClear_itDelRev (r : R) (id : Nat) : (r.retryClear id).itDelRev = r.itDelRev := by unfold R.retryClear; split <;> rfl
@[simp] theorem retryAdd_itDelRev (r : R) (o : RObj) (a b : Nat) (d : Bool) : (r.retryAdd o a b d).itDelRev = r.itDelRev := rfl
@[simp] theorem retryPop_itDelRev (r : R) : r.retryPop.itDelRev = r.itDelRev := by unfold R.retryPop; split <;> rfl
@[simp] theorem retryClear_pending (r : R) (id : Nat) : (r.retryClear id).pending = r.pending := by unfold R.retryClear; split <;> rfl
@[simp] theorem retryAdd_pending (r : R) (o : RObj) (a b : Nat) (d : Bool) : (r.retryAdd o a b d).pending = r.pending := rfl
@[simp] theorem retryPop_pending (r : R) : r.retryPop.pending = r.pending := by unfold R.retryPop; split <;> rfl
@[simp] theorem retryClear_refreshedAt (r : R) (id : Nat) : (r.retryClear id).refreshedAt = r.refreshedAt := by unfold R.retryClear; split <;> rfl
@[simp] theorem retryAdd_refreshedAt (r : R) (o : RObj) (a b : Nat) (d : Bool) : (r.retryAdd o a b d).refreshedAt = r.refreshedAt := rfl
@[simp] theorem retryPop_refreshedAt (r : R) : r.retryPop.refreshedAt = r.refreshedAt := by unfold R.retryPop; split <;> rfl
@[simp] theorem retryClear_now (r : R) (id : Nat) : (r.retryClear id).now = r.now := by unfold R.retryClear; split <;> rfl
@[simp] theorem retryAdd_now (r : R) (o : RObj) (a b : Nat) (d : Bool) : (r.retryAdd o a b d).now = r.now := rfl
@[simp] theorem retryPop_now (r : R) : r.retryPop.now = r.now := by unfold R.retryPop; split <;> rfl
@[simp] theorem retryClear_failing (r : R) (id : Nat) : (r.retryClear id).failing = r.failing := by unfold R.retryClear; split <;> rfl
@[simp] theorem retryAdd_failing (r : R) (o : RObj) (a b : Nat) (d : Bool) : (r.retryAdd o a b d).failing = r.failing := rfl
@[simp] theorem retryPop_failing (r : R) : r.retryPop.failing = r.failing := by unfold R.retryPop; split <;> rfl
@[simp] theorem retryClear_injects (r : R) (id : Nat) : (r.retryClear id).injects = r.injects := by unfold R.retryClear; split <;> rfl
@[simp] theorem retryAdd_injects (r : R) (o : RObj) (a b : Nat) (d : Bool) : (r.retryAdd o a b d).injects = r.injects := rfl
@[simp] theorem retryPop_injects (r : R) : r.retryPop.injects = r.injects := by unfold R.retryPop; split <;> rfl
@[simp] theorem retryClear_log (r : R) (id : Nat) : (r.retryClear id).log = r.log := by unfold R.retryClear; split <;> rfl
@[simp] theorem retryAdd_log (r : R) (o : RObj) (a b : Nat) (d : Bool) : (r.retryAdd o a b d).log = r.log := rfl
@[simp] theorem retryPop_log (r : R) : r.retryPop.log = r.log := by unfold R.retryPop; split <;> rfl
@[simp] theorem retryClear_nextSid (r : R) (id : Nat) : (r.retryClear id).nextSid = r.nextSid := by unfold R.retryClear; split <;> rfl
@[simp] theorem retryAdd_nextSid (r : R) (o : RObj) (a b : Nat) (d : Bool) : (r.retryAdd o a b d).nextSid = r.nextSid := rfl
@[simp] theorem retryPop_nextSid (r : R) : r.retryPop.nextSid = r.nextSid := by unfold R.retryPop; split <;> rfl
@[simp] theorem retryClear_progressRev (r : R) (id : Nat) : (r.retryClear id).progressRev = r.progressRev := by unfold R.retryClear; split <;> rfl
@[simp] theorem retryAdd_progressRev (r : R) (o : RObj) (a b : Nat) (d : Bool) : (r.retryAdd o a b d).progressRev = r.progressRev := rfl
@[simp] theorem retryPop_progressRev (r : R) : r.retryPop.progressRev = r.progressRev := by unfold R.retryPop; split <;> rfl
@[simp] theorem retryClear_progressLW (r : R) (id : Nat) : (r.retryClear id).progressLW = r.progressLW := by unfold R.retryClear; split <;> rfl
@[simp] theorem retryAdd_progressLW (r : R) (o : RObj) (a b : Nat) (d : Bool) : (r.retryAdd o a b d).progressLW = r.progressLW := rfl
@[simp] theorem retryPop_progressLW (r : R) : r.retryPop.progressLW = r.progressLW := by unfold R.retryPop; split <;> rfl
@[simp] theorem retryClear_results (r : R) (id : Nat) : (r.retryClear id).results = r.results := by unfold R.retryClear; split <;> rfl
@[simp] theorem retryAdd_results (r : R) (o : RObj) (a b : Nat) (d : Bool) : (r.retryAdd o a b d).results = r.results := rfl
@[simp] theorem retryPop_results (r : R) : r.retryPop.results = r.results := by unfold R.retryPop; split <;> rfl
@[simp] theorem retryClear_numReconciled (r : R) (id : Nat) : (r.retryClear id).numReconciled = r.numReconciled := by unfold R.retryClear; split <;> rfl
@[simp] theorem retryAdd_numReconciled (r : R) (o : RObj) (a b : Nat) (d : Bool) : (r.retryAdd o a b d).numReconciled = r.numReconciled := rfl
@[simp] theorem retryPop_numReconciled (r : R) : r.retryPop.numReconciled = r.numReconciled := by unfold R.retryPop; split <;> rfl

theorem retryClear_items (r : R) (id : Nat) : (r.retryClear id).items = r.items.filter (·.id ≠ id) := by
  unfold R.retryClear
  split
  · rename_i h
    rw [List.find?_eq_none] at h
    symm
    rw [List.filter_eq_self]
    intro a ha
    have := h a ha
    simpa using this
  · rfl

theorem find?_filter_id_ne (l : List Item) (X : Nat) : (l.filter (·.id ≠ X)).find? (·.id = X) = none :=
  (find_key_filter Item.id l X X).trans (if_pos rfl)

theorem retryClear_find (r : R) (id : Nat) : (r.retryClear id).items.find? (·.id = id) = none := by
  rw [retryClear_items]; exact find?_filter_id_ne ..

theorem retryPop_items (r : R) (h : Item) (hh : r.head = some h) :
    r.retryPop.items = r.items.map fun (i : Item) => if i.id = h.id then { i with inQueue := false } else i := by
  unfold R.retryPop; rw [hh]

/-- the item `retries.Add` makes for `o` -/
def addedItem (r : R) (o : RObj) (rev origRev : Nat) (del : Bool) : Item :=
  let old := r.items.find? (·.id = o.id)
  let n := (match old with | some i => i.numRetries | none => 0) + 1
  { id := o.id, obj := o, rev, origRev := match old with | some i => i.origRev | none => origRev, delete := del,
    retryAt := r.now + backoff r.cfg.minB r.cfg.maxB n, numRetries := n, inQueue := true, inRevQueue := true }

theorem retryAdd_items (r : R) (o : RObj) (rev origRev : Nat) (del : Bool) :
    (r.retryAdd o rev origRev del).items = r.items.filter (·.id ≠ o.id) ++ [addedItem r o rev origRev del] := rfl

theorem retryAdd_find (r : R) (o : RObj) (rev origRev : Nat) (del : Bool) :
    (r.retryAdd o rev origRev del).items.find? (·.id = o.id) = some (addedItem r o rev origRev del) := by
  rw [retryAdd_items, List.find?_append, find?_filter_id_ne, Option.none_or, List.find?_cons_of_pos]
  exact decide_eq_true rfl

theorem addedItem_retryAt_le (r : R) (o : RObj) (rev origRev : Nat) (del : Bool) :
    (addedItem r o rev origRev del).retryAt ≤ r.now + r.cfg.maxB :=
  Nat.add_le_add_left (C16_backoff_le_max ..) _

/-- `retries.LowWatermark` as a function of the retry items -/
def lwOf (items : List Item) : Nat :=
  match (items.filter (·.inRevQueue)).map (·.origRev) with
  | [] => 0
  | x :: xs => xs.foldl min x

theorem lowWatermark_eq (r : R) : r.lowWatermark = lwOf r.items := rfl

theorem lwOf_spec (items : List Item) (hpos : ∀ i ∈ items, 0 < i.origRev) :
    (lwOf items = 0 ↔ items.filter (·.inRevQueue) = []) ∧ (∀ i ∈ items.filter (·.inRevQueue), lwOf items ≤ i.origRev) ∧
    (items.filter (·.inRevQueue) ≠ [] → ∃ i ∈ items.filter (·.inRevQueue), lwOf items = i.origRev) := by
  unfold lwOf
  generalize hq : items.filter (·.inRevQueue) = q
  cases q with
  | nil => simp
  | cons a as =>
    obtain ⟨hm, hle⟩ := List.min?_eq_some_iff.1 (List.min?_cons' (x := a.origRev) (xs := as.map (·.origRev)))
    obtain ⟨i, hi, e⟩ := List.mem_map.1 (show _ ∈ (a :: as).map (·.origRev) from hm)
    refine ⟨⟨fun h0 => ?_, by simp⟩, fun j hj => hle _ (List.mem_map_of_mem (f := (·.origRev)) hj), fun _ => ⟨i, hi, e.symm⟩⟩
    have := hpos i (List.mem_filter.1 (hq ▸ hi)).1
    simp only [List.map_cons] at h0
    omega

end Sdb.Rec
