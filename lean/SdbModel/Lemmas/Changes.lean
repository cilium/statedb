import SdbModel.Lemmas.ChgTableInv
import SdbModel.Lemmas.ListBasics

/-! Change iterators over `Model.Table` (C07 / C08): the sequence `refresh` installs as a function of the committed
    table and the two cursors (`pendingOf`), and `Synced`, a consumer's view being in step with a table: consuming a
    prefix of `pendingOf` keeps it so, and so do `modify`, `delete` (with a tracker registered) and the collector as
    long as it only takes keys at or below the delete cursor. -/
namespace Sdb.Chg
open Sdb.Tbl Sdb.Chg.OMap

def AscRev (l : List Change) : Prop := l.Pairwise (fun a b => a.rev < b.rev)

theorem mergeChanges_eq_merge (l r : List Change) : mergeChanges l r = l.merge r fun a b => a.rev ≤ b.rev := by
  fun_induction mergeChanges l r <;> simp [List.merge, *]

theorem mem_mergeChanges (l r : List Change) (c : Change) : c ∈ mergeChanges l r ↔ c ∈ l ∨ c ∈ r :=
  mergeChanges_eq_merge l r ▸ List.mem_merge

theorem mergeChanges_asc (l r : List Change) (hl : AscRev l) (hr : AscRev r)
    (hd : ∀ a ∈ l, ∀ b ∈ r, a.rev ≠ b.rev) : AscRev (mergeChanges l r) :=
  mergeChanges_eq_merge l r ▸ LB.pairwise_lt_merge Change.rev hl hr hd

/-- `LowerBound(ByRevision(r+1))` on the revision index -/
def updatesFrom (t : TableS) (r : Nat) : List Change :=
  (t.revIdx.lowerBound (revKey (r + 1))).map fun (_, o) => ({ obj := o, rev := o.rev, deleted := false } : Change)

/-- `deleteTracker.deleted(txn, d+1)` on the graveyard revision index -/
def deletesFrom (t : TableS) (d : Nat) : List Change :=
  (t.graveRev.lowerBound (revKey (d + 1))).map fun (_, o) => ({ obj := o, rev := o.rev, deleted := true } : Change)

/-- the sequence `changeIterator.refresh` installs -/
def pendingOf (t : TableS) (r d : Nat) : List Change := mergeChanges (deletesFrom t d) (updatesFrom t r)

theorem refresh_pending (it : ChangeIter) (committed current : List TableS) (h : it.stale committed = false) :
    (it.refresh committed current true).pending =
      some (pendingOf (committed.getD it.table default) it.revision it.deleteRevision) := by
  unfold ChangeIter.refresh
  simp only [h, Bool.false_eq_true, if_false]
  rfl

theorem refresh_stale (it : ChangeIter) (committed current : List TableS) (b : Bool) (h : it.stale committed = true) :
    (it.refresh committed current b).pending = none := by
  unfold ChangeIter.refresh
  simp only [h, if_true]

theorem refresh_pending_some (it : ChangeIter) (committed current : List TableS) (ps : List Change)
    (h : (it.refresh committed current true).pending = some ps) :
    ps = pendingOf (committed.getD it.table default) it.revision it.deleteRevision ∧ it.stale committed = false := by
  cases hs : it.stale committed with
  | true => rw [refresh_stale it committed current true hs] at h; cases h
  | false =>
    rw [refresh_pending it committed current hs] at h
    exact ⟨(Option.some.inj h).symm, rfl⟩

structure Refreshed (it : ChangeIter) (committed : List TableS) (it' : ChangeIter) : Prop where
  table : it'.table = it.table
  revision : it'.revision = it.revision
  deleteRevision : it'.deleteRevision = it.deleteRevision
  tracker : it'.tracker = it.tracker
  closed : it'.closed = it.closed
  watchGen : it'.watchGen = some (committed.getD it.table default).gen
  base : it'.base = it.base

theorem refresh_fields (it : ChangeIter) (committed current : List TableS) (b : Bool) :
    Refreshed it committed (it.refresh committed current b) := by
  unfold ChangeIter.refresh
  split <;> exact ⟨rfl, rfl, rfl, rfl, rfl, rfl, rfl⟩

theorem stale_iff (it : ChangeIter) (committed : List TableS) :
    it.stale committed = true ↔ (committed.getD it.table default).rev < it.base := by
  simp [ChangeIter.stale]

theorem refresh_pending_none {it : ChangeIter} {committed current : List TableS}
    (h : (it.refresh committed current true).pending = none) : (committed.getD it.table default).rev < it.base := by
  cases hs : it.stale committed with
  | true => exact (stale_iff it committed).mp hs
  | false => rw [refresh_pending it committed current hs] at h; cases h

private theorem mem_lb_rev (m : OMap Obj) (bound : Nat)
    (hK : ∀ k o, (k, o) ∈ m → k = revKey o.rev ∧ o.rev ≤ bound) (hb : bound + 1 < 2 ^ 64)
    (r : Nat) (hr : r + 1 < 2 ^ 64) (k : Key) (o : Obj) :
    (k, o) ∈ m.lowerBound (revKey (r + 1)) ↔ (k, o) ∈ m ∧ r < o.rev := by
  rw [mem_lowerBound]
  refine and_congr_right fun hm => ?_
  obtain ⟨hk, hle⟩ := hK k o hm
  simp only
  rw [hk, Ne, revKey_lt_iff _ _ (by omega) hr]
  omega

private theorem mem_map_lb (m : OMap Obj) (bound : Nat)
    (hK : ∀ k o, (k, o) ∈ m → k = revKey o.rev ∧ o.rev ≤ bound) (hb : bound + 1 < 2 ^ 64)
    (r : Nat) (hr : r + 1 < 2 ^ 64) (b : Bool) (c : Change) :
    c ∈ (m.lowerBound (revKey (r + 1))).map (fun (_, o) => ({ obj := o, rev := o.rev, deleted := b } : Change)) ↔
      c.deleted = b ∧ c.rev = c.obj.rev ∧ (revKey c.obj.rev, c.obj) ∈ m ∧ r < c.rev := by
  simp only [List.mem_map, Prod.exists, mem_lb_rev m bound hK hb r hr]
  constructor
  · rintro ⟨k, o, hm, rfl⟩
    exact ⟨rfl, rfl, (hK k o hm.1).1 ▸ hm.1, hm.2⟩
  · rintro ⟨h1, h2, h3, h4⟩
    exact ⟨_, c.obj, ⟨h3, h2 ▸ h4⟩, by cases c; simp_all⟩

theorem mem_updatesFrom {t : TableS} (h : TInv t) (r : Nat) (hr : r + 1 < 2 ^ 64) (c : Change) :
    c ∈ updatesFrom t r ↔ c.deleted = false ∧ c.rev = c.obj.rev ∧ (revKey c.obj.rev, c.obj) ∈ t.revIdx ∧ r < c.rev :=
  mem_map_lb _ t.rev h.rK h.bound r hr false c

theorem mem_deletesFrom {t : TableS} (h : TInv t) (d : Nat) (hd : d + 1 < 2 ^ 64) (c : Change) :
    c ∈ deletesFrom t d ↔ c.deleted = true ∧ c.rev = c.obj.rev ∧ (revKey c.obj.rev, c.obj) ∈ t.graveRev ∧ d < c.rev :=
  mem_map_lb _ t.rev h.grK h.bound d hd true c

private theorem asc_of_sorted (m : OMap Obj) (bound : Nat) (hS : Sorted m)
    (hK : ∀ k o, (k, o) ∈ m → k = revKey o.rev ∧ o.rev ≤ bound) (hb : bound + 1 < 2 ^ 64) (b : Bool) :
    AscRev (m.map fun (_, o) => ({ obj := o, rev := o.rev, deleted := b } : Change)) := by
  unfold AscRev
  rw [List.pairwise_map]
  refine List.Pairwise.imp_of_mem ?_ hS
  rintro ⟨k1, o1⟩ ⟨k2, o2⟩ h1 h2 hlt
  obtain ⟨e1, l1⟩ := hK _ _ h1
  obtain ⟨e2, l2⟩ := hK _ _ h2
  simp only at hlt ⊢
  rw [e1, e2, revKey_lt_iff _ _ (by omega) (by omega)] at hlt
  exact hlt

theorem updatesFrom_asc {t : TableS} (h : TInv t) (r : Nat) : AscRev (updatesFrom t r) :=
  asc_of_sorted _ t.rev (sorted_lowerBound h.rS _)
    (fun k o hm => h.rK k o ((mem_lowerBound _ _ _).mp hm).1) h.bound false

theorem deletesFrom_asc {t : TableS} (h : TInv t) (d : Nat) : AscRev (deletesFrom t d) :=
  asc_of_sorted _ t.rev (sorted_lowerBound h.grS _)
    (fun k o hm => h.grK k o ((mem_lowerBound _ _ _).mp hm).1) h.bound true

theorem mem_pendingOf {t : TableS} (h : TInv t) (r d : Nat) (hr : r + 1 < 2 ^ 64) (hd : d + 1 < 2 ^ 64) (c : Change) :
    c ∈ pendingOf t r d ↔ c.rev = c.obj.rev ∧
      ((c.deleted = false ∧ (revKey c.obj.rev, c.obj) ∈ t.revIdx ∧ r < c.rev) ∨
       (c.deleted = true ∧ (revKey c.obj.rev, c.obj) ∈ t.graveRev ∧ d < c.rev)) := by
  unfold pendingOf
  rw [mem_mergeChanges, mem_updatesFrom h r hr, mem_deletesFrom h d hd]
  constructor
  · rintro (⟨a, b, c, d⟩ | ⟨a, b, c, d⟩)
    · exact ⟨b, Or.inr ⟨a, c, d⟩⟩
    · exact ⟨b, Or.inl ⟨a, c, d⟩⟩
  · rintro ⟨b, (⟨a, c, d⟩ | ⟨a, c, d⟩)⟩
    · exact Or.inr ⟨a, b, c, d⟩
    · exact Or.inl ⟨a, b, c, d⟩

theorem update_mem_pendingOf {t : TableS} (h : TInv t) {r d : Nat} (hr : r + 1 < 2 ^ 64) (hd : d + 1 < 2 ^ 64)
    {k : Key} {o : Obj} (ho : (k, o) ∈ t.primary) (hlt : r < o.rev) :
    ({ obj := o, rev := o.rev, deleted := false } : Change) ∈ pendingOf t r d :=
  (mem_pendingOf h r d hr hd _).mpr ⟨rfl, Or.inl ⟨rfl, (h.pr o).mp (h.pK _ _ ho ▸ ho), hlt⟩⟩

theorem delete_mem_pendingOf {t : TableS} (h : TInv t) {r d : Nat} (hr : r + 1 < 2 ^ 64) (hd : d + 1 < 2 ^ 64)
    {k : Key} {g : Obj} (hg : (k, g) ∈ t.grave) (hlt : d < g.rev) :
    ({ obj := g, rev := g.rev, deleted := true } : Change) ∈ pendingOf t r d :=
  (mem_pendingOf h r d hr hd _).mpr ⟨rfl, Or.inr ⟨rfl, (h.gg g).mp (h.gK _ _ hg ▸ hg), hlt⟩⟩

theorem passed_of_pendingOf_nil {t : TableS} (h : TInv t) {r d : Nat} (hr : r + 1 < 2 ^ 64) (hd : d + 1 < 2 ^ 64)
    (hp : pendingOf t r d = []) :
    (∀ k o, (k, o) ∈ t.primary → o.rev ≤ r) ∧ (∀ k g, (k, g) ∈ t.grave → g.rev ≤ d) := by
  refine ⟨fun k o ho => Nat.le_of_not_lt fun hlt => ?_, fun k g hg => Nat.le_of_not_lt fun hlt => ?_⟩
  · have := update_mem_pendingOf h hr hd ho hlt
    rw [hp] at this; cases this
  · have := delete_mem_pendingOf h hr hd hg hlt
    rw [hp] at this; cases this

theorem pendingOf_asc {t : TableS} (h : TInv t) (r d : Nat) : AscRev (pendingOf t r d) := by
  refine mergeChanges_asc _ _ (deletesFrom_asc h d) (updatesFrom_asc h r) ?_
  intro a ha b hb e
  unfold deletesFrom at ha
  unfold updatesFrom at hb
  simp only [List.mem_map, Prod.exists] at ha hb
  obtain ⟨k1, o1, m1, e1⟩ := ha
  obtain ⟨k2, o2, m2, e2⟩ := hb
  have m1' := ((mem_lowerBound _ _ _).mp m1).1
  have m2' := ((mem_lowerBound _ _ _).mp m2).1
  subst e1; subst e2
  simp only at e
  have a1 := (h.grK _ _ m1').1
  have a2 := (h.rK _ _ m2').1
  rw [e] at a1
  rw [a1] at m1'; rw [a2] at m2'
  exact h.rdisj _ _ _ m1' m2'

theorem AscRev.nodup {l : List Change} (h : AscRev l) : l.Nodup := by
  refine List.Pairwise.imp ?_ h
  intro a b hab e; subst e; omega

theorem AscRev.ext {l₁ l₂ : List Change} (h1 : AscRev l₁) (h2 : AscRev l₂) (h : ∀ c, c ∈ l₁ ↔ c ∈ l₂) : l₁ = l₂ := by
  refine List.Perm.eq_of_pairwise ?_ h1 h2 ((List.perm_ext_iff_of_nodup h1.nodup h2.nodup).mpr h)
  intro a b _ _ hab hba; omega

/-- what a consumer builds from the delivered changes -/
abbrev View := Key → Option Obj

def applyChange (M : View) (c : Change) : View :=
  fun id => if id = c.obj.id then (if c.deleted then none else some c.obj) else M id

def replay (M : View) (cs : List Change) : View := cs.foldl applyChange M

theorem replay_append (M : View) (a b : List Change) : replay M (a ++ b) = replay (replay M a) b := by
  simp [replay, List.foldl_append]

/-- the cursors after a change has been consumed (`it.revision = rev` / `it.deleteRevision = rev`) -/
def advR (r : Nat) (c : Change) : Nat := if c.deleted then r else c.rev
def advD (d : Nat) (c : Change) : Nat := if c.deleted then c.rev else d

/-- the cursor that decides about changes of kind `b`: `d` for deletions, `r` for updates -/
def cursorOf (r d : Nat) (b : Bool) : Nat := if b then d else r

theorem cursorOf_adv (r d : Nat) (c : Change) (b : Bool) :
    cursorOf (advR r c) (advD d c) b = if b = c.deleted then c.rev else cursorOf r d b := by
  unfold cursorOf advR advD
  cases b <;> cases c.deleted <;> rfl

/-- The consumer's view `M` with cursors `(r, d)` is in step with table `t`: it holds every live object up to
    revision `r` as the table does, and a key of the view that is not live in `t` is still in the graveyard of `t`
    above `d` (the deletion is still to be delivered: C08's retention, seen from the consumer). -/
structure Synced (M : View) (r d : Nat) (t : TableS) : Prop where
  upto : ∀ o, (o.id, o) ∈ t.primary → o.rev ≤ r → M o.id = some o
  stale : ∀ id, M id ≠ none → (∃ o, (id, o) ∈ t.primary) ∨ (∃ g, (id, g) ∈ t.grave ∧ d < g.rev)

theorem Synced.step {t : TableS} (h : TInv t) {M : View} {r d : Nat} (hs : Synced M r d t)
    (hr : r + 1 < 2 ^ 64) (hd : d + 1 < 2 ^ 64) (c : Change) (hc : c ∈ pendingOf t r d)
    (hmin : ∀ c' ∈ pendingOf t r d, c.rev ≤ c'.rev) :
    Synced (applyChange M c) (advR r c) (advD d c) t := by
  obtain ⟨hcr, hcase⟩ := (mem_pendingOf h r d hr hd c).mp hc
  rcases hcase with ⟨hdel, hcm, hlt⟩ | ⟨hdel, hcm, hlt⟩
  · have hcp : (c.obj.id, c.obj) ∈ t.primary := (h.pr c.obj).mpr hcm
    simp only [advR, advD, hdel, Bool.false_eq_true, if_false]
    constructor
    · intro o ho hle
      unfold applyChange
      by_cases hid : o.id = c.obj.id
      · rw [if_pos hid, hdel]
        rw [hid] at ho
        simp [h.pS.unique ho hcp]
      · rw [if_neg hid]
        by_cases hor : o.rev ≤ r
        · exact hs.upto o ho hor
        · -- above the cursor `r`, at or below the advanced one: `o` has the revision of the head, so it is the head's object
          exfalso
          have hom := (h.pr o).mp ho
          have := hmin _ (update_mem_pendingOf h hr hd ho (Nat.lt_of_not_le hor))
          simp only at this
          have e : o.rev = c.obj.rev := by omega
          rw [e] at hom
          exact hid (by rw [h.rS.unique hom hcm])
    · intro id hne
      unfold applyChange at hne
      by_cases hid : id = c.obj.id
      · exact Or.inl ⟨c.obj, hid ▸ hcp⟩
      · rw [if_neg hid] at hne
        exact hs.stale id hne
  · have hcg : (c.obj.id, c.obj) ∈ t.grave := (h.gg c.obj).mpr hcm
    simp only [advR, advD, hdel, if_true]
    constructor
    · intro o ho hle
      unfold applyChange
      have hid : o.id ≠ c.obj.id := fun e => h.disj _ _ _ hcg (e ▸ ho)
      rw [if_neg hid]
      exact hs.upto o ho hle
    · intro id hne
      unfold applyChange at hne
      by_cases hid : id = c.obj.id
      · rw [if_pos hid, hdel] at hne; simp at hne
      · rw [if_neg hid] at hne
        rcases hs.stale id hne with hl | ⟨g, hg, hgd⟩
        · exact Or.inl hl
        · refine Or.inr ⟨g, hg, ?_⟩
          have hgid := h.gK _ _ hg
          have hgm : (revKey g.rev, g) ∈ t.graveRev := (h.gg g).mp (hgid ▸ hg)
          have := hmin _ (delete_mem_pendingOf h hr hd hg hgd)
          simp only at this
          by_cases e : g.rev = c.obj.rev
          · -- a retained deletion at the revision of the head is the head
            exfalso
            rw [e] at hgm
            exact hid (by rw [hgid, h.grS.unique hgm hcm])
          · omega

theorem Synced.final {t : TableS} (h : TInv t) {M : View} {r d : Nat} (hs : Synced M r d t)
    (hr : ∀ k o, (k, o) ∈ t.primary → o.rev ≤ r) (hd : ∀ k g, (k, g) ∈ t.grave → g.rev ≤ d) :
    ∀ id, M id = t.primary.get id := by
  intro id
  cases hg : t.primary.get id with
  | some o =>
    have hm := (get_eq_some_iff h.pS _ _).mp hg
    have hid := h.pK _ _ hm
    rw [hid] at hm ⊢
    exact hs.upto o hm (hr _ _ hm)
  | none =>
    cases hM : M id with
    | none => rfl
    | some x =>
      exfalso
      rcases hs.stale id (by rw [hM]; simp) with ⟨o, ho⟩ | ⟨g, hg', hlt⟩
      · exact (get_eq_none_iff h.pS _).mp hg o ho
      · have := hd _ _ hg'; omega

theorem pendingOf_rev_le {t : TableS} (h : TInv t) (r d : Nat) (hr : r + 1 < 2 ^ 64) (hd : d + 1 < 2 ^ 64)
    (c : Change) (hc : c ∈ pendingOf t r d) : c.rev ≤ t.rev := by
  obtain ⟨hcr, hcase⟩ := (mem_pendingOf h r d hr hd c).mp hc
  rcases hcase with ⟨_, hcm, _⟩ | ⟨_, hcm, _⟩
  · have := (h.rK _ _ hcm).2; omega
  · have := (h.grK _ _ hcm).2; omega

theorem mem_pendingOf_kind {t : TableS} (h : TInv t) (r d : Nat) (hr : r + 1 < 2 ^ 64) (hd : d + 1 < 2 ^ 64) (c : Change) :
    c ∈ pendingOf t r d ↔ c.rev = c.obj.rev ∧
      (revKey c.obj.rev, c.obj) ∈ (if c.deleted then t.graveRev else t.revIdx) ∧ cursorOf r d c.deleted < c.rev := by
  rw [mem_pendingOf h r d hr hd]
  unfold cursorOf
  cases c.deleted <;> simp

/-- a refresh on the same snapshot loses nothing and delivers nothing twice -/
theorem pendingOf_tail {t : TableS} (h : TInv t) (r d : Nat) (hr : r + 1 < 2 ^ 64) (hd : d + 1 < 2 ^ 64)
    (c : Change) (rest : List Change) (hp : pendingOf t r d = c :: rest) :
    pendingOf t (advR r c) (advD d c) = rest := by
  have hasc := pendingOf_asc h r d
  rw [hp] at hasc
  obtain ⟨hhead, hrest⟩ := List.pairwise_cons.mp hasc
  have hc : c ∈ pendingOf t r d := by rw [hp]; exact List.mem_cons_self ..
  have hcle := pendingOf_rev_le h r d hr hd c hc
  have hb := h.bound
  obtain ⟨_, _, hlt⟩ := (mem_pendingOf_kind h r d hr hd c).mp hc
  have hr' : advR r c + 1 < 2 ^ 64 := by unfold advR; split <;> omega
  have hd' : advD d c + 1 < 2 ^ 64 := by unfold advD; split <;> omega
  refine AscRev.ext (pendingOf_asc h _ _) hrest fun c' => ?_
  -- the tail is what is pending strictly above the head
  have htail : c' ∈ rest ↔ c' ∈ pendingOf t r d ∧ c.rev < c'.rev := by
    rw [hp, List.mem_cons]
    exact ⟨fun hm => ⟨Or.inr hm, hhead c' hm⟩, fun ⟨hm, hl⟩ => hm.resolve_left fun e => Nat.lt_irrefl _ (e ▸ hl)⟩
  rw [htail, mem_pendingOf_kind h _ _ hr' hd', mem_pendingOf_kind h r d hr hd, cursorOf_adv, and_assoc, and_assoc]
  refine and_congr_right fun hcr => and_congr_right fun hm => ?_
  split
  · -- the kind of the head: its cursor has moved up to the head
    next e => rw [e]; exact ⟨fun hl => ⟨Nat.lt_trans hlt hl, hl⟩, And.right⟩
  · -- the other kind: its cursor has not moved, and the change lies above the head because it is not the head
    next hne =>
    refine ⟨fun hl => ⟨hl, ?_⟩, And.left⟩
    have hm' : c' ∈ c :: rest := hp ▸ (mem_pendingOf_kind h r d hr hd c').mpr ⟨hcr, hm, hl⟩
    exact (List.mem_cons.mp hm').elim (fun e => absurd (e ▸ rfl) hne) (hhead c')

/-- the cursors after a list of changes has been consumed -/
def cursors (r d : Nat) (cs : List Change) : Nat × Nat :=
  cs.foldl (fun p c => (advR p.1 c, advD p.2 c)) (r, d)

theorem cursors_nil (r d : Nat) : cursors r d [] = (r, d) := rfl

theorem cursors_cons (r d : Nat) (c : Change) (cs : List Change) :
    cursors r d (c :: cs) = cursors (advR r c) (advD d c) cs := rfl

theorem pendingOf_cursors {t : TableS} (h : TInv t) (pre post : List Change) :
    ∀ {r d : Nat}, r + 1 < 2 ^ 64 → d + 1 < 2 ^ 64 → pendingOf t r d = pre ++ post →
      pendingOf t (cursors r d pre).1 (cursors r d pre).2 = post ∧
      (cursors r d pre).1 + 1 < 2 ^ 64 ∧ (cursors r d pre).2 + 1 < 2 ^ 64 := by
  induction pre with
  | nil => intro r d hr hd hp; exact ⟨hp, hr, hd⟩
  | cons c pre ih =>
    intro r d hr hd hp
    have hcle := pendingOf_rev_le h r d hr hd c (by rw [hp]; exact List.mem_cons_self ..)
    have hb := h.bound
    rw [cursors_cons]
    refine ih ?_ ?_ (pendingOf_tail h r d hr hd c (pre ++ post) hp)
    · unfold advR; split <;> omega
    · unfold advD; split <;> omega

theorem Synced.consume_prefix {t : TableS} (h : TInv t) (pre post : List Change) :
    ∀ {M : View} {r d : Nat}, Synced M r d t → r + 1 < 2 ^ 64 → d + 1 < 2 ^ 64 →
      pendingOf t r d = pre ++ post →
      Synced (replay M pre) (cursors r d pre).1 (cursors r d pre).2 t ∧
      pendingOf t (cursors r d pre).1 (cursors r d pre).2 = post ∧
      (cursors r d pre).1 + 1 < 2 ^ 64 ∧ (cursors r d pre).2 + 1 < 2 ^ 64 := by
  intro M r d hs hr hd hp
  refine ⟨?_, pendingOf_cursors h pre post hr hd hp⟩
  induction pre generalizing M r d with
  | nil => exact hs
  | cons c pre ih =>
    have hasc := pendingOf_asc h r d
    rw [hp] at hasc
    have hmin : ∀ c' ∈ pendingOf t r d, c.rev ≤ c'.rev := by
      intro c' hc'
      rw [hp] at hc'
      rcases List.mem_cons.mp hc' with e | hm
      · rw [e]; exact Nat.le_refl _
      · exact Nat.le_of_lt ((List.pairwise_cons.mp hasc).1 c' hm)
    obtain ⟨ht, hr', hd'⟩ := pendingOf_cursors h [c] (pre ++ post) hr hd hp
    exact ih (hs.step h hr hd c (by rw [hp]; exact List.mem_cons_self ..) hmin) hr' hd' ht

theorem Synced.replay_all {t : TableS} (h : TInv t) {M : View} {r d : Nat} (hs : Synced M r d t)
    (hr : r + 1 < 2 ^ 64) (hd : d + 1 < 2 ^ 64) :
    ∀ id, replay M (pendingOf t r d) id = t.primary.get id := by
  obtain ⟨hs', hp', hr', hd'⟩ := hs.consume_prefix h (pendingOf t r d) [] hr hd (by simp)
  obtain ⟨p1, p2⟩ := passed_of_pendingOf_nil h hr' hd' hp'
  exact hs'.final h p1 p2

theorem cursors_le (B : Nat) (cs : List Change) : ∀ (r d : Nat), r ≤ B → d ≤ B → (∀ c ∈ cs, c.rev ≤ B) →
    (cursors r d cs).1 ≤ B ∧ (cursors r d cs).2 ≤ B := by
  induction cs with
  | nil => intro r d hr hd _; exact ⟨hr, hd⟩
  | cons c cs ih =>
    intro r d hr hd hall
    rw [cursors_cons]
    have hc := hall c (List.mem_cons_self ..)
    refine ih _ _ ?_ ?_ (fun x hx => hall x (List.mem_cons_of_mem _ hx))
    · unfold advR; split <;> omega
    · unfold advD; split <;> omega

theorem cursors_snd_ge (cs : List Change) : ∀ (r d : Nat), AscRev cs → (∀ c ∈ cs, c.deleted = true → d ≤ c.rev) →
    d ≤ (cursors r d cs).2 := by
  induction cs with
  | nil => intro r d _ _; exact Nat.le_refl _
  | cons c cs ih =>
    intro r d hasc hall
    rw [cursors_cons]
    have hasc' := List.pairwise_cons.mp hasc
    by_cases hc : c.deleted = true
    · have e : advD d c = c.rev := by simp [advD, hc]
      rw [e]
      have := ih (advR r c) c.rev hasc'.2 (fun x hx _ => Nat.le_of_lt (hasc'.1 x hx))
      have := hall c (List.mem_cons_self ..) hc
      omega
    · have e : advD d c = d := by simp [advD, hc]
      rw [e]
      exact ih _ _ hasc'.2 (fun x hx => hall x (List.mem_cons_of_mem _ hx))

theorem cursors_prefix {t : TableS} (hT : TInv t) {r d : Nat} (hr : r ≤ t.rev) (hd : d ≤ t.rev)
    {taken rest : List Change} (hpre : pendingOf t r d = taken ++ rest) :
    (cursors r d taken).1 ≤ t.rev ∧ (cursors r d taken).2 ≤ t.rev ∧ d ≤ (cursors r d taken).2 := by
  have hb := hT.bound
  have htaken : ∀ c ∈ taken, c ∈ pendingOf t r d := fun c hc => hpre ▸ List.mem_append_left _ hc
  have hasc := pendingOf_asc hT r d
  rw [hpre] at hasc
  obtain ⟨h1, h2⟩ := cursors_le t.rev taken r d hr hd
    fun c hc => pendingOf_rev_le hT _ _ (by omega) (by omega) c (htaken c hc)
  refine ⟨h1, h2, cursors_snd_ge taken r d (List.pairwise_append.mp hasc).1 fun c hc hdel => ?_⟩
  rcases ((mem_pendingOf hT _ _ (by omega) (by omega) c).mp (htaken c hc)).2 with ⟨hf, _⟩ | ⟨_, _, hlt⟩
  · rw [hf] at hdel; cases hdel
  · exact Nat.le_of_lt hlt

/-! ### the view stays in step while the table moves on -/

theorem Synced.empty {t : TableS} (h : TInv t) (d : Nat) : Synced (fun _ => none) 0 d t := by
  constructor
  · intro o ho hle
    have := h.rpos _ _ ((h.pr o).mp ho)
    omega
  · intro k hk; exact absurd rfl hk

theorem Synced.congr {t t' : TableS} {M : View} {r d : Nat} (hs : Synced M r d t)
    (hp : t'.primary = t.primary) (hg : t'.grave = t.grave) : Synced M r d t' := by
  cases hs
  constructor <;> simp only [hp, hg] <;> assumption

theorem Synced.modify {t : TableS} (h : TInv t) {M : View} {r d : Nat} (hs : Synced M r d t)
    (hr : r ≤ t.rev) (g : Nat) (o : Obj) (m : Bool) : Synced M r d (modify t g o m).1 := by
  rcases modify_mem h g o m with e | w
  · rw [e]; exact hs
  · constructor
    · intro x hx hle
      rcases (w.primary _ _).mp hx with ⟨_, e⟩ | ⟨_, hx⟩
      · rw [e, modNew_rev] at hle; omega
      · exact hs.upto x hx hle
    · intro id hne
      by_cases hid : id = o.id
      · exact Or.inl ⟨modNew t o m, (w.primary _ _).mpr (Or.inl ⟨hid, rfl⟩)⟩
      · rcases hs.stale id hne with ⟨x, hx⟩ | ⟨x, hx, hlt⟩
        · exact Or.inl ⟨x, (w.primary _ _).mpr (Or.inr ⟨hid, hx⟩)⟩
        · exact Or.inr ⟨x, (w.grave _ _).mpr ⟨hx, fun _ => hid⟩, hlt⟩

theorem Synced.delete {t : TableS} (h : TInv t) {M : View} {r d : Nat} (hs : Synced M r d t)
    (hd : d ≤ t.rev) (htr : t.trackers ≠ []) (g : Nat) (id : Key) : Synced M r d (delete t g id).1 := by
  rcases delete_mem h g id with e | ⟨old, hold, w⟩
  · rw [e]; exact hs
  · have hne : t.trackers.isEmpty = false := by cases hh : t.trackers <;> simp_all
    constructor
    · intro x hx hle
      exact hs.upto x ((w.primary _ _).mp hx).2 hle
    · intro k hk
      by_cases hid : k = id
      · refine Or.inr ⟨_, (w.grave _ _).mpr (Or.inl ⟨hne, hid, rfl⟩), ?_⟩
        simp only; omega
      · rcases hs.stale k hk with ⟨x, hx⟩ | ⟨x, hx, hlt⟩
        · exact Or.inl ⟨x, (w.primary _ _).mpr ⟨hid, hx⟩⟩
        · exact Or.inr ⟨x, (w.grave _ _).mpr (Or.inr ⟨fun _ => hid, hx⟩), hlt⟩

theorem Synced.gcTable {t : TableS} (h : TInv t) {M : View} {r d : Nat} (hs : Synced M r d t)
    (ks : List Key) (hks : ∀ k ∈ ks, ∃ ρ, k = revKey ρ ∧ ρ ≤ d) :
    Synced M r d (gcTable t ks) := by
  obtain ⟨gr, g, e⟩ := gcTable_frame t ks
  have f2 : (Chg.gcTable t ks).primary = t.primary := congrArg (·.primary) e
  obtain ⟨_, m2⟩ := gcTable_mem h ks
  constructor
  · intro x hx hle
    rw [f2] at hx
    exact hs.upto x hx hle
  · intro k hk
    rcases hs.stale k hk with ⟨x, hx⟩ | ⟨x, hx, hlt⟩
    · exact Or.inl ⟨x, by rw [f2]; exact hx⟩
    · refine Or.inr ⟨x, (m2 _ _).mpr ⟨hx, fun hin => ?_⟩, hlt⟩
      obtain ⟨ρ, e, hle⟩ := hks _ hin
      exact h.revKey_ne_of_lt hx (Nat.lt_of_le_of_lt hle hlt) e

end Sdb.Chg
