import SdbModel.Lemmas.ArtWatch

/-! Sequences of calls on an open transaction of Model.Art.  A call that changes the tree is one write at
    the root (`WR`, `Wrote`; `insert_wrote`, `delete_wrote`), so what a write and a bump of the id keep,
    every call and every run of calls keeps (`step_cases`, `step_of_wrote`, `run_of_wrote`).  `dirty` as
    "some call changed the tree", the stamp invariant of committed trees and open transactions (`TreeWF`,
    `TxnWF`), what Commit returns (`CommitFacts`) and `Txn.notify` closes, `Later` (a later state of the same
    open transaction), the trees reachable by sessions of transactions (`Reach`, `Sess`). -/
namespace Sdb.ArtW
open Sdb.Art

/-- the calls a client can make on an open `part.Txn` (reads that freeze the
    tree - Prefix, LowerBound, Iterator, All - are `bump`) -/
inductive Op where
  | insert (key : List Nat) (val : Nat) (mod : Option (Nat → Nat → Nat))
  | delete (key : List Nat)
  | bump

def step (P : ArtParams) (x : Txn) : Op → Txn
  | .insert k v m => (x.insert P k v m).1
  | .delete k => (x.delete P k).1
  | .bump => x.bump

def run (P : ArtParams) (x : Txn) (ops : List Op) : Txn := ops.foldl (step P) x

@[simp] theorem run_nil (P : ArtParams) (x : Txn) : run P x [] = x := rfl
@[simp] theorem run_cons (P : ArtParams) (x : Txn) (o : Op) (ops : List Op) :
    run P x (o :: ops) = run P (step P x o) ops := rfl
theorem run_append (P : ArtParams) (x : Txn) (a b : List Op) : run P x (a ++ b) = run P (run P x a) b := by
  simp [run, List.foldl_append]

/-- `x'` is `x` after a call on `k` that changed the tree -/
structure Wrote (x : Txn) (k : List Nat) (x' : Txn) (rw : Option Nat) : Prop where
  w : WR x.st.txnID x.st x.root k x'.st x'.root rw
  dirty : x'.dirty = true
  rootWatch : x'.rootWatch = x.rootWatch

/-- `rw` is the channel InsertWatch returns outside root-only mode -/
theorem insert_wrote (P : ArtParams) (x : Txn) (k : List Nat) (v : Nat) (m : Option (Nat → Nat → Nat)) :
    ∃ rw, Wrote x k (x.insert P k v m).1 (some rw) ∧ (x.st.rootOnly = false → (x.insert P k v m).2.2.2 = rw) := by
  unfold Txn.insert
  cases hr : x.root with
  | none =>
    exact ⟨_, ⟨by rw [hr]; exact WR.first (d := (newLeafD x.st k v).2) (Re.new _), rfl, rfl⟩, fun h => by simp [h]⟩
  | some r => exact ⟨_, ⟨by rw [hr]; exact WR.node (insNode_W P x.st r k k v m), rfl, rfl⟩, fun h => by simp [h]⟩

theorem insert_watch_rootOnly (P : ArtParams) (x : Txn) (k : List Nat) (v : Nat) (m : Option (Nat → Nat → Nat))
    (hro : x.st.rootOnly = true) : (x.insert P k v m).2.2.2 = x.rootWatch := by
  unfold Txn.insert
  split <;> simp [hro]

theorem delete_wrote (P : ArtParams) (x : Txn) (k : List Nat) :
    ((x.delete P k).1 = x ∧ (x.delete P k).2 = none) ∨
    ((x.delete P k).2 ≠ none ∧ Wrote x k (x.delete P k).1 none) := by
  unfold Txn.delete
  cases hr : x.root with
  | none => exact Or.inl ⟨rfl, rfl⟩
  | some r =>
    simp only
    have hw := delNode_W P x.st r k
    cases hd : delNode P x.st r k with
    | notFound => exact Or.inl ⟨rfl, rfl⟩
    | replaced st n old => rw [hd] at hw; exact Or.inr ⟨nofun, by rw [hr]; exact WR.node (hw st rfl), rfl, rfl⟩
    | removed st old => rw [hd] at hw; exact Or.inr ⟨nofun, by rw [hr]; exact WR.node (hw st rfl), rfl, rfl⟩

theorem insert_dirty (P : ArtParams) (x : Txn) (k : List Nat) (v : Nat) (m : Option (Nat → Nat → Nat)) :
    (x.insert P k v m).1.dirty = true :=
  (insert_wrote P x k v m).elim fun _ h => h.1.dirty

theorem delete_absent (P : ArtParams) (x : Txn) (k : List Nat) (h : (x.delete P k).2 = none) :
    (x.delete P k).1 = x :=
  (delete_wrote P x k).elim And.left fun h' => absurd h h'.1

theorem delete_dirty (P : ArtParams) (x : Txn) (k : List Nat) (h : (x.delete P k).2 ≠ none) :
    (x.delete P k).1.dirty = true :=
  (delete_wrote P x k).elim (fun h' => absurd h'.2 h) fun h' => h'.2.dirty

/-- a call leaves the transaction as it is (Delete of an absent key), bumps its id, or writes -/
theorem step_cases (P : ArtParams) (x : Txn) (o : Op) :
    step P x o = x ∨ step P x o = x.bump ∨ ∃ k rw, Wrote x k (step P x o) rw := by
  cases o with
  | insert k v m =>
    obtain ⟨rw, hw, _⟩ := insert_wrote P x k v m
    exact Or.inr (Or.inr ⟨k, some rw, hw⟩)
  | delete k => exact (delete_wrote P x k).imp And.left fun h => Or.inr ⟨k, none, h.2⟩
  | bump => exact Or.inr (Or.inl rfl)

theorem step_of_wrote {I : Txn → Prop} (hw : ∀ {x k x' rw}, I x → Wrote x k x' rw → I x') (hb : ∀ {x}, I x → I x.bump)
    (P : ArtParams) {x : Txn} (h : I x) (o : Op) : I (step P x o) := by
  rcases step_cases P x o with he | he | ⟨_, _, hk⟩
  · rw [he]; exact h
  · rw [he]; exact hb h
  · exact hw h hk

theorem run_of_wrote {I : Txn → Prop} (hw : ∀ {x k x' rw}, I x → Wrote x k x' rw → I x') (hb : ∀ {x}, I x → I x.bump)
    (P : ArtParams) {x : Txn} (h : I x) (ops : List Op) : I (run P x ops) := by
  induction ops generalizing x with
  | nil => exact h
  | cons o ops ih => exact ih (step_of_wrote hw hb P h o)


/-- does the call change the tree?  Insert/Modify always do; Delete only when the key is present -/
def changes (P : ArtParams) (x : Txn) : Op → Bool
  | .insert _ _ _ => true
  | .delete k => (x.delete P k).2.isSome
  | .bump => false

def anyChange (P : ArtParams) (x : Txn) : List Op → Bool
  | [] => false
  | o :: ops => changes P x o || anyChange P (step P x o) ops

theorem step_dirty (P : ArtParams) (x : Txn) (o : Op) : (step P x o).dirty = (x.dirty || changes P x o) := by
  cases o with
  | insert k v m => simp [step, changes, insert_dirty]
  | delete k =>
    simp only [step, changes]
    cases h : (x.delete P k).2 with
    | none => rw [delete_absent P x k h]; simp
    | some old => simp [delete_dirty P x k (by rw [h]; simp)]
  | bump => simp [step, changes, Txn.bump]

theorem run_dirty (P : ArtParams) (x : Txn) (ops : List Op) :
    (run P x ops).dirty = (x.dirty || anyChange P x ops) := by
  induction ops generalizing x with
  | nil => simp [anyChange]
  | cons o ops ih => rw [run_cons, ih, step_dirty, anyChange, Bool.or_assoc]

structure Unchanged (x x' : Txn) : Prop where
  root : x'.root = x.root
  rootWatch : x'.rootWatch = x.rootWatch
  pending : x'.st.pending = x.st.pending

theorem step_unchanged (P : ArtParams) (x : Txn) (o : Op) (h : changes P x o = false) : Unchanged x (step P x o) := by
  cases o with
  | insert k v m => simp [changes] at h
  | delete k =>
    simp only [changes] at h
    have : (x.delete P k).2 = none := by
      cases h' : (x.delete P k).2 with
      | none => rfl
      | some _ => rw [h'] at h; simp at h
    simp only [step]; rw [delete_absent P x k this]; exact ⟨rfl, rfl, rfl⟩
  | bump => exact ⟨rfl, rfl, rfl⟩

theorem run_unchanged (P : ArtParams) (x : Txn) (ops : List Op) (h : anyChange P x ops = false) :
    Unchanged x (run P x ops) := by
  induction ops generalizing x with
  | nil => exact ⟨rfl, rfl, rfl⟩
  | cons o ops ih =>
    simp only [anyChange, Bool.or_eq_false_iff] at h
    have hs := step_unchanged P x o h.1
    have hr := ih (step P x o) h.2
    rw [run_cons]
    exact ⟨hr.root.trans hs.root, hr.rootWatch.trans hs.rootWatch, hr.pending.trans hs.pending⟩

structure CommitFacts (x : Txn) (wd : World) : Prop where
  txn : (x.commit wd).1 = x.bump
  root : (x.commit wd).2.1.root = x.root
  rootWatch : (x.commit wd).2.1.rootWatch = (if x.dirty then x.st.nextW else x.rootWatch)
  rootOnly : (x.commit wd).2.1.rootOnly = x.st.rootOnly
  nextTxnID : (x.commit wd).2.1.nextTxnID = x.st.txnID + 1
  nextW : (x.commit wd).2.2.nextW = (if x.dirty then x.st.nextW + 1 else x.st.nextW)
  closed : (x.commit wd).2.2.closed = wd.closed

theorem commit_facts (x : Txn) (wd : World) : CommitFacts x wd := by
  constructor <;> unfold Txn.commit <;> cases x.dirty <;> simp [Txn.bump]

theorem commit_closed (x : Txn) (wd : World) : (x.commit wd).2.2.closed = wd.closed := (commit_facts x wd).closed

/-! ## the stamp invariant

`cloneNode` writes in place exactly the nodes stamped with the transaction's id.  The stamps of a
committed tree stay below the ids of all later transactions, so none of its nodes is ever taken
for a transaction's own. -/

def TreeWF (t : Tree) : Prop := ∀ r, t.root = some r → Stamps (· < t.nextTxnID) r
def TxnWF (x : Txn) : Prop := ∀ r, x.root = some r → Stamps (· ≤ x.st.txnID) r
/-- no node is owned by the transaction (all stamps, including the 0 of leaves,
    differ from its id): the state right after `Tree.Txn()`, and after every
    `bump` (Clone, Prefix, LowerBound, Iterator, All) -/
def TxnFresh (x : Txn) : Prop := ∀ r, x.root = some r → Stamps (· ≠ x.st.txnID) r

theorem TreeWF.txn {t : Tree} (h : TreeWF t) (wd : World) : TxnWF (t.txn wd) :=
  fun r hr => Stamps.mono (fun _ hx => Nat.le_of_lt hx) r (h r hr)

theorem TreeWF.txn_fresh {t : Tree} (h : TreeWF t) (wd : World) : TxnFresh (t.txn wd) :=
  fun r hr => Stamps.mono (fun _ hx => Nat.ne_of_lt hx) r (h r hr)

theorem TxnWF.wrote {x x' : Txn} {k : List Nat} {rw : Option Nat} (h : TxnWF x) (hw : Wrote x k x' rw) : TxnWF x' := by
  intro r hr
  rw [hw.w.le.id]
  exact (marks_stamps r).1 (hw.w.marks (q := fun t _ => t ≤ x.st.txnID) rfl (fun _ _ => Nat.le_refl _)
    (fun _ => Nat.zero_le _) (fun r hr => (marks_stamps r).2 (h r hr)) r hr)

theorem TxnWF.bump {x : Txn} (h : TxnWF x) : TxnWF x.bump :=
  fun r hr => Stamps.mono (fun _ hy => Nat.le_succ_of_le hy) r (h r hr)

theorem TxnWF.bump_fresh {x : Txn} (h : TxnWF x) : TxnFresh x.bump :=
  fun r hr => Stamps.mono (fun y (hy : y ≤ x.st.txnID) => by simp only [Txn.bump]; omega) r (h r hr)

theorem TxnWF.step {x : Txn} (P : ArtParams) (h : TxnWF x) (o : Op) : TxnWF (step P x o) :=
  step_of_wrote TxnWF.wrote TxnWF.bump P h o

theorem TxnWF.insert {x : Txn} (P : ArtParams) (h : TxnWF x) (k : List Nat) (v : Nat) (m : Option (Nat → Nat → Nat)) :
    TxnWF (x.insert P k v m).1 :=
  h.step P (.insert k v m)

theorem TxnWF.delete {x : Txn} (P : ArtParams) (h : TxnWF x) (k : List Nat) : TxnWF (x.delete P k).1 :=
  h.step P (.delete k)

theorem TxnWF.run {x : Txn} (P : ArtParams) (h : TxnWF x) (ops : List Op) : TxnWF (run P x ops) :=
  run_of_wrote TxnWF.wrote TxnWF.bump P h ops

theorem TxnWF.commit {x : Txn} (h : TxnWF x) (wd : World) : TreeWF (x.commit wd).2.1 := by
  intro r hr
  exact Stamps.mono (fun y (hy : y ≤ x.st.txnID) => by rw [(commit_facts x wd).nextTxnID]; omega) r (h r hr)

theorem TxnWF.clone {x : Txn} (h : TxnWF x) : TreeWF x.clone.2 := by
  intro r hr
  exact Stamps.mono (fun y (hy : y ≤ x.st.txnID) => by simp only [Txn.clone, Txn.bump]; omega) r (h r hr)

/-- the trees a client can ever hold: a new tree, or the result of Commit /
    Clone of a transaction opened on such a tree after any sequence of calls -/
inductive Reach (P : ArtParams) : Tree → Prop where
  | new (wd : World) (ro : Bool) : Reach P (newTree wd ro).2
  | commit (t : Tree) (wd wd' : World) (ops : List Op) : Reach P t → Reach P ((run P (t.txn wd) ops).commit wd').2.1
  | clone (t : Tree) (wd : World) (ops : List Op) : Reach P t → Reach P (run P (t.txn wd) ops).clone.2

theorem Reach.wf {P : ArtParams} {t : Tree} (h : Reach P t) : TreeWF t := by
  induction h with
  | new wd ro => intro r hr; simp [newTree] at hr
  | commit t wd wd' ops _ ih => exact ((ih.txn wd).run P ops).commit wd'
  | clone t wd ops _ ih => exact ((ih.txn wd).run P ops).clone


theorem mem_foldl_add (cl init : List Nat) (c : Nat) :
    c ∈ cl.foldl (fun acc w => if w ∈ acc then acc else w :: acc) init ↔ c ∈ init ∨ c ∈ cl := by
  induction cl generalizing init with
  | nil => simp
  | cons a as ih =>
    simp only [List.foldl_cons, List.mem_cons]
    rw [ih]
    by_cases ha : a ∈ init
    · simp only [ha, if_true]
      constructor
      · rintro (h | h)
        · exact Or.inl h
        · exact Or.inr (Or.inr h)
      · rintro (h | h | h)
        · exact Or.inl h
        · exact Or.inl (h ▸ ha)
        · exact Or.inr h
    · simp only [ha, if_false, List.mem_cons]
      constructor
      · rintro ((h | h) | h)
        · exact Or.inr (Or.inl h)
        · exact Or.inl h
        · exact Or.inr (Or.inr h)
      · rintro (h | h | h)
        · exact Or.inl (Or.inr h)
        · exact Or.inl (Or.inl h)
        · exact Or.inr h

theorem notify_closed (x : Txn) (wd : World) (c : Nat) :
    c ∈ (x.notify wd).2.closed ↔
      c ∈ wd.closed ∨ c ∈ x.st.pending ∨ (x.dirty = true ∧ x.rootWatch ≠ 0 ∧ c = x.rootWatch) := by
  unfold Txn.notify
  simp only [mem_foldl_add, List.mem_append]
  by_cases hd : x.dirty = true ∧ x.rootWatch ≠ 0
  · simp only [hd, and_self, if_true, List.mem_singleton, ne_eq, not_false_eq_true, true_and]
  · simp only [hd, if_false, List.not_mem_nil, or_false]
    constructor
    · rintro (h | h)
      · exact Or.inl h
      · exact Or.inr (Or.inl h)
    · rintro (h | h | ⟨h1, h2, _⟩)
      · exact Or.inl h
      · exact Or.inr h
      · exact absurd ⟨h1, h2⟩ hd

/-- `x'` is a later state of the open transaction `x` (before Notify): what `x` has recorded, and its
    root watch once it is dirty, is still closed when `x'` is notified (`closed_of_later`).  On `.st` this is
    `StLe` without the id, which `bump`, Commit and Clone change. -/
structure Later (x x' : Txn) : Prop where
  sub : ∀ c ∈ x.st.pending, c ∈ x'.st.pending
  nw : x.st.nextW ≤ x'.st.nextW
  ro : x'.st.rootOnly = x.st.rootOnly
  dirty : x.dirty = true → x'.dirty = true
  rw : x'.rootWatch = x.rootWatch

theorem Later.refl (x : Txn) : Later x x := ⟨fun _ h => h, Nat.le_refl _, rfl, id, rfl⟩
theorem Later.trans {a b c : Txn} (h1 : Later a b) (h2 : Later b c) : Later a c :=
  ⟨fun c hc => h2.sub c (h1.sub c hc), Nat.le_trans h1.nw h2.nw, h2.ro.trans h1.ro, fun h => h2.dirty (h1.dirty h), h2.rw.trans h1.rw⟩

theorem Wrote.later {x x' : Txn} {k : List Nat} {rw : Option Nat} (h : Wrote x k x' rw) : Later x x' :=
  ⟨h.w.le.sub, h.w.le.nw, h.w.le.ro, fun _ => h.dirty, h.rootWatch⟩

theorem later_bump (x : Txn) : Later x x.bump :=
  ⟨fun _ h => h, Nat.le_refl _, rfl, id, rfl⟩

theorem later_step (P : ArtParams) (x : Txn) (o : Op) : Later x (step P x o) :=
  step_of_wrote (I := Later x) (fun h hw => h.trans hw.later) (fun h => h.trans (later_bump _)) P (Later.refl x) o

theorem later_run (P : ArtParams) (x : Txn) (ops : List Op) : Later x (run P x ops) :=
  run_of_wrote (I := Later x) (fun h hw => h.trans hw.later) (fun h => h.trans (later_bump _)) P (Later.refl x) ops

theorem later_commit (x : Txn) (wd : World) : Later x (x.commit wd).1 := later_bump x
theorem later_clone (x : Txn) : Later x x.clone.1 := later_bump x

theorem closed_of_later {x x' : Txn} (h : Later x x') (wd : World) (c : Nat) (hc0 : c ≠ 0) (hd : x.dirty = true)
    (hc : c = x.rootWatch ∨ c ∈ x.st.pending) : c ∈ (x'.notify wd).2.closed := by
  rw [notify_closed]
  rcases hc with hc | hc
  · right; right
    exact ⟨h.dirty hd, by rw [h.rw, ← hc]; exact hc0, by rw [h.rw]; exact hc⟩
  · right; left; exact h.sub _ hc


/-- events of a session on one open transaction -/
inductive Ev where
  | op (o : Op)
  | commit
  | notify

structure Sess where
  wd : World
  x : Txn

def Sess.step (P : ArtParams) (s : Sess) : Ev → Sess
  | .op o => { s with x := ArtW.step P s.x o }
  | .commit => { wd := (s.x.commit s.wd).2.2, x := (s.x.commit s.wd).1 }
  | .notify => { wd := (s.x.notify s.wd).2, x := (s.x.notify s.wd).1 }

def Sess.run (P : ArtParams) (s : Sess) (evs : List Ev) : Sess := evs.foldl (Sess.step P) s


end Sdb.ArtW
