import SdbModel.Lemmas.ReconcilerProgressLW

/-!
  The run invariant `PInv` of C16 (`WInv` of C14, the item / progress invariant `XL`, and what the
  reported low-watermark is) holds initially and is preserved by every step of the model.
-/
namespace Sdb.Rec

structure PInv (r : R) : Prop where
  w : WInv r
  x : XL r.v []
  lw : r.progressLW = r.lowWatermark
  itle : ItLe r

theorem PInv.init (c : Cfg) : PInv { cfg := c } where
  w := WInv.init c
  x := { items := fun it hit => (by cases hit)
         tab := { opos := fun o ho => (by cases ho), dpos := fun d hd => (by cases hd), disj := fun o ho => (by cases ho),
                  top := fun h => absurd h (Nat.lt_irrefl 0) }
         prog := { le := Nat.le_refl _, obj := fun o ho => (by cases ho), del := fun d hd => (by cases hd) }
         res := XRes.nil }
  lw := rfl
  itle := ⟨Nat.le_refl _, Nat.le_refl _⟩

theorem PInv.userPut {r : R} (h : PInv r) (id data : Nat) : PInv (r.userPut id data) :=
  ⟨h.w.userPut id data, h.x.userPut h.w.rinv.inv.tinv id data, h.lw, h.itle⟩

theorem PInv.of_frameW {r r' : R} (h : PInv r) (f : FrameW r r') (hw : WInv r') (hx : XL r'.v []) : PInv r' :=
  ⟨hw, hx, by rw [f.progressLW, lowWatermark_eq, f.items]; exact h.lw, h.itle.congr f.itRev f.itDelRev f.progressRev⟩

theorem PInv.delObj {r : R} (h : PInv r) (id : Nat) : PInv (r.delObj id) :=
  h.of_frameW (frameW_delObj r id) (h.w.delObj id) (h.x.delObj h.w.rinv.inv.tinv id)

theorem PInv.touch {r : R} (h : PInv r) (id : Nat) (hne : ∀ o, r.get id = some o → o.kind ≠ .error) : PInv (r.touch id) :=
  h.of_frameW (frameW_touch r id) (h.w.touch id hne) (h.x.touch h.w.rinv.inv.tinv id)

theorem PInv.setFailing {r : R} (h : PInv r) (l : List Nat) : PInv { r with failing := l } :=
  ⟨h.w.setFailing l, h.x, h.lw, h.itle⟩

theorem PInv.setNow {r : R} (h : PInv r) (t : Nat) (ht : r.now ≤ t) : PInv { r with now := t } :=
  ⟨h.w.setNow t ht, h.x.setNow t ht, h.lw, h.itle⟩

theorem PInv.fireTimer {r : R} (h : PInv r) : PInv r.fireTimer := by
  have hw := h.w.fireTimer
  obtain ⟨t, e⟩ := fireTimer_eq r
  rw [e] at hw ⊢
  exact ⟨hw, h.x, h.lw, h.itle⟩

theorem PInv.round {r : R} (h : PInv r) : PInv r.round := by
  obtain ⟨d, e⟩ := h.x.round h.w.rinv h.itle
  exact ⟨h.w.round, d, round_lw h.w.rinv h.x h.itle, e⟩

theorem PInv.quiesce {r : R} (h : PInv r) (fuel : Nat) : PInv (r.quiesce fuel) :=
  quiesce_ind (P := PInv) (fun _ => PInv.fireTimer) (fun _ => PInv.round) h fuel

theorem PInv.advance {r : R} (h : PInv r) (ms fuel : Nat) : PInv (r.advance ms fuel) :=
  advance_ind (P := PInv) (fun _ t ht h => h.setNow t ht) (fun _ fuel h => h.quiesce fuel) h ms fuel

end Sdb.Rec
