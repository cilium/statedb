import SdbModel.Model.Cow

/-!
  A heap model of copy-on-write with ownership stamps (part/txn.go `cloneNode`, lpm/trie.go `clone`).
  Addresses are naturals, 0 is nil; a cell has any number of children, so the radix-tree node kinds
  and the binary LPM node are both covered.

  Transactions started from the same tree take the same id, so "stamp = id" does not identify the
  owner.  `Inv` says instead that a cell which a transaction reaches and which carries its id is
  reachable from no published view and from no other transaction.  It is inductive because a
  transaction starts with a root below which every stamp is smaller than its id, reaches afterwards
  only that and what it allocated itself, and every publication raises its id above everything it
  reaches.

  The write step of `Step` is any heap change that satisfies `WriteOk`; `wr`, path copying by the `cloneNode`
  rule `put`, is one that can be run (`wr_ok`), and on its runs the converse is shown (`Breaks`).
-/
namespace Sdb.Cow

structure Cell where
  /-- `txnID` of the node: the id of the transaction that allocated it (0 for a `part` leaf) -/
  stamp : Nat
  /-- everything else in the node that is not a pointer (prefix, keys, leaf value, flags …) -/
  val : Nat
  kids : List Nat
  deriving Repr, DecidableEq

abbrev Heap := Nat → Option Cell

def Heap.set (h : Heap) (a : Nat) (c : Cell) : Heap := fun x => if x = a then some c else h x

@[simp] theorem Heap.set_same (h : Heap) (a : Nat) (c : Cell) : h.set a c a = some c := by
  simp [Heap.set]

theorem Heap.set_other (h : Heap) (a x : Nat) (c : Cell) (hx : x ≠ a) : h.set a c x = h x := by
  simp [Heap.set, hx]

inductive Reach (h : Heap) (r : Nat) : Nat → Prop
  | root : Reach h r r
  | step {a k : Nat} {c : Cell} : Reach h r a → h a = some c → k ∈ c.kids → Reach h r k

theorem Reach.of_kid {h : Heap} {r k a : Nat} {c : Cell} (hr : h r = some c) (hk : k ∈ c.kids)
    (h1 : Reach h k a) : Reach h r a := by
  induction h1 with
  | root => exact .step .root hr hk
  | step _ hc hk' ih => exact .step ih hc hk'

theorem Reach.trans {h : Heap} {r b a : Nat} (h1 : Reach h r b) (h2 : Reach h b a) : Reach h r a := by
  induction h2 with
  | root => exact h1
  | step _ hc hk ih => exact .step ih hc hk

theorem Reach.of_nil {h : Heap} {r a : Nat} (h0 : h r = none) (h1 : Reach h r a) : a = r := by
  induction h1 with
  | root => rfl
  | step _ hc _ ih => subst ih; rw [h0] at hc; cases hc

theorem Reach.frame {h h' : Heap} {r : Nat} (hfr : ∀ a, Reach h r a → h' a = h a) {a : Nat} :
    Reach h' r a ↔ Reach h r a := by
  constructor
  · intro h1
    induction h1 with
    | root => exact .root
    | step _ hc hk ih => exact .step ih (by rw [← hfr _ ih]; exact hc) hk
  · intro h1
    induction h1 with
    | root => exact .root
    | step h0 hc hk ih => exact .step ih (by rw [hfr _ h0]; exact hc) hk

/-- what a reader sees from an address: the tree of payloads, unfolded to some depth, without the stamps -/
inductive T where
  | nil
  | cut
  | node (val : Nat) (kids : List T)
  deriving Repr

mutual
/-- injective-enough serialisation, used only to decide disequalities of concrete trees -/
def T.flat : T → List Nat
  | .nil => [0]
  | .cut => [1]
  | .node v ks => 2 :: v :: T.flatL ks
def T.flatL : List T → List Nat
  | [] => [3]
  | t :: ts => t.flat ++ T.flatL ts
end

theorem T.ne_of_flat {a b : T} (h : a.flat ≠ b.flat) : a ≠ b := fun e => h (congrArg T.flat e)

def content (h : Heap) : Nat → Nat → T
  | 0, _ => .cut
  | n + 1, a =>
    match h a with
    | none => .nil
    | some c => .node c.val (c.kids.map (content h n))

theorem content_frame {h h' : Heap} (n : Nat) : ∀ {r : Nat}, (∀ a, Reach h r a → h' a = h a) →
    content h' n r = content h n r := by
  induction n with
  | zero => intro r _; rfl
  | succ n ih =>
    intro r hfr
    have hr : h' r = h r := hfr r .root
    simp only [content, hr]
    cases hc : h r with
    | none => rfl
    | some c =>
      simp only
      congr 1
      apply List.map_congr_left
      intro k hk
      exact ih (fun a ha => hfr a (Reach.of_kid hc hk ha))

/-- a view handed out to readers: `Tree{root, nextTxnID}` / `Trie{root, prevTxnID+1}` or the
    start node of an iterator, together with the id a transaction started from it takes -/
structure View where
  root : Nat
  id : Nat
  deriving Repr, DecidableEq

/-- a `part.Txn` / `lpm.Txn`: its current `txnID` and its current (unpublished) root -/
structure Txn where
  id : Nat
  root : Nat
  deriving Repr, DecidableEq

structure St where
  heap : Heap
  /-- allocation pointer: every address ≥ `nxt` is free -/
  nxt : Nat
  views : List View
  txns : Nat → Option Txn

def upd (m : Nat → Option Txn) (i : Nat) (v : Option Txn) : Nat → Option Txn :=
  fun j => if j = i then v else m j

@[simp] theorem upd_same (m : Nat → Option Txn) (i : Nat) (v : Option Txn) : upd m i v i = v := by
  simp [upd]

theorem upd_other (m : Nat → Option Txn) (i j : Nat) (v : Option Txn) (h : j ≠ i) : upd m i v j = m j := by
  simp [upd, h]

theorem upd_eq_some {m : Nat → Option Txn} {i j : Nat} {v : Option Txn} {t : Txn}
    (h : upd m i v j = some t) : (j = i ∧ v = some t) ∨ (j ≠ i ∧ m j = some t) := by
  by_cases hj : j = i
  · subst hj; rw [upd_same] at h; exact .inl ⟨rfl, h⟩
  · rw [upd_other _ _ _ _ hj] at h; exact .inr ⟨hj, h⟩

/-- the Txn methods that hand out the current root -/
inductive Pub where
  | all | clone | prefix | lowerBound | iterator | commit
  deriving Repr, DecidableEq

def StampFacts.bumps (f : StampFacts) : Pub → Bool
  | .all => f.bumpAll
  | .clone => f.bumpClone
  | .prefix => f.bumpPrefix
  | .lowerBound => f.bumpLowerBound
  | .iterator => f.bumpIterator
  | .commit => f.bumpCommit

theorem StampFacts.ok_iff (f : StampFacts) : f.ok = true ↔
    (∀ k, f.bumps k = true) ∧ f.inPlaceOnlyIfOwned = true ∧ f.idFromPublished = true := by
  simp only [StampFacts.ok, Bool.and_eq_true]
  constructor
  · intro hf
    exact ⟨fun k => by cases k <;> simp [StampFacts.bumps, hf], hf.1.2, hf.2⟩
  · intro ⟨hb, hi, hd⟩
    exact ⟨⟨⟨⟨⟨⟨⟨hb .all, hb .clone⟩, hb .prefix⟩, hb .lowerBound⟩, hb .iterator⟩, hb .commit⟩, hi⟩, hd⟩

theorem StampFacts.ok_bumps {f : StampFacts} (hf : f.ok = true) (k : Pub) : f.bumps k = true :=
  ((StampFacts.ok_iff f).1 hf).1 k

theorem StampFacts.ok_inPlace {f : StampFacts} (hf : f.ok = true) : f.inPlaceOnlyIfOwned = true :=
  ((StampFacts.ok_iff f).1 hf).2.1

theorem StampFacts.ok_idFrom {f : StampFacts} (hf : f.ok = true) : f.idFromPublished = true :=
  ((StampFacts.ok_iff f).1 hf).2.2

theorem StampFacts.not_ok_cases {f : StampFacts} (h : f.ok = false) :
    (∃ k, f.bumps k = false) ∨ f.inPlaceOnlyIfOwned = false ∨ f.idFromPublished = false := by
  apply Classical.byContradiction
  intro hn
  simp only [not_or, not_exists, Bool.not_eq_false] at hn
  rw [(StampFacts.ok_iff f).2 hn] at h
  cases h

def Txn.idAfter (f : StampFacts) (k : Pub) (t : Txn) : Nat := if f.bumps k then t.id + 1 else t.id

theorem Txn.idAfter_ok {f : StampFacts} (hf : f.ok = true) (k : Pub) (t : Txn) : t.idAfter f k = t.id + 1 := by
  simp [Txn.idAfter, StampFacts.ok_bumps hf k]

/-- a pointer `k` a write may store -/
def Good (h : Heap) (nxt nxt' root k : Nat) : Prop :=
  k = 0 ∨ Reach h root k ∨ (nxt ≤ k ∧ k < nxt')

theorem Good.mono {h : Heap} {nxt n n' root k : Nat} (hn : n ≤ n') (g : Good h nxt n root k) :
    Good h nxt n' root k := by
  rcases g with h0 | hr | ⟨h1, h2⟩
  · exact .inl h0
  · exact .inr (.inl hr)
  · exact .inr (.inr ⟨h1, Nat.lt_of_lt_of_le h2 hn⟩)

/-- What one Insert / Modify / Delete of `t` may do to the heap: change in place a cell it reaches (one
    that carries its id, when the source has the stamp test), and allocate cells with a stamp not above
    its id (`cloneNode`/`promote`/`newNode` stamp `txnID`, leaves 0, `clone(false)` copies an older stamp). -/
structure WriteOk (f : StampFacts) (h : Heap) (nxt : Nat) (t : Txn) (h' : Heap) (nxt' root' : Nat) : Prop where
  mono : nxt ≤ nxt'
  cells : ∀ x, h' x ≠ h x → x < nxt' ∧ ∃ c', h' x = some c' ∧
      (∀ k ∈ c'.kids, Good h nxt nxt' t.root k) ∧
      (x < nxt → Reach h t.root x ∧ ∃ c, h x = some c ∧ c'.stamp = c.stamp ∧
        (f.inPlaceOnlyIfOwned = true → c.stamp = t.id)) ∧
      (nxt ≤ x → c'.stamp ≤ t.id)
  root : Good h nxt nxt' t.root root'

/-- what `WriteOk.cells` and `CellsOk.cells` say of a cell `x` that a write changed to `c'` -/
structure Changed (f : StampFacts) (h : Heap) (nxt : Nat) (t : Txn) (h' : Heap) (nxt' x : Nat) (c' : Cell) : Prop where
  bound : x < nxt'
  cell : h' x = some c'
  kids : ∀ k ∈ c'.kids, Good h nxt nxt' t.root k
  inPlace : x < nxt → Reach h t.root x ∧ ∃ c, h x = some c ∧ c'.stamp = c.stamp ∧
    (f.inPlaceOnlyIfOwned = true → c.stamp = t.id)
  fresh : nxt ≤ x → c'.stamp ≤ t.id

theorem WriteOk.changed {f : StampFacts} {h h' : Heap} {nxt nxt' root' x : Nat} {t : Txn}
    (hw : WriteOk f h nxt t h' nxt' root') (hx : h' x ≠ h x) : ∃ c', Changed f h nxt t h' nxt' x c' :=
  let ⟨bound, c', cell, kids, inPlace, fresh⟩ := hw.cells x hx
  ⟨c', { bound, cell, kids, inPlace, fresh }⟩

/-- `part.New()` / `lpm.New()` -/
def init : St := { heap := fun _ => none, nxt := 1, views := [⟨0, 0⟩], txns := fun _ => none }

/-- the steps of the system; transactions run one step at a time in any interleaving -/
inductive Step (f : StampFacts) : St → St → Prop
  /-- another empty tree (`part.New`, `Tree[T]{}`) -/
  | newTree (s : St) : Step f s { s with views := ⟨0, 0⟩ :: s.views }
  /-- `Tree.Txn()` / `Trie.Txn()` / `Txn.Reuse(trie)` on any published view, old or new; an earlier
      transaction in slot `i` is thereby abandoned.  `id0`: the id used if not the view's. -/
  | begin (s : St) (i : Nat) (v : View) (id0 : Nat) (hv : v ∈ s.views) :
      Step f s { s with txns := upd s.txns i (some ⟨if f.idFromPublished then v.id else id0, v.root⟩) }
  /-- a transaction is dropped (abort, or simply never used again) -/
  | abandon (s : St) (i : Nat) : Step f s { s with txns := upd s.txns i none }
  /-- Commit / Clone / All / Prefix / LowerBound / Iterator: the current root is handed out -/
  | publish (s : St) (i : Nat) (t : Txn) (k : Pub) (ht : s.txns i = some t) :
      Step f s { s with views := ⟨t.root, t.idAfter f k⟩ :: s.views,
                        txns := upd s.txns i (some ⟨t.idAfter f k, t.root⟩) }
  /-- Insert / Modify / Delete -/
  | write (s : St) (i : Nat) (t : Txn) (h' : Heap) (nxt' root' : Nat) (ht : s.txns i = some t)
      (hw : WriteOk f s.heap s.nxt t h' nxt' root') :
      Step f s { heap := h', nxt := nxt', views := s.views, txns := upd s.txns i (some ⟨t.id, root'⟩) }

inductive Steps (f : StampFacts) : St → St → Prop
  | refl (s : St) : Steps f s s
  | tail {s s' s'' : St} : Steps f s s' → Step f s' s'' → Steps f s s''

theorem Steps.trans {f : StampFacts} {s s' s'' : St} (h1 : Steps f s s') (h2 : Steps f s' s'') :
    Steps f s s'' := by
  induction h2 with
  | refl => exact h1
  | tail _ hs ih => exact .tail ih hs

theorem Step.views_mono {f : StampFacts} {s s' : St} (h : Step f s s') {v : View} (hv : v ∈ s.views) :
    v ∈ s'.views := by
  cases h <;> simp_all

theorem Steps.views_mono {f : StampFacts} {s s' : St} (h : Steps f s s') {v : View} (hv : v ∈ s.views) :
    v ∈ s'.views := by
  induction h with
  | refl => exact hv
  | tail _ hs ih => exact hs.views_mono ih

structure Inv (s : St) : Prop where
  nil0 : s.heap 0 = none
  pos : 0 < s.nxt
  hi : ∀ a, s.nxt ≤ a → s.heap a = none
  vBound : ∀ v ∈ s.views, ∀ a, Reach s.heap v.root a → a < s.nxt
  vStamp : ∀ v ∈ s.views, ∀ a c, Reach s.heap v.root a → s.heap a = some c → c.stamp < v.id
  tBound : ∀ i t, s.txns i = some t → ∀ a, Reach s.heap t.root a → a < s.nxt
  tStamp : ∀ i t, s.txns i = some t → ∀ a c, Reach s.heap t.root a → s.heap a = some c → c.stamp ≤ t.id
  tOwnV : ∀ i t, s.txns i = some t → ∀ a c, Reach s.heap t.root a → s.heap a = some c →
      c.stamp = t.id → ∀ v ∈ s.views, ¬ Reach s.heap v.root a
  tOwnT : ∀ i t, s.txns i = some t → ∀ a c, Reach s.heap t.root a → s.heap a = some c →
      c.stamp = t.id → ∀ j t', j ≠ i → s.txns j = some t' → ¬ Reach s.heap t'.root a

theorem Inv.init : Inv init := by
  refine { nil0 := rfl, pos := by decide, hi := fun _ _ => rfl, vBound := ?vBound, vStamp := ?vStamp,
           tBound := ?_, tStamp := ?_, tOwnV := ?_, tOwnT := ?_ }
  case vBound =>
    intro v hv a ha
    simp only [Cow.init, List.mem_singleton] at hv; subst hv
    have := Reach.of_nil (h := Cow.init.heap) (r := 0) rfl ha
    subst this; decide
  case vStamp => intro v _ a c _ hc; cases hc
  all_goals (intro i t ht; cases ht)

theorem Inv.addView {s : St} (I : Inv s) (w : View)
    (bound : ∀ a, Reach s.heap w.root a → a < s.nxt)
    (stamp : ∀ a c, Reach s.heap w.root a → s.heap a = some c → c.stamp < w.id)
    (own : ∀ i t, s.txns i = some t → ∀ a c, Reach s.heap t.root a → s.heap a = some c →
      c.stamp = t.id → ¬ Reach s.heap w.root a) :
    Inv { s with views := w :: s.views } := by
  refine { I with vBound := ?vBound, vStamp := ?vStamp, tOwnV := ?tOwnV }
  case vBound =>
    intro v hv
    rcases List.mem_cons.1 hv with rfl | hv
    · exact bound
    · exact I.vBound v hv
  case vStamp =>
    intro v hv
    rcases List.mem_cons.1 hv with rfl | hv
    · exact stamp
    · exact I.vStamp v hv
  case tOwnV =>
    intro i t ht a c ha hc hst v hv
    rcases List.mem_cons.1 hv with rfl | hv
    · exact own i t ht a c ha hc hst
    · exact I.tOwnV i t ht a c ha hc hst v hv

theorem Inv.newTree {s : St} (I : Inv s) : Inv { s with views := ⟨0, 0⟩ :: s.views } := by
  have hnil : ∀ a, Reach s.heap 0 a → s.heap a = none := fun a ha => Reach.of_nil I.nil0 ha ▸ I.nil0
  refine I.addView ⟨0, 0⟩ ?_ ?_ ?_
  · intro a ha; rw [Reach.of_nil I.nil0 ha]; exact I.pos
  · intro a c ha hc; rw [hnil a ha] at hc; cases hc
  · intro i t _ a c _ hc _ ha; rw [hnil a ha] at hc; cases hc

theorem Inv.abandon {s : St} (I : Inv s) (i : Nat) : Inv { s with txns := upd s.txns i none } := by
  have sub : ∀ j t, upd s.txns i none j = some t → s.txns j = some t := by
    intro j t h
    rcases upd_eq_some h with ⟨_, h⟩ | ⟨_, h⟩
    · cases h
    · exact h
  exact { I with
    tBound := fun j t ht => I.tBound j t (sub j t ht)
    tStamp := fun j t ht => I.tStamp j t (sub j t ht)
    tOwnV := fun j t ht => I.tOwnV j t (sub j t ht)
    tOwnT := fun j t ht a c ha hc hst k t' hk ht' =>
      I.tOwnT j t (sub j t ht) a c ha hc hst k t' hk (sub k t' ht') }

/-- Frame rule: when the heap changes only outside what the views and the other transactions reach,
    what is left to show speaks of the new entry `u` alone. -/
theorem Inv.frame {s : St} (I : Inv s) {h' : Heap} {n' : Nat} (i : Nat) (u : Txn)
    (mono : s.nxt ≤ n') (nil0 : h' 0 = none) (hi : ∀ a, n' ≤ a → h' a = none)
    (frV : ∀ v ∈ s.views, ∀ a, Reach s.heap v.root a → h' a = s.heap a)
    (frT : ∀ j t, j ≠ i → s.txns j = some t → ∀ a, Reach s.heap t.root a → h' a = s.heap a)
    (bound : ∀ a, Reach h' u.root a → a < n')
    (stamp : ∀ a c, Reach h' u.root a → h' a = some c → c.stamp ≤ u.id)
    (ownV : ∀ a c, Reach h' u.root a → h' a = some c → c.stamp = u.id →
      ∀ v ∈ s.views, ¬ Reach s.heap v.root a)
    (ownT : ∀ a c, Reach h' u.root a → h' a = some c → c.stamp = u.id →
      ∀ j t, j ≠ i → s.txns j = some t → ¬ Reach s.heap t.root a)
    (other : ∀ j t, j ≠ i → s.txns j = some t → ∀ a c, Reach s.heap t.root a → s.heap a = some c →
      c.stamp = t.id → ¬ Reach h' u.root a) :
    Inv ⟨h', n', s.views, upd s.txns i (some u)⟩ := by
  have rV : ∀ v ∈ s.views, ∀ a, Reach h' v.root a → Reach s.heap v.root a := fun v hv a =>
    (Reach.frame (frV v hv)).1
  have old : ∀ j t, j ≠ i → s.txns j = some t → ∀ a, Reach h' t.root a →
      Reach s.heap t.root a ∧ h' a = s.heap a := fun j t hj ht a ha =>
    have ha' := (Reach.frame (frT j t hj ht)).1 ha
    ⟨ha', frT j t hj ht a ha'⟩
  refine { nil0 := nil0, pos := Nat.lt_of_lt_of_le I.pos mono, hi := hi, vBound := ?vBound, vStamp := ?vStamp,
           tBound := ?tBound, tStamp := ?tStamp, tOwnV := ?tOwnV, tOwnT := ?tOwnT }
  case vBound =>
    intro v hv a ha
    exact Nat.lt_of_lt_of_le (I.vBound v hv a (rV v hv a ha)) mono
  case vStamp =>
    intro v hv a c ha hc
    exact I.vStamp v hv a c (rV v hv a ha) ((frV v hv a (rV v hv a ha)).symm.trans hc)
  case tBound =>
    intro j t ht a ha
    rcases upd_eq_some ht with ⟨hj, e⟩ | ⟨hj, ht⟩
    · cases e; exact bound a ha
    · exact Nat.lt_of_lt_of_le (I.tBound j t ht a (old j t hj ht a ha).1) mono
  case tStamp =>
    intro j t ht a c ha hc
    rcases upd_eq_some ht with ⟨hj, e⟩ | ⟨hj, ht⟩
    · cases e; exact stamp a c ha hc
    · obtain ⟨ha', he⟩ := old j t hj ht a ha
      exact I.tStamp j t ht a c ha' (he ▸ hc)
  case tOwnV =>
    intro j t ht a c ha hc hst v hv hrv
    rcases upd_eq_some ht with ⟨hj, e⟩ | ⟨hj, ht⟩
    · cases e; exact ownV a c ha hc hst v hv (rV v hv a hrv)
    · obtain ⟨ha', he⟩ := old j t hj ht a ha
      exact I.tOwnV j t ht a c ha' (he ▸ hc) hst v hv (rV v hv a hrv)
  case tOwnT =>
    intro j t ht a c ha hc hst k t' hk ht' hr
    rcases upd_eq_some ht with ⟨hj, e⟩ | ⟨hj, ht⟩
    · cases e
      rcases upd_eq_some ht' with ⟨hki, _⟩ | ⟨hki, ht'⟩
      · exact hk (hki.trans hj.symm)
      · exact ownT a c ha hc hst k t' hki ht' (old k t' hki ht' a hr).1
    · obtain ⟨ha', he⟩ := old j t hj ht a ha
      rcases upd_eq_some ht' with ⟨_, e⟩ | ⟨hki, ht'⟩
      · cases e; exact other j t hj ht a c ha' (he ▸ hc) hst hr
      · exact I.tOwnT j t ht a c ha' (he ▸ hc) hst k t' hk ht' (old k t' hki ht' a hr).1

/-- Slot `i` starts afresh, the heap as it is, with a root below which every stamp is smaller than
    its id: it owns nothing yet. -/
theorem Inv.restart {s : St} (I : Inv s) (i : Nat) (u : Txn)
    (bound : ∀ a, Reach s.heap u.root a → a < s.nxt)
    (lt : ∀ a c, Reach s.heap u.root a → s.heap a = some c → c.stamp < u.id)
    (other : ∀ j t, j ≠ i → s.txns j = some t → ∀ a c, Reach s.heap t.root a → s.heap a = some c →
      c.stamp = t.id → ¬ Reach s.heap u.root a) :
    Inv { s with txns := upd s.txns i (some u) } :=
  I.frame i u (mono := Nat.le_refl _) (nil0 := I.nil0) (hi := I.hi) (frV := fun _ _ _ _ => rfl)
    (frT := fun _ _ _ _ _ _ => rfl) (bound := bound) (stamp := fun a c ha hc => Nat.le_of_lt (lt a c ha hc))
    (ownV := fun a c ha hc hst => absurd hst (Nat.ne_of_lt (lt a c ha hc)))
    (ownT := fun a c ha hc hst => absurd hst (Nat.ne_of_lt (lt a c ha hc))) (other := other)

theorem Inv.begin {s : St} (I : Inv s) (i : Nat) (v : View) (hv : v ∈ s.views) :
    Inv { s with txns := upd s.txns i (some ⟨v.id, v.root⟩) } :=
  I.restart i ⟨v.id, v.root⟩ (I.vBound v hv) (I.vStamp v hv)
    (fun j t _ ht a c ha hc hst => I.tOwnV j t ht a c ha hc hst v hv)

theorem Inv.publish {s : St} (I : Inv s) (i : Nat) (t : Txn) (ht : s.txns i = some t) :
    Inv { s with views := ⟨t.root, t.id + 1⟩ :: s.views,
                 txns := upd s.txns i (some ⟨t.id + 1, t.root⟩) } := by
  have lt : ∀ a c, Reach s.heap t.root a → s.heap a = some c → c.stamp < t.id + 1 := fun a c ha hc =>
    Nat.lt_succ_of_le (I.tStamp i t ht a c ha hc)
  have I1 : Inv { s with txns := upd s.txns i (some ⟨t.id + 1, t.root⟩) } :=
    I.restart i ⟨t.id + 1, t.root⟩ (I.tBound i t ht) lt
      (fun j u hj hu a c ha hc hst => I.tOwnT j u hu a c ha hc hst i t (Ne.symm hj) ht)
  refine I1.addView ⟨t.root, t.id + 1⟩ (I.tBound i t ht) lt ?_
  intro j u hu a c ha hc hst
  rcases upd_eq_some hu with ⟨_, e⟩ | ⟨hj, hu⟩
  · cases e; exact absurd hst (Nat.ne_of_lt (lt a c ha hc))
  · exact I.tOwnT j u hu a c ha hc hst i t (Ne.symm hj) ht

theorem WriteOk.untouched {f : StampFacts} {h h' : Heap} {nxt nxt' root' : Nat} {t : Txn}
    (hf : f.inPlaceOnlyIfOwned = true) (hw : WriteOk f h nxt t h' nxt' root') {r : Nat}
    (hb : ∀ a, Reach h r a → a < nxt)
    (hown : ∀ a c, Reach h t.root a → h a = some c → c.stamp = t.id → ¬ Reach h r a) :
    ∀ a, Reach h r a → h' a = h a := by
  intro a ha
  apply Classical.byContradiction
  intro hne
  obtain ⟨c', ch⟩ := hw.changed hne
  obtain ⟨hr, c, hc, _, hst⟩ := ch.inPlace (hb a ha)
  exact hown a c hr hc (hst hf) ha

theorem Step.frozen {f : StampFacts} (hf : f.ok = true) {s s' : St} (I : Inv s) (h : Step f s s')
    {v : View} (hv : v ∈ s.views) : ∀ a, Reach s.heap v.root a → s'.heap a = s.heap a := by
  cases h with
  | newTree => intro _ _; rfl
  | begin => intro _ _; rfl
  | abandon => intro _ _; rfl
  | publish => intro _ _; rfl
  | write i t h' nxt' root' ht hw =>
    exact hw.untouched (StampFacts.ok_inPlace hf) (I.vBound v hv)
      (fun a c ha hc hst => I.tOwnV i t ht a c ha hc hst v hv)

theorem WriteOk.sibling_untouched {f : StampFacts} (hf : f.ok = true) {s : St} (I : Inv s)
    {i : Nat} {t : Txn} {h' : Heap} {nxt' root' : Nat} (ht : s.txns i = some t)
    (hw : WriteOk f s.heap s.nxt t h' nxt' root') {j : Nat} {u : Txn} (hj : j ≠ i)
    (hu : s.txns j = some u) : ∀ a, Reach s.heap u.root a → h' a = s.heap a :=
  hw.untouched (StampFacts.ok_inPlace hf) (I.tBound j u hu)
    (fun a c ha hc hst => I.tOwnT i t ht a c ha hc hst j u hj hu)

theorem WriteOk.reach_good {f : StampFacts} {s : St} (I : Inv s) {h' : Heap} {nxt' root' : Nat} {t : Txn}
    (hw : WriteOk f s.heap s.nxt t h' nxt' root') {a : Nat} (ha : Reach h' root' a) :
    Good s.heap s.nxt nxt' t.root a := by
  induction ha with
  | root => exact hw.root
  | @step a k c _ hc hk ih =>
    by_cases he : h' a = s.heap a
    · rcases ih with rfl | hr | ⟨h1, _⟩
      · rw [he, I.nil0] at hc; cases hc
      · exact .inr (.inl (.step hr (he ▸ hc) hk))
      · rw [he, I.hi a h1] at hc; cases hc
    · obtain ⟨c', ch⟩ := hw.changed he
      cases hc.symm.trans ch.cell
      exact ch.kids k hk

theorem WriteOk.reach_cell {f : StampFacts} {s : St} (I : Inv s) {h' : Heap} {nxt' root' : Nat} {t : Txn}
    (hw : WriteOk f s.heap s.nxt t h' nxt' root') {a : Nat} {c' : Cell} (ha : Reach h' root' a)
    (hc' : h' a = some c') :
    (s.nxt ≤ a ∧ c'.stamp ≤ t.id) ∨ (Reach s.heap t.root a ∧ ∃ c, s.heap a = some c ∧ c'.stamp = c.stamp) := by
  by_cases he : h' a = s.heap a
  · rcases hw.reach_good I ha with rfl | hr | ⟨h1, _⟩
    · rw [he, I.nil0] at hc'; cases hc'
    · exact .inr ⟨hr, c', he ▸ hc', rfl⟩
    · rw [he, I.hi a h1] at hc'; cases hc'
  · obtain ⟨c'', ch⟩ := hw.changed he
    cases hc'.symm.trans ch.cell
    by_cases hx : a < s.nxt
    · obtain ⟨hr, c, hc, hs, _⟩ := ch.inPlace hx
      exact .inr ⟨hr, c, hc, hs⟩
    · exact .inl ⟨Nat.le_of_not_lt hx, ch.fresh (Nat.le_of_not_lt hx)⟩

theorem Inv.write {f : StampFacts} {s : St} (I : Inv s) (hf : f.ok = true)
    (i : Nat) (t : Txn) (h' : Heap) (nxt' root' : Nat) (ht : s.txns i = some t)
    (hw : WriteOk f s.heap s.nxt t h' nxt' root') :
    Inv { heap := h', nxt := nxt', views := s.views, txns := upd s.txns i (some ⟨t.id, root'⟩) } := by
  -- a changed cell is below `nxt'`, and was a cell already if it is below `s.nxt`
  have none' : ∀ a, s.heap a = none → a < s.nxt ∨ nxt' ≤ a → h' a = none := by
    intro a hn hor
    apply Classical.byContradiction
    intro hne
    obtain ⟨c', ch⟩ := hw.changed (x := a) (by rw [hn]; exact hne)
    rcases hor with h2 | h2
    · obtain ⟨_, c, hc, _⟩ := ch.inPlace h2
      rw [hn] at hc; cases hc
    · exact Nat.not_lt.2 h2 ch.bound
  refine I.frame i ⟨t.id, root'⟩ (mono := hw.mono) (nil0 := none' 0 I.nil0 (.inl I.pos))
    (hi := fun a ha => none' a (I.hi a (Nat.le_trans hw.mono ha)) (.inr ha))
    (frV := fun v hv => Step.frozen hf I (.write s i t h' nxt' root' ht hw) hv)
    (frT := fun j u hj hu => hw.sibling_untouched hf I ht hj hu)
    (bound := ?bound) (stamp := ?stamp) (ownV := ?ownV) (ownT := ?ownT) (other := ?other)
  case bound =>
    intro a ha
    rcases hw.reach_good I ha with rfl | hr | ⟨_, h2⟩
    · exact Nat.lt_of_lt_of_le I.pos hw.mono
    · exact Nat.lt_of_lt_of_le (I.tBound i t ht a hr) hw.mono
    · exact h2
  case stamp =>
    intro a c ha hc
    rcases hw.reach_cell I ha hc with ⟨_, h2⟩ | ⟨hr, c0, hc0, hs⟩
    · exact h2
    · exact hs ▸ I.tStamp i t ht a c0 hr hc0
  -- a cell of the new tree that carries the writer's id is fresh, or was the writer's before
  case ownV =>
    intro a c ha hc hst v hv hrv
    rcases hw.reach_cell I ha hc with ⟨h1, _⟩ | ⟨hr, c0, hc0, hs⟩
    · exact absurd (I.vBound v hv a hrv) (Nat.not_lt.2 h1)
    · exact I.tOwnV i t ht a c0 hr hc0 (hs ▸ hst) v hv hrv
  case ownT =>
    intro a c ha hc hst j u hj hu hru
    rcases hw.reach_cell I ha hc with ⟨h1, _⟩ | ⟨hr, c0, hc0, hs⟩
    · exact absurd (I.tBound j u hu a hru) (Nat.not_lt.2 h1)
    · exact I.tOwnT i t ht a c0 hr hc0 (hs ▸ hst) j u hj hu hru
  case other =>
    intro j u hj hu a c ha hc hst hr
    rcases hw.reach_good I hr with rfl | hr | ⟨h1, _⟩
    · rw [I.nil0] at hc; cases hc
    · exact I.tOwnT j u hu a c ha hc hst i t (Ne.symm hj) ht hr
    · exact absurd (I.tBound j u hu a ha) (Nat.not_lt.2 h1)

theorem Inv.step {f : StampFacts} (hf : f.ok = true) {s s' : St} (I : Inv s) (h : Step f s s') : Inv s' := by
  cases h with
  | newTree => exact I.newTree
  | begin i v id0 hv =>
    simp only [StampFacts.ok_idFrom hf, if_true]
    exact I.begin i v hv
  | abandon i => exact I.abandon i
  | publish i t k ht =>
    simp only [Txn.idAfter_ok hf]
    exact I.publish i t ht
  | write i t h' nxt' root' ht hw => exact I.write hf i t h' nxt' root' ht hw

theorem Steps.inv_frozen {f : StampFacts} (hf : f.ok = true) {s s' : St} (I : Inv s) (h : Steps f s s') :
    Inv s' ∧ ∀ v ∈ s.views, ∀ a, Reach s.heap v.root a → s'.heap a = s.heap a := by
  induction h with
  | refl => exact ⟨I, fun _ _ _ _ => rfl⟩
  | @tail s' s'' hs hstep ih =>
    obtain ⟨I', fr⟩ := ih
    refine ⟨I'.step hf hstep, ?_⟩
    intro v hv a ha
    have ha' : Reach s'.heap v.root a := (Reach.frame (fr v hv)).2 ha
    rw [hstep.frozen hf I' (hs.views_mono hv) a ha', fr v hv a ha]

def Reachable (f : StampFacts) (s : St) : Prop := Steps f init s

theorem Reachable.inv {f : StampFacts} (hf : f.ok = true) {s : St} (h : Reachable f s) : Inv s :=
  (Steps.inv_frozen hf Inv.init h).1

/-! ## an executable write: path copying as `cloneNode` does it -/

/-- the part of `WriteOk` that speaks about cells, with the allocation pointer at `n` -/
structure CellsOk (f : StampFacts) (h0 : Heap) (nxt0 : Nat) (t : Txn) (h : Heap) (n : Nat) : Prop where
  mono : nxt0 ≤ n
  cells : ∀ x, h x ≠ h0 x → x < n ∧ ∃ c', h x = some c' ∧
      (∀ k ∈ c'.kids, Good h0 nxt0 n t.root k) ∧
      (x < nxt0 → Reach h0 t.root x ∧ ∃ c, h0 x = some c ∧ c'.stamp = c.stamp ∧
        (f.inPlaceOnlyIfOwned = true → c.stamp = t.id)) ∧
      (nxt0 ≤ x → c'.stamp ≤ t.id)

theorem CellsOk.refl (f : StampFacts) (h0 : Heap) (nxt0 : Nat) (t : Txn) : CellsOk f h0 nxt0 t h0 nxt0 :=
  ⟨Nat.le_refl _, fun _ hx => absurd rfl hx⟩

theorem CellsOk.changed {f : StampFacts} {h0 h : Heap} {nxt0 n x : Nat} {t : Txn}
    (c : CellsOk f h0 nxt0 t h n) (hx : h x ≠ h0 x) : ∃ c', Changed f h0 nxt0 t h n x c' :=
  let ⟨bound, c', cell, kids, inPlace, fresh⟩ := c.cells x hx
  ⟨c', { bound, cell, kids, inPlace, fresh }⟩

theorem CellsOk.of_changed {f : StampFacts} {h0 h : Heap} {nxt0 n : Nat} {t : Txn} (mono : nxt0 ≤ n)
    (changed : ∀ x, h x ≠ h0 x → ∃ c', Changed f h0 nxt0 t h n x c') : CellsOk f h0 nxt0 t h n :=
  ⟨mono, fun x hx => let ⟨c', ch⟩ := changed x hx; ⟨ch.bound, c', ch.cell, ch.kids, ch.inPlace, ch.fresh⟩⟩

theorem CellsOk.weaken {f : StampFacts} {h0 h : Heap} {nxt0 n n' : Nat} {t : Txn}
    (c : CellsOk f h0 nxt0 t h n) (hn : n ≤ n') : CellsOk f h0 nxt0 t h n' := by
  refine .of_changed (Nat.le_trans c.mono hn) fun x hx => ?_
  obtain ⟨c', ch⟩ := c.changed hx
  exact ⟨c', { ch with bound := Nat.lt_of_lt_of_le ch.bound hn, kids := fun k hk => (ch.kids k hk).mono hn }⟩

/-- `cloneNode(a)` followed by the update `g` of the (possibly copied) cell.  The copy of an inner
    node is stamped with the transaction's id (`restamp`); the copy of a `part` leaf is not (`setTxnID`
    does nothing on a leaf, its stamp stays 0), so it is copied again by the next write. -/
def put (f : StampFacts) (T : Nat) (restamp : Bool) (h0 : Heap) (a : Nat) (g : Cell → Cell) (hn : Heap × Nat) :
    (Heap × Nat) × Nat :=
  match h0 a with
  | none => (hn, a)
  | some c =>
    if f.inPlaceOnlyIfOwned = true → c.stamp = T then
      ((hn.1.set a { g c with stamp := c.stamp }, hn.2), a)
    else
      ((hn.1.set hn.2 { g c with stamp := if restamp then T else min c.stamp T }, hn.2 + 1), hn.2)

theorem CellsOk.set {f : StampFacts} {h0 h : Heap} {nxt0 n n' x : Nat} {t : Txn} {c' : Cell}
    (c : CellsOk f h0 nxt0 t h n) (hn : n ≤ n') (hx : x < n')
    (kids : ∀ k ∈ c'.kids, Good h0 nxt0 n' t.root k)
    (old : x < nxt0 → Reach h0 t.root x ∧ ∃ c, h0 x = some c ∧ c'.stamp = c.stamp ∧
      (f.inPlaceOnlyIfOwned = true → c.stamp = t.id))
    (new : nxt0 ≤ x → c'.stamp ≤ t.id) : CellsOk f h0 nxt0 t (h.set x c') n' := by
  refine .of_changed (Nat.le_trans c.mono hn) fun y hy => ?_
  by_cases hyx : y = x
  · subst hyx
    exact ⟨c', { bound := hx, cell := Heap.set_same _ _ _, kids := kids, inPlace := old, fresh := new }⟩
  · rw [Heap.set_other _ _ _ _ hyx] at hy
    obtain ⟨c'', ch⟩ := (c.weaken hn).changed hy
    exact ⟨c'', { ch with cell := (Heap.set_other _ _ _ _ hyx).trans ch.cell }⟩

/-- on the result `((heap, allocation pointer), address)` of `put` / `wr` on a subtree -/
def SubOk (f : StampFacts) (h0 : Heap) (nxt0 : Nat) (t : Txn) (r : (Heap × Nat) × Nat) : Prop :=
  CellsOk f h0 nxt0 t r.1.1 r.1.2 ∧ Good h0 nxt0 r.1.2 t.root r.2

theorem SubOk.same {f : StampFacts} {h0 h : Heap} {nxt0 n a : Nat} {t : Txn}
    (c : CellsOk f h0 nxt0 t h n) (ha : Reach h0 t.root a) : SubOk f h0 nxt0 t ((h, n), a) :=
  ⟨c, .inr (.inl ha)⟩

theorem put_ok {f : StampFacts} {h0 h : Heap} {nxt0 n a : Nat} {t : Txn} {g : Cell → Cell} {rs : Bool}
    (hi : ∀ x, nxt0 ≤ x → h0 x = none)
    (c : CellsOk f h0 nxt0 t h n) (ha : Reach h0 t.root a)
    (hg : ∀ c0, h0 a = some c0 → ∀ k ∈ (g c0).kids, Good h0 nxt0 n t.root k) :
    SubOk f h0 nxt0 t (put f t.id rs h0 a g (h, n)) := by
  unfold put
  cases hc : h0 a with
  | none => exact .same c ha
  | some c0 =>
    have hlt : a < nxt0 := Nat.lt_of_not_le fun hge => by rw [hi a hge] at hc; cases hc
    simp only
    split
    · rename_i hown
      exact ⟨c.set (Nat.le_refl _) (Nat.lt_of_lt_of_le hlt c.mono) (hg c0 hc)
        (fun _ => ⟨ha, c0, hc, rfl, hown⟩) (fun hge => absurd hlt (Nat.not_lt.2 hge)),
        .inr (.inl ha)⟩
    · refine ⟨c.set (Nat.le_succ _) (Nat.lt_succ_self _) (fun k hk => (hg c0 hc k hk).mono (Nat.le_succ _))
        (fun hlt' => absurd hlt' (Nat.not_lt.2 c.mono)) (fun _ => ?_),
        .inr (.inr ⟨c.mono, Nat.lt_succ_self _⟩)⟩
      show (if rs = true then t.id else min c0.stamp t.id) ≤ t.id
      split
      · exact Nat.le_refl _
      · exact Nat.min_le_right _ _

/-- what happens at the end of the path (pointers already resolved) -/
inductive Act' where
  /-- the pointer to the node (in its parent, or the root pointer) is redirected -/
  | replace (b : Nat)
  /-- the node is cloned-or-owned and gets a new payload and new children -/
  | edit (restamp : Bool) (val : Nat) (kids : List Nat)

/-- descend along `path` (child indices), apply the action at the end, and re-link every node
    on the way back up by the `cloneNode` rule -/
def wr (f : StampFacts) (T : Nat) (h0 : Heap) (act : Act') : List Nat → Nat → Heap × Nat → (Heap × Nat) × Nat
  | [], a, hn =>
    match act with
    | .replace b => (hn, b)
    | .edit rs v ks => put f T rs h0 a (fun c => { c with val := v, kids := ks }) hn
  | i :: p, a, hn =>
    match h0 a with
    | none => (hn, a)
    | some c =>
      match c.kids[i]? with
      | none => (hn, a)
      | some k =>
        let r := wr f T h0 act p k hn
        put f T true h0 a (fun c => { c with kids := c.kids.set i r.2 }) r.1

def Act'.Good (h0 : Heap) (nxt0 n root : Nat) : Act' → Prop
  | .replace b => Cow.Good h0 nxt0 n root b
  | .edit _ _ ks => ∀ k ∈ ks, Cow.Good h0 nxt0 n root k

theorem wr_ok {f : StampFacts} {h0 : Heap} {nxt0 : Nat} {t : Txn} {act : Act'}
    (hi : ∀ x, nxt0 ≤ x → h0 x = none) (p : List Nat) :
    ∀ (a : Nat) (h : Heap) (n : Nat), CellsOk f h0 nxt0 t h n → Reach h0 t.root a →
      act.Good h0 nxt0 n t.root → SubOk f h0 nxt0 t (wr f t.id h0 act p a (h, n)) := by
  induction p with
  | nil =>
    intro a h n c ha hact
    cases act with
    | replace b => exact ⟨c, hact⟩
    | edit rs v ks => exact put_ok hi c ha (fun _ _ k hk => hact k hk)
  | cons i p ih =>
    intro a h n c ha hact
    simp only [wr]
    cases hc : h0 a with
    | none => exact .same c ha
    | some c0 =>
      simp only
      cases hk : c0.kids[i]? with
      | none => exact .same c ha
      | some k =>
        simp only
        obtain ⟨c1, hgood⟩ := ih k h n c (.step ha hc (List.mem_of_getElem? hk)) hact
        exact put_ok (rs := true)
          (g := fun c => { c with kids := c.kids.set i (wr f t.id h0 act p k (h, n)).2 }) hi c1 ha
          (fun c0' hc0' k' hk' => by
            cases hc.symm.trans hc0'
            rcases List.mem_or_eq_of_mem_set hk' with hm | rfl
            · exact .inr (.inl (.step ha hc hm))
            · exact hgood)

/-- a pointer a write may store, named without reference to concrete addresses -/
inductive Ref where
  | nil
  /-- the `j`-th cell allocated by this write -/
  | fresh (j : Nat)
  /-- the node found by following these child indices from the transaction's root -/
  | at (p : List Nat)
  deriving Repr, DecidableEq

def walk (h : Heap) : List Nat → Nat → Nat
  | [], a => a
  | i :: p, a =>
    match h a with
    | none => 0
    | some c =>
      match c.kids[i]? with
      | none => 0
      | some k => walk h p k

theorem walk_good (h : Heap) (root : Nat) (p : List Nat) : ∀ a, Reach h root a →
    walk h p a = 0 ∨ Reach h root (walk h p a) := by
  induction p with
  | nil => intro a ha; exact .inr ha
  | cons i p ih =>
    intro a ha
    simp only [walk]
    cases hc : h a with
    | none => exact .inl rfl
    | some c =>
      simp only
      cases hk : c.kids[i]? with
      | none => exact .inl rfl
      | some k => exact ih k (.step ha hc (List.mem_of_getElem? hk))

def Ref.res (h : Heap) (root nxt nf : Nat) : Ref → Nat
  | .nil => 0
  | .fresh j => if j < nf then nxt + j else 0
  | .at p => walk h p root

theorem Ref.res_good (h : Heap) (root nxt nf : Nat) (r : Ref) :
    Good h nxt (nxt + nf) root (r.res h root nxt nf) := by
  cases r with
  | nil => exact .inl rfl
  | fresh j =>
    simp only [Ref.res]
    split
    · exact .inr (.inr ⟨Nat.le_add_right _ _, by omega⟩)
    · exact .inl rfl
  | «at» p =>
    rcases walk_good h root p root .root with h0 | hr
    · exact .inl h0
    · exact .inr (.inl hr)

/-- a cell to allocate: `newLeaf` (stamp 0), `promote`/new `node4` (stamp `txnID`),
    `clone(false)` (the stamp of the original); never above the transaction's id -/
structure FreshCell where
  stamp : Nat
  val : Nat
  kids : List Ref
  deriving Repr, DecidableEq

inductive Act where
  | replace (r : Ref)
  | edit (restamp : Bool) (val : Nat) (kids : List Ref)
  deriving Repr, DecidableEq

/-- one Insert / Modify / Delete: allocate some cells, go down a path, change the node at its end
    (or redirect the pointer to it), clone-or-mutate the nodes above -/
structure WOp where
  path : List Nat
  fresh : List FreshCell
  act : Act
  deriving Repr, DecidableEq

def Act.res (g : Ref → Nat) : Act → Act'
  | .replace r => .replace (g r)
  | .edit rs v ks => .edit rs v (ks.map g)

def allocFresh (T : Nat) (g : Ref → Nat) (fr : List FreshCell) (nxt : Nat) (h : Heap) : Heap := fun x =>
  if nxt ≤ x then
    match fr[x - nxt]? with
    | some fc => some ⟨min fc.stamp T, fc.val, fc.kids.map g⟩
    | none => h x
  else h x

theorem allocFresh_ok (f : StampFacts) (h0 : Heap) (nxt0 : Nat) (t : Txn) (fr : List FreshCell) :
    CellsOk f h0 nxt0 t
      (allocFresh t.id (Ref.res h0 t.root nxt0 fr.length) fr nxt0 h0) (nxt0 + fr.length) := by
  refine .of_changed (Nat.le_add_right _ _) fun x hx => ?_
  unfold allocFresh at hx
  by_cases hge : nxt0 ≤ x
  · rw [if_pos hge] at hx
    cases hfc : fr[x - nxt0]? with
    | none => rw [hfc] at hx; exact absurd rfl hx
    | some fc =>
      obtain ⟨hlt, _⟩ := List.getElem?_eq_some_iff.1 hfc
      refine ⟨⟨min fc.stamp t.id, fc.val, fc.kids.map (Ref.res h0 t.root nxt0 fr.length)⟩,
        { bound := (Nat.sub_lt_iff_lt_add' hge).1 hlt
          cell := by unfold allocFresh; rw [if_pos hge, hfc]
          kids := ?_
          inPlace := fun h => absurd h (Nat.not_lt.2 hge)
          fresh := fun _ => Nat.min_le_right _ _ }⟩
      intro k hk
      obtain ⟨r, _, rfl⟩ := List.mem_map.1 hk
      exact Ref.res_good h0 t.root nxt0 fr.length r
  · rw [if_neg hge] at hx; exact absurd rfl hx

def St.write (f : StampFacts) (s : St) (i : Nat) (w : WOp) : St :=
  match s.txns i with
  | none => s
  | some t =>
    let g := Ref.res s.heap t.root s.nxt w.fresh.length
    let r := wr f t.id s.heap (w.act.res g) w.path t.root
      (allocFresh t.id g w.fresh s.nxt s.heap, s.nxt + w.fresh.length)
    { heap := r.1.1, nxt := r.1.2, views := s.views, txns := upd s.txns i (some ⟨t.id, r.2⟩) }

theorem St.write_ok (f : StampFacts) (s : St) (hi : ∀ a, s.nxt ≤ a → s.heap a = none) (i : Nat) (w : WOp)
    (t : Txn) (ht : s.txns i = some t) :
    ∃ root', St.write f s i w = (⟨(St.write f s i w).heap, (St.write f s i w).nxt, s.views,
        upd s.txns i (some ⟨t.id, root'⟩)⟩ : St) ∧
      WriteOk f s.heap s.nxt t (St.write f s i w).heap (St.write f s i w).nxt root' := by
  unfold St.write
  simp only [ht]
  have hact : (w.act.res (Ref.res s.heap t.root s.nxt w.fresh.length)).Good s.heap s.nxt
      (s.nxt + w.fresh.length) t.root := by
    cases w.act with
    | replace r => exact Ref.res_good _ _ _ _ r
    | edit rs v ks =>
      intro k hk
      obtain ⟨r, _, rfl⟩ := List.mem_map.1 hk
      exact Ref.res_good _ _ _ _ r
  obtain ⟨c, g⟩ := wr_ok (f := f) (t := t) hi w.path t.root _ _
    (allocFresh_ok f s.heap s.nxt t w.fresh) .root hact
  exact ⟨_, rfl, { mono := c.mono, cells := c.cells, root := g }⟩

theorem St.write_step (f : StampFacts) (s : St) (hi : ∀ a, s.nxt ≤ a → s.heap a = none) (i : Nat) (w : WOp) :
    St.write f s i w = s ∨ Step f s (St.write f s i w) := by
  cases ht : s.txns i with
  | none => left; unfold St.write; simp only [ht]
  | some t =>
    right
    obtain ⟨root', he, hw⟩ := St.write_ok f s hi i w t ht
    rw [he]
    exact Step.write s i t _ _ _ ht hw

inductive Op where
  | newTree
  /-- start transaction `i` from the `v`-th published view (0 = the oldest) -/
  | begin (i v id0 : Nat)
  | abandon (i : Nat)
  | publish (i : Nat) (k : Pub)
  | write (i : Nat) (w : WOp)
  deriving Repr, DecidableEq

def St.exec (f : StampFacts) (s : St) : Op → St
  | .newTree => { s with views := ⟨0, 0⟩ :: s.views }
  | .begin i v id0 =>
    match s.views.reverse[v]? with
    | none => s
    | some vw => { s with txns := upd s.txns i (some ⟨if f.idFromPublished then vw.id else id0, vw.root⟩) }
  | .abandon i => { s with txns := upd s.txns i none }
  | .publish i k =>
    match s.txns i with
    | none => s
    | some t => { s with views := ⟨t.root, t.idAfter f k⟩ :: s.views,
                         txns := upd s.txns i (some ⟨t.idAfter f k, t.root⟩) }
  | .write i w => s.write f i w

def run (f : StampFacts) (ops : List Op) (s : St) : St := ops.foldl (St.exec f) s

theorem St.exec_step (f : StampFacts) (s : St) (hi : ∀ a, s.nxt ≤ a → s.heap a = none) (op : Op) :
    s.exec f op = s ∨ Step f s (s.exec f op) := by
  cases op with
  | newTree => exact .inr (.newTree s)
  | begin i v id0 =>
    simp only [St.exec]
    cases hv : s.views.reverse[v]? with
    | none => exact .inl rfl
    | some vw => exact .inr (.begin s i vw id0 (List.mem_reverse.1 (List.mem_of_getElem? hv)))
  | abandon i => exact .inr (.abandon s i)
  | publish i k =>
    simp only [St.exec]
    cases ht : s.txns i with
    | none => exact .inl rfl
    | some t => exact .inr (.publish s i t k ht)
  | write i w => exact St.write_step f s hi i w

theorem run_steps {f : StampFacts} (hf : f.ok = true) (ops : List Op) : ∀ {s : St}, Inv s → Steps f s (run f ops s) := by
  induction ops with
  | nil => intro s _; exact .refl s
  | cons op ops ih =>
    intro s I
    simp only [run, List.foldl_cons]
    rcases St.exec_step f s I.hi op with he | hs
    · rw [he]; exact ih I
    · exact Steps.trans (.tail (.refl s) hs) (ih (I.step hf hs))

theorem run_append (f : StampFacts) (ops1 ops2 : List Op) (s : St) :
    run f (ops1 ++ ops2) s = run f ops2 (run f ops1 s) := by
  simp [run, List.foldl_append]

theorem run_reachable {f : StampFacts} (hf : f.ok = true) (ops : List Op) : Reachable f (run f ops init) :=
  run_steps hf ops Inv.init

def peek (h : Heap) (r : Nat) (p : List Nat) : Option (Nat × List Nat) :=
  (h (walk h p r)).map fun c => (c.val, c.kids)

theorem walk_frame {h h' : Heap} {r : Nat} (hfr : ∀ a, Reach h r a → h' a = h a) (p : List Nat) :
    ∀ a, Reach h r a → walk h' p a = walk h p a := by
  induction p with
  | nil => intro a _; rfl
  | cons i p ih =>
    intro a ha
    simp only [walk, hfr a ha]
    cases hc : h a with
    | none => rfl
    | some c =>
      simp only
      cases hk : c.kids[i]? with
      | none => rfl
      | some k => exact ih k (.step ha hc (List.mem_of_getElem? hk))

theorem peek_frame {h h' : Heap} {r : Nat} (hfr : ∀ a, Reach h r a → h' a = h a)
    (h0 : h 0 = none) (h0' : h' 0 = none) (p : List Nat) : peek h' r p = peek h r p := by
  unfold peek
  rw [walk_frame hfr p r .root]
  rcases walk_good h r p r .root with hz | hr
  · rw [hz, h0, h0']
  · rw [hfr _ hr]

/-- `lpm.Txn.Commit()` up to commit e7d69b4 (defect F12): the trie is published with
    `prevTxnID = txnID`, so that the next `Trie.Txn()`/`Reuse` takes `txnID + 1`, but the committing
    transaction keeps its id.  (`part.Txn.Commit` increments its own id, and so does the repaired
    `lpm.Txn.Commit`.) -/
def St.lpmCommit (s : St) (i : Nat) : St :=
  match s.txns i with
  | none => s
  | some t => { s with views := ⟨t.root, t.id + 1⟩ :: s.views }

/-- followed by `Txn.Clear()` (as `lpmIndexTxn.commit` does) or by `Reuse`, it is the `publish`
    step followed by `abandon` -/
theorem St.lpmCommit_clear (f : StampFacts) (hf : f.bumpCommit = true) (s : St) (i : Nat) :
    (s.lpmCommit i).exec f (.abandon i) = (s.exec f (.publish i .commit)).exec f (.abandon i) := by
  unfold St.lpmCommit
  simp only [St.exec]
  cases ht : s.txns i with
  | none => rfl
  | some t =>
    simp only [Txn.idAfter, StampFacts.bumps, hf, if_true]
    congr 1
    funext j
    by_cases hj : j = i
    · subst hj; simp
    · simp [upd_other _ _ _ _ hj]

/-- there is a run after which a view published earlier denotes something else -/
def Breaks (f : StampFacts) : Prop :=
  ∃ (ops1 ops2 : List Op) (v : View) (n : Nat), v ∈ (run f ops1 init).views ∧
    content (run f ops2 (run f ops1 init)).heap n v.root ≠ content (run f ops1 init).heap n v.root

/-- the first Insert into an empty tree: a leaf under a new inner node, which becomes the root -/
def Op.mkRoot (st : Nat) : Op :=
  .write 0 ⟨[], [⟨0, 10, []⟩, ⟨st, 100, [.fresh 0]⟩], .replace (.fresh 1)⟩

def Op.editRoot (i val : Nat) (kids : List Ref) : Op := .write i ⟨[], [], .edit true val kids⟩

/-- A transaction whose root cell passes the stamp test rewrites it in place (`put` takes its first
    branch), so that root denotes something else afterwards, at every depth. -/
theorem St.editRoot_content_ne {f : StampFacts} {s : St} {i : Nat} {t : Txn} {c : Cell} (val n : Nat)
    (ht : s.txns i = some t) (hc : s.heap t.root = some c)
    (hown : f.inPlaceOnlyIfOwned = true → c.stamp = t.id) (hval : val ≠ c.val) :
    content (s.exec f (.editRoot i val [])).heap (n + 1) t.root ≠ content s.heap (n + 1) t.root := by
  intro e
  simp only [content, hc, Op.editRoot, St.exec, St.write, ht, wr, Act.res, put, if_pos hown,
    Heap.set_same, List.map_nil] at e
  exact hval (T.node.inj e).1

theorem Breaks.of_root_edit {f : StampFacts} (ops : List Op) (i : Nat) {t : Txn} {c : Cell} {idv : Nat}
    (val : Nat) (ht : (run f ops init).txns i = some t) (hc : (run f ops init).heap t.root = some c)
    (hv : ⟨t.root, idv⟩ ∈ (run f ops init).views)
    (hown : f.inPlaceOnlyIfOwned = true → c.stamp = t.id) (hval : val ≠ c.val) : Breaks f :=
  ⟨ops, [.editRoot i val []], _, 1, hv, St.editRoot_content_ne val 0 ht hc hown hval⟩

end Sdb.Cow
