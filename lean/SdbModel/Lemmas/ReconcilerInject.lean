import SdbModel.Lemmas.ReconcilerInv

/-!
  `JInv`, the bookkeeping invariant for rounds in which user writes land while an Update runs
  (`R.injects ≠ []`): `InvL` without `injects = []`, with what a result or a retry item may
  assume about the current object weakened to "if the result still applies", and with the
  freshness of status ids made explicit.  `JInv` is `Core` with `Fresh`: status ids are handed
  out increasingly, and a retry item or a waiting result carries the data of the version it was
  made for.
-/
namespace Sdb.Rec

/-- `CResOK` and `FreshRes` in one -/
def JResOK (objs : List RObj) (log : List Call) (items : List Item) (tableRev nextSid : Nat) (res : Res) : Prop :=
  res.2.1 = res.1 ∧ res.2.2.2.1 = res.1.sid ∧ res.2.2.1 ≤ tableRev ∧ res.1.sid < nextSid ∧
  ∀ cur ∈ objs, cur.id = res.1.id → ResLive res cur →
    cur.data = res.1.data ∧ (cur.rev = res.2.2.1 → cur.other = res.1.other) ∧
    lastCall log res.1.id = some ⟨"U", res.1.id, res.1.data, !res.2.2.2.2⟩ ∧
    ∀ it ∈ items, it.id = res.1.id → it.inQueue = false ∧ res.2.2.2.2 = true

/-- `CItemOK` and, for an Update item, `Fresh.item` -/
def JItemOK (objs : List RObj) (dels : List (RObj × Nat)) (itRev itDelRev : Nat) (rs : List Res) (tableRev nextSid : Nat)
    (it : Item) : Prop :=
  it.obj.id = it.id ∧
  (Stale objs dels itRev itDelRev it.id ∨ (it.delete = true ∧ ∃ d ∈ dels, d.1.id = it.id) ∨
    (it.delete = false ∧ ErrAt objs it)) ∧
  (it.inQueue = false → Stale objs dels itRev itDelRev it.id ∨
    (it.delete = false ∧ ErrAt objs it ∧ ∃ res ∈ rs, res.1.id = it.id ∧ res.2.2.1 = it.rev ∧ res.2.2.2.2 = true)) ∧
  (it.delete = false → it.rev ≤ tableRev ∧ it.obj.sid < nextSid ∧ ∀ o ∈ objs, o.id = it.id →
    (o.kind = .error ∧ o.rev = it.rev ∧ o.data = it.obj.data ∧ o.other = it.obj.other) ∨
    (it.rev < o.rev ∧ (o.kind = .pending → o.sid ≠ it.obj.sid)))

theorem JItemOK.fresh {objs dels a b rs t n it} (h : JItemOK objs dels a b rs t n it) (hd : it.delete = false) :
    it.rev ≤ t ∧ it.obj.sid < n ∧ ∀ o ∈ objs, o.id = it.id →
      (o.kind = .error ∧ o.rev = it.rev ∧ o.data = it.obj.data ∧ o.other = it.obj.other) ∨
      (it.rev < o.rev ∧ (o.kind = .pending → o.sid ≠ it.obj.sid)) := h.2.2.2 hd

theorem JItemOK.popped {objs dels a b rs t n it} (h : JItemOK objs dels a b rs t n it) (hq : it.inQueue = false) :
    Stale objs dels a b it.id ∨
      (it.delete = false ∧ ErrAt objs it ∧ ∃ res ∈ rs, res.1.id = it.id ∧ res.2.2.1 = it.rev ∧ res.2.2.2.2 = true) := h.2.2.1 hq

theorem JResOK.rev_le {objs log items t n res} (h : JResOK objs log items t n res) : res.2.2.1 ≤ t := h.2.2.1

theorem JResOK.live {objs log items t n res} (h : JResOK objs log items t n res) {cur : RObj} (hc : cur ∈ objs)
    (hid : cur.id = res.1.id) (hl : ResLive res cur) :
    cur.data = res.1.data ∧ (cur.rev = res.2.2.1 → cur.other = res.1.other) ∧
    lastCall log res.1.id = some ⟨"U", res.1.id, res.1.data, !res.2.2.2.2⟩ ∧
    ∀ it ∈ items, it.id = res.1.id → it.inQueue = false ∧ res.2.2.2.2 = true := h.2.2.2.2 cur hc hid hl

/-- `rs`: the results still to be committed -/
structure JInv (r : R) (rs : List Res) : Prop where
  tinv : TInv r
  items_pw : r.items.Pairwise (fun a b => a.id ≠ b.id)
  objOK : ∀ o ∈ r.objs, ObjOK r.log r.items r.itRev rs o
  delOK : ∀ d ∈ r.dels, DelOK r.log r.items r.itDelRev d
  itemOK : ∀ it ∈ r.items, JItemOK r.objs r.dels r.itRev r.itDelRev rs r.tableRev r.nextSid it
  resOK : ∀ res ∈ rs, JResOK r.objs r.log r.items r.tableRev r.nextSid res
  sidO : ∀ o ∈ r.objs, o.sid < r.nextSid

/-- a waiting result carries the object it was computed for -/
def FreshRes (objs : List RObj) (nextSid : Nat) (res : Res) : Prop :=
  res.2.1 = res.1 ∧ res.2.2.2.1 = res.1.sid ∧ res.1.sid < nextSid ∧
    ∀ cur ∈ objs, cur.id = res.1.id → ResLive res cur → cur.data = res.1.data ∧ (cur.rev = res.2.2.1 → cur.other = res.1.other)

structure Fresh (r : R) (rs : List Res) : Prop where
  sidO : ∀ o ∈ r.objs, o.sid < r.nextSid
  item : ∀ it ∈ r.items, it.delete = false → it.rev ≤ r.tableRev ∧ it.obj.sid < r.nextSid ∧ ∀ o ∈ r.objs, o.id = it.id →
    (o.kind = .error ∧ o.rev = it.rev ∧ o.data = it.obj.data ∧ o.other = it.obj.other) ∨
    (it.rev < o.rev ∧ (o.kind = .pending → o.sid ≠ it.obj.sid))
  res : ∀ res ∈ rs, FreshRes r.objs r.nextSid res

theorem JInv.core {r : R} {rs : List Res} (h : JInv r rs) : Core r rs :=
  ⟨h.tinv, h.items_pw, h.objOK, h.delOK, fun it hit => let ⟨a, b, c, _⟩ := h.itemOK it hit; ⟨a, b, c⟩,
    fun res hr => let ⟨a, _, b, _, c⟩ := h.resOK res hr; ⟨a ▸ rfl, b, fun cur hc hid hl => (c cur hc hid hl).2.2⟩⟩

theorem JInv.fresh {r : R} {rs : List Res} (h : JInv r rs) : Fresh r rs :=
  ⟨h.sidO, fun it hit => (h.itemOK it hit).fresh,
    fun res hr => let ⟨a, b, _, d, c⟩ := h.resOK res hr; ⟨a, b, d, fun cur hc hid hl => ⟨(c cur hc hid hl).1, (c cur hc hid hl).2.1⟩⟩⟩

theorem Core.jinv {r : R} {rs : List Res} (h : Core r rs) (f : Fresh r rs) : JInv r rs :=
  ⟨h.tinv, h.items_pw, h.objOK, h.delOK, fun it hit => let ⟨a, b, c⟩ := h.itemOK it hit; ⟨a, b, c, f.item it hit⟩,
    fun res hr => let ⟨_, b, c⟩ := h.resOK res hr; let ⟨a1, a2, a3, a4⟩ := f.res res hr
      ⟨a1, a2, b, a3, fun cur hc hid hl => ⟨(a4 cur hc hid hl).1, (a4 cur hc hid hl).2, c cur hc hid hl⟩⟩, f.sidO⟩

theorem jinv_iff_core_fresh {r : R} {rs : List Res} : JInv r rs ↔ Core r rs ∧ Fresh r rs :=
  ⟨fun h => ⟨h.core, h.fresh⟩, fun h => h.1.jinv h.2⟩

theorem Fresh.tail {r : R} {res : Res} {rs : List Res} (f : Fresh r (res :: rs)) : Fresh r rs :=
  ⟨f.sidO, f.item, fun res' hr => f.res res' (List.mem_cons_of_mem _ hr)⟩

/-- `Fresh` over a step that leaves the table alone and makes no new Update item; `hR`: a new
    result is fresh -/
theorem Fresh.frame {r r' : R} {rs rs' : List Res} (h : Fresh r rs) (hobjs : r'.objs = r.objs) (htableRev : r'.tableRev = r.tableRev)
    (hnextSid : r'.nextSid = r.nextSid)
    (hI : ∀ it ∈ r'.items, it.delete = false → ∃ it0 ∈ r.items, it0.id = it.id ∧ it0.rev = it.rev ∧ it0.obj = it.obj ∧ it0.delete = false)
    (hR : ∀ res ∈ rs', res ∈ rs ∨ FreshRes r.objs r.nextSid res) : Fresh r' rs' := by
  refine ⟨by rw [hobjs, hnextSid]; exact h.sidO, fun it hit hd => ?_, fun res hr => ?_⟩
  · obtain ⟨it0, hit0, e1, e2, e3, e4⟩ := hI it hit hd
    rw [hobjs, htableRev, hnextSid, ← e1, ← e2, ← e3]
    exact h.item it0 hit0 e4
  · rw [hobjs, hnextSid]
    exact (hR res hr).elim (h.res res) id

/-- `Fresh` over a write of `o`.  `hX`: an Update item of `o.id` stands to the written object as `Fresh.item` asks;
    `hL`: a waiting result that applies to the written object was computed for its data. -/
theorem Fresh.setObj {r r' : R} {rs rs' : List Res} (f : Fresh r rs) (o : RObj)
    (hobjs : r'.objs = (r.setObj o).objs) (htableRev : r'.tableRev = r.tableRev + 1) (hnextSid : r.nextSid ≤ r'.nextSid) (ho : o.sid < r'.nextSid)
    (hI : ∀ it ∈ r'.items, it.id ≠ o.id → it ∈ r.items)
    (hX : ∀ it ∈ r'.items, it.delete = false → it.id = o.id → it.rev ≤ r.tableRev + 1 ∧ it.obj.sid < r'.nextSid ∧
      ((o.kind = .error ∧ r.tableRev + 1 = it.rev ∧ o.data = it.obj.data ∧ o.other = it.obj.other) ∨
        (it.rev < r.tableRev + 1 ∧ (o.kind = .pending → o.sid ≠ it.obj.sid))))
    (hS : ∀ res ∈ rs', res ∈ rs)
    (hL : ∀ res ∈ rs', res.1.id = o.id → ResLive res { o with rev := r.tableRev + 1 } →
      o.data = res.1.data ∧ (r.tableRev + 1 = res.2.2.1 → o.other = res.1.other)) : Fresh r' rs' := by
  refine ⟨fun x hx => ?_, fun it hit hd => ?_, fun res hr => ?_⟩
  · rw [hobjs] at hx
    rcases (mem_setObj_objs ..).1 hx with ⟨hx, _⟩ | rfl
    · exact Nat.lt_of_lt_of_le (f.sidO x hx) hnextSid
    · exact ho
  · rw [hobjs, htableRev]
    by_cases hid : it.id = o.id
    · obtain ⟨a1, a2, a3⟩ := hX it hit hd hid
      refine ⟨a1, a2, fun x hx hxid => ?_⟩
      rcases (mem_setObj_objs ..).1 hx with ⟨_, hne⟩ | rfl
      · exact absurd (hxid.trans hid) hne
      · exact a3
    · obtain ⟨a1, a2, a3⟩ := f.item it (hI it hit hid) hd
      refine ⟨Nat.le_succ_of_le a1, Nat.lt_of_lt_of_le a2 hnextSid, fun x hx hxid => ?_⟩
      rcases (mem_setObj_objs ..).1 hx with ⟨hx, _⟩ | rfl
      · exact a3 x hx hxid
      · exact absurd hxid.symm hid
  · obtain ⟨a1, a2, a3, a4⟩ := f.res res (hS res hr)
    rw [hobjs]
    refine ⟨a1, a2, Nat.lt_of_lt_of_le a3 hnextSid, fun x hx hxid hl => ?_⟩
    rcases (mem_setObj_objs ..).1 hx with ⟨hx, _⟩ | rfl
    · exact a4 x hx hxid hl
    · exact hL res hr hxid.symm hl

theorem JItemOK.mono_sid {objs dels a b rs t n n'} {it : Item} (h : JItemOK objs dels a b rs t n it) (hn : n ≤ n') :
    JItemOK objs dels a b rs t n' it := by
  obtain ⟨h1, h2, h3, h4⟩ := h
  refine ⟨h1, h2, h3, fun hd => ?_⟩
  obtain ⟨a1, a2, a3⟩ := h4 hd
  exact ⟨a1, by omega, a3⟩

theorem JResOK.mono_sid {objs log items t n n'} {res : Res} (h : JResOK objs log items t n res) (hn : n ≤ n') :
    JResOK objs log items t n' res := by
  obtain ⟨h1, h2, h3, h4, h5⟩ := h
  exact ⟨h1, h2, h3, by omega, h5⟩

theorem JInv.bump {r r' : R} {rs : List Res} (h : JInv r rs) (h1 : r'.objs = r.objs) (h2 : r'.dels = r.dels)
    (h3 : r'.tableRev = r.tableRev) (h4 : r'.itRev = r.itRev) (h5 : r'.itDelRev = r.itDelRev)
    (h6 : r'.refreshedAt = r.refreshedAt) (h7 : r'.items = r.items) (h8 : r'.log = r.log)
    (h9 : r.nextSid ≤ r'.nextSid) : JInv r' rs := by
  refine ⟨h.tinv.congr h1 h2 h3 h4 h5 h6, ?_, ?_, ?_, ?_, ?_, ?_⟩
  · rw [h7]; exact h.items_pw
  · rw [h1, h7, h8, h4]; exact h.objOK
  · rw [h2, h7, h8, h5]; exact h.delOK
  · rw [h1, h2, h7, h4, h5, h3]; exact fun it hit => (h.itemOK it hit).mono_sid h9
  · rw [h1, h7, h8, h3]; exact fun res hr => (h.resOK res hr).mono_sid h9
  · rw [h1]; exact fun o ho => Nat.lt_of_lt_of_le (h.sidO o ho) h9

theorem JInv.congr {r r' : R} {rs : List Res} (h : JInv r rs) (hobjs : r'.objs = r.objs) (hdels : r'.dels = r.dels)
    (htableRev : r'.tableRev = r.tableRev) (hitRev : r'.itRev = r.itRev) (hitDelRev : r'.itDelRev = r.itDelRev)
    (hrefreshedAt : r'.refreshedAt = r.refreshedAt) (hitems : r'.items = r.items) (hlog : r'.log = r.log)
    (hnextSid : r'.nextSid = r.nextSid) : JInv r' rs :=
  h.bump hobjs hdels htableRev hitRev hitDelRev hrefreshedAt hitems hlog (Nat.le_of_eq hnextSid.symm)

theorem JInv.userPut {r : R} {rs : List Res} (h : JInv r rs) (id data : Nat) : JInv (r.userPut id data) rs := by
  obtain ⟨other, he⟩ := userPut_eq r id data
  rw [he]
  have hf := h.fresh
  -- a fresh status id and a revision beyond the table's: no waiting result applies to the new object
  have hdead : ∀ res ∈ rs, ¬ ResLive res { id, data, kind := .pending, sid := r.nextSid, other, rev := r.tableRev + 1 } :=
    fun res hr hl => hl.elim (fun e => Nat.not_succ_le_self _ (e ▸ (h.resOK res hr).rev_le))
      fun e => absurd (e.2.trans (hf.res res hr).2.1) (Nat.ne_of_gt (hf.res res hr).2.2.1)
  exact Core.jinv (Core.congr (h.core.setObj { id, data, kind := .pending, sid := r.nextSid, other, rev := 0 } nofun nofun
    (fun _ _ _ => Or.inl rfl) fun res hr _ hl => absurd hl (hdead res hr)) rfl rfl rfl rfl rfl rfl rfl rfl)
    (hf.setObj _ rfl rfl (Nat.le_succ _) (Nat.lt_succ_self _)
      (fun _ hit _ => hit)
      (fun it hit hd _ => have ⟨a1, a2, _⟩ := hf.item it hit hd
        ⟨Nat.le_succ_of_le a1, Nat.lt_succ_of_lt a2, Or.inr ⟨Nat.lt_succ_of_le a1, fun _ => Nat.ne_of_gt a2⟩⟩)
      (fun _ hr => hr) fun res hr _ hl => absurd hl (hdead res hr))

theorem JInv.delObj {r : R} {rs : List Res} (h : JInv r rs) (id : Nat) : JInv (r.delObj id) rs := by
  have hc := h.core.delObj id
  have hf := h.fresh
  cases hg : r.get id with
  | none => rw [delObj_of_none hg]; exact h
  | some o =>
    rw [delObj_of_get hg] at hc ⊢
    refine hc.jinv ⟨fun x hx => hf.sidO x (List.mem_filter.1 hx).1, fun it hit hd => ?_, fun res hr => ?_⟩
    · obtain ⟨a1, a2, a3⟩ := hf.item it hit hd
      exact ⟨Nat.le_succ_of_le a1, a2, fun x hx => a3 x (List.mem_filter.1 hx).1⟩
    · obtain ⟨a1, a2, a3, a4⟩ := hf.res res hr
      exact ⟨a1, a2, a3, fun cur hcur => a4 cur (List.mem_filter.1 hcur).1⟩

/-- `hne`: see `InvL.touch` (K4) -/
theorem JInv.touch {r : R} {rs : List Res} (h : JInv r rs) (id : Nat) (hne : ∀ o, r.get id = some o → o.kind ≠ .error) :
    JInv (r.touch id) rs := by
  cases hg : r.get id with
  | none => rw [touch_of_none hg]; exact h
  | some o =>
    have hk := hne o hg
    have hf := h.fresh
    rw [touch_of_get hg]
    obtain ⟨ho, rfl⟩ := (get_eq_some_iff h.tinv ..).1 hg
    -- the touched object has a new revision: a result applies to it only through the pending id, as it did before
    have hold : ∀ res ∈ rs, ResLive res { o with other := o.other + 1, rev := r.tableRev + 1 } → ResLive res o :=
      fun res hr hl => hl.imp_left fun e => absurd (e ▸ (h.resOK res hr).rev_le) (Nat.not_succ_le_self _)
    exact (h.core.setObj { o with other := o.other + 1 } (h.objOK o ho).of_done hk
      (fun it hit hid => (h.objOK o ho).needs_of_item hk hit hid) fun res hr _ hl => ⟨o, ho, rfl, hold res hr hl⟩).jinv
      (hf.setObj _ rfl rfl (Nat.le_refl _) (hf.sidO o ho)
        (fun _ hit _ => hit)
        (fun it hit hd hid => have ⟨a1, a2, a3⟩ := hf.item it hit hd
          ⟨Nat.le_succ_of_le a1, a2, (a3 o ho hid.symm).elim (fun e => absurd e.1 hk) fun b => Or.inr ⟨Nat.lt_succ_of_le a1, b.2⟩⟩)
        (fun _ hr => hr) fun res hr hid hl => ⟨((hf.res res hr).2.2.2 o ho hid.symm (hold res hr hl)).1,
          fun e => absurd (e ▸ (h.resOK res hr).rev_le) (Nat.not_succ_le_self _)⟩)

end Sdb.Rec
