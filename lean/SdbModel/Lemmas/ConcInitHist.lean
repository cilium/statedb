import SdbModel.Lemmas.ConcInitReach

/-!
  First, what one SCHEDULER step does to the committed root and to the closed channels, with all fields
  of the table versions, in every state satisfying `Sim` and `CI`: one predicate `RunJ` carried along the
  micro steps of the run, from which the `step_…_cases` are read off.

  Then the committed writers (`SW`) and the first invariant obtained from `reachFrom_inv`: what a
  committed writer has notified or collected is closed once it is past that action (`ClosedOK`).
-/
namespace Sdb.Conc

/-- the committed root after the commit of writer `th` -/
def CommitRoot (root root' : List TableV) (th : Thread) : Prop :=
  root'.length = root.length ∧ ∀ x, x < root.length →
    (x ∈ th.tables → ∃ n, getT root' x =
      clr (uwEntry (th.regInit.contains x) (th.markInit.contains x) n (getT root x))) ∧
    (x ∉ th.tables → getT root' x = getT root x)

def RootAlt (st : State) (cs : List Bool) (tid : Nat) (th0 : Thread) (a : State × Thread) : Prop :=
  (a.1.root = st.root ∧ (Micro.act .storeRoot ∈ a.2.prog ↔ Micro.act .storeRoot ∈ th0.prog)) ∨
  (Micro.act .storeRoot ∈ th0.prog ∧ Micro.act .storeRoot ∉ a.2.prog ∧
    ((cs[tid]? = some true ∧ CommitRoot st.root a.1.root th0) ∨
     (th0.tables = [] ∧ ∃ w, a.1.root = st.root ++ [{ watch := w }])))

/-- where a closed channel of the current run comes from -/
structure ClosedBy (cs : List Bool) (tid : Nat) (th0 th : Thread) (w : Nat) : Prop where
  flag : cs[tid]? = some true
  stored : Micro.act .storeRoot ∉ th.prog
  action : (Micro.act .notify ∈ th0.prog ∧ Micro.act .notify ∉ th.prog ∧ w ∈ th.toNotify) ∨
    (Micro.act .closeInit ∈ th0.prog ∧ Micro.act .closeInit ∉ th.prog ∧ w ∈ th.initToClose)

/-- what a run of thread `tid` (record `th0` at its start) has done to the root and to the closed channels -/
def RunJ (st : State) (cs : List Bool) (tid : Nat) (th0 : Thread) (a : State × Thread) : Prop :=
  RootAlt st cs tid th0 a ∧ ∃ l, a.1.closed = st.closed ++ l ∧ ∀ w, w ∈ l → ClosedBy cs tid th0 a.2 w

theorem RunJ_micro (st : State) (cs : List Bool) (tid : Nat) (th0 : Thread) (a b : State × Thread) (c : Bool)
    (ctx : MicroCtx cs tid a b c) (fr : RunFrame th0 a.2) (h : RunJ st cs tid th0 a) : RunJ st cs tid th0 b := by
  obtain ⟨jr, l, jl, jc⟩ := h
  have hfr := ctx.frame
  have keep : b.1.root = a.1.root → (Micro.act .storeRoot ∈ b.2.prog ↔ Micro.act .storeRoot ∈ a.2.prog) →
      RootAlt st cs tid th0 b := by
    intro hr hiff
    rcases jr with ⟨r1, r2⟩ | ⟨r1, r2, r3⟩
    · exact Or.inl ⟨by rw [hr]; exact r1, hiff.trans r2⟩
    · exact Or.inr ⟨r1, fun hm => r2 (hfr.sub _ hm), by rw [hr]; exact r3⟩
  have stored : Micro.act .storeRoot ∉ a.2.prog →
      (Micro.act .storeRoot ∈ b.2.prog ↔ Micro.act .storeRoot ∈ a.2.prog) := fun hs =>
    ⟨fun hm => absurd (hfr.sub _ hm) hs, fun hm => absurd hm hs⟩
  have carry : ∀ w, ClosedBy cs tid th0 a.2 w → ClosedBy cs tid th0 b.2 w := by
    intro w ⟨g1, g2, g3⟩
    obtain ⟨e1, e2⟩ := hfr.stored (Option.some.inj (ctx.flag.symm.trans g1)) g2
    refine ⟨g1, fun hm => g2 (hfr.sub _ hm), ?_⟩
    rcases g3 with ⟨k1, k2, k3⟩ | ⟨k1, k2, k3⟩
    · exact Or.inl ⟨k1, fun hm => k2 (hfr.sub _ hm), by rw [e1]; exact k3⟩
    · exact Or.inr ⟨k1, fun hm => k2 (hfr.sub _ hm), by rw [e2]; exact k3⟩
  have closed : ∀ l', b.1.closed = a.1.closed ++ l' → (∀ w, w ∈ l' → ClosedBy cs tid th0 b.2 w) →
      ∃ l, b.1.closed = st.closed ++ l ∧ ∀ w, w ∈ l → ClosedBy cs tid th0 b.2 w := fun l' hcl hl' =>
    ⟨l ++ l', by rw [hcl, jl, List.append_assoc],
      fun w hw => (List.mem_append.1 hw).elim (fun hw => carry w (jc w hw)) (hl' w)⟩
  have same : b.1.closed = a.1.closed → ∃ l, b.1.closed = st.closed ++ l ∧ ∀ w, w ∈ l → ClosedBy cs tid th0 b.2 w :=
    fun hcl => closed [] (by rw [hcl, List.append_nil]) nofun
  cases ctx.eff with
  | quiet hroot hclosed hstore => exact ⟨keep hroot hstore, same hclosed⟩
  | notify hc hroot hclosed hahead hgone hstored =>
    refine ⟨keep hroot (stored hstored), closed _ hclosed fun w hw => ?_⟩
    exact ⟨by rw [ctx.flag, hc], fun hm => hstored (hfr.sub _ hm),
      Or.inl ⟨fr.sub _ hahead, hgone, by rw [(hfr.stored hc hstored).1]; exact hw⟩⟩
  | closeInit hc hroot hclosed hahead hgone hstored =>
    refine ⟨keep hroot (stored hstored), closed _ hclosed fun w hw => ?_⟩
    exact ⟨by rw [ctx.flag, hc], fun hm => hstored (hfr.sub _ hm),
      Or.inr ⟨fr.sub _ hahead, hgone, by rw [(hfr.stored hc hstored).2]; exact hw⟩⟩
  | commit hc hclosed hahead hgone _ hlen _ htables =>
    refine ⟨?_, same hclosed⟩
    rcases jr with ⟨r1, r2⟩ | ⟨_, r2, _⟩
    · right
      refine ⟨r2.1 hahead, hgone, Or.inl ⟨by rw [ctx.flag, hc], ?_⟩⟩
      rw [r1] at hlen htables
      refine ⟨hlen, fun x hx => ?_⟩
      obtain ⟨g1, g2⟩ := htables x hx
      have hmem : x ∈ lockList a.2 ↔ x ∈ th0.tables := by rw [mem_lockList, fr.tables]
      constructor
      · intro hxt
        obtain ⟨_, ⟨n, hn⟩, g⟩ := g1 (hmem.2 hxt)
        exact ⟨n, by rw [g, hn, fr.regInit, fr.markInit]⟩
      · intro hxt
        exact g2 (fun hm => hxt (hmem.1 hm))
    · exact absurd hahead r2
  | register hnotab hclosed hahead hgone hroot =>
    refine ⟨?_, same hclosed⟩
    rcases jr with ⟨r1, r2⟩ | ⟨_, r2, _⟩
    · right
      exact ⟨r2.1 hahead, hgone, Or.inr ⟨by rw [← fr.tables]; exact hnotab, a.1.nextChan, by rw [hroot, r1]⟩⟩
    · exact absurd hahead r2

theorem step_run_cases (st : State) (cs : List Bool) (tid : Nat) (hsim : Sim st cs) (hCI : CI st cs none) :
    (step st tid).1 = st ∨ ∃ th th', st.threads[tid]? = some th ∧ (step st tid).1.threads[tid]? = some th' ∧
      RunJ st cs tid th ((step st tid).1, th') := by
  rcases step_with st cs tid hsim hCI (RunJ st cs tid) (RunJ_micro st cs tid)
      (fun th _ => ⟨Or.inl ⟨rfl, Iff.rfl⟩, [], (List.append_nil _).symm, nofun⟩) with
    he | ⟨th, st', th', hth, _, _, hj, he, hthr⟩
  · exact Or.inl he
  · have hlt : tid < st'.threads.length := by rw [hthr]; exact LB.lt_of_getElem? hth
    rw [he]
    exact Or.inr ⟨th, th', hth, install_own st' tid th' hlt, hj⟩

theorem step_root_cases (st : State) (cs : List Bool) (tid : Nat) (hsim : Sim st cs) (hCI : CI st cs none) :
    (step st tid).1.root = st.root ∨
    (∃ th th', st.threads[tid]? = some th ∧ (step st tid).1.threads[tid]? = some th' ∧ cs[tid]? = some true ∧
      Micro.act .storeRoot ∈ th.prog ∧ Micro.act .storeRoot ∉ th'.prog ∧
      CommitRoot st.root (step st tid).1.root th) ∨
    (∃ th w, st.threads[tid]? = some th ∧ th.tables = [] ∧ Micro.act .storeRoot ∈ th.prog ∧
      (step st tid).1.root = st.root ++ [{ watch := w }]) := by
  rcases step_run_cases st cs tid hsim hCI with he | ⟨th, th', hth, hth', jr, _⟩
  · rw [he]; exact Or.inl rfl
  · rcases jr with ⟨r1, _⟩ | ⟨r1, r2, r3 | r3⟩
    · exact Or.inl r1
    · exact Or.inr (Or.inl ⟨th, th', hth, hth', r3.1, r1, r2, r3.2⟩)
    · obtain ⟨t, w, hw⟩ := r3
      exact Or.inr (Or.inr ⟨th, w, hth, t, r1, hw⟩)

theorem step_table_cases (st : State) (cs : List Bool) (tid : Nat) (hsim : Sim st cs) (hCI : CI st cs none) (x : Nat)
    (hx : x < st.root.length) :
    x < (step st tid).1.root.length ∧
    (getT (step st tid).1.root x = getT st.root x ∨
     (cs[tid]? = some true ∧ ∃ th th', st.threads[tid]? = some th ∧ (step st tid).1.threads[tid]? = some th' ∧
      x ∈ th.tables ∧ Micro.act .storeRoot ∈ th.prog ∧ Micro.act .storeRoot ∉ th'.prog ∧
      ∃ m, getT (step st tid).1.root x =
        clr (uwEntry (th.regInit.contains x) (th.markInit.contains x) m (getT st.root x)))) := by
  rcases step_root_cases st cs tid hsim hCI with he | ⟨th, th', hth, hth', hc, hs, hs', hlen, hcr⟩ | ⟨th, w, _, _, _, he⟩
  · rw [he]; exact ⟨hx, Or.inl rfl⟩
  · refine ⟨by rw [hlen]; exact hx, ?_⟩
    by_cases hxt : x ∈ th.tables
    · exact Or.inr ⟨hc, th, th', hth, hth', hxt, hs, hs', (hcr x hx).1 hxt⟩
    · exact Or.inl ((hcr x hx).2 hxt)
  · rw [he]
    exact ⟨by rw [List.length_append]; exact Nat.lt_add_right _ hx, Or.inl (getT_append_left _ _ _ hx)⟩

theorem step_closed_cases (st : State) (cs : List Bool) (tid : Nat) (hsim : Sim st cs) (hCI : CI st cs none) :
    ∃ l, (step st tid).1.closed = st.closed ++ l ∧
    ∀ w, w ∈ l →
      ∃ th th', st.threads[tid]? = some th ∧ (step st tid).1.threads[tid]? = some th' ∧ ClosedBy cs tid th th' w := by
  rcases step_run_cases st cs tid hsim hCI with he | ⟨th, th', hth, hth', _, l, jl, jc⟩
  · rw [he]; exact ⟨[], (List.append_nil _).symm, nofun⟩
  · exact ⟨l, jl, fun w hw => ⟨th, th', hth, hth', jc w hw⟩⟩

theorem step_closed_abort (st : State) (cs : List Bool) (tid : Nat) (hsim : Sim st cs) (hCI : CI st cs none)
    (hc : cs[tid]? = some false) : (step st tid).1.closed = st.closed := by
  obtain ⟨l, h1, h2⟩ := step_closed_cases st cs tid hsim hCI
  cases l with
  | nil => simpa using h1
  | cons w l =>
    obtain ⟨_, _, _, _, by_⟩ := h2 w (by simp)
    exact absurd (hc.symm.trans by_.flag) (by simp)

/-- thread `j` is a committing writer past its `storeRoot` -/
structure SW (st : State) (cs : List Bool) (j : Nat) (T : Thread) : Prop where
  thread : st.threads[j]? = some T
  flag : cs[j]? = some true
  stored : Micro.act .storeRoot ∉ T.prog

theorem sw_spawn (st : State) (cs : List Bool) (thn : Thread) (c : Bool) (hlen : cs.length = st.threads.length)
    (hnew : c = true → Micro.act .storeRoot ∈ thn.prog) (j : Nat) (T : Thread) :
    SW { st with threads := st.threads ++ [thn] } (cs ++ [c]) j T ↔ SW st cs j T := by
  constructor
  · intro ⟨hj, hcj, hs⟩
    rcases spawn_lookup st cs thn c hlen j T hj with ⟨a, b⟩ | ⟨_, rfl, b⟩
    · exact ⟨a, b ▸ hcj, hs⟩
    · exact absurd (hnew (Option.some.inj (b.symm.trans hcj))) hs
  · intro ⟨hj, hcj, hs⟩
    obtain ⟨g1, g2⟩ := spawn_old st cs thn c hlen j T hj
    exact ⟨g1, by rw [g2]; exact hcj, hs⟩

/-! a micro step removes nothing but the head of the program (at its end it only sets `done`) -/

theorem mstep_only_head (st : State) (tid : Nat) (th : Thread) (st' : State) (th' : Thread)
    (h : mstep st tid th = some (st', th')) (m : Micro) (hm : m ∈ th.prog) (hm' : m ∉ th'.prog) :
    th.prog.head? = some m := by
  rw [(mstep_frame st tid th st' th' h).prog] at hm'
  cases hp : th.prog with
  | nil => rw [hp] at hm; simp at hm
  | cons a rest =>
    rw [hp] at hm hm'
    simp only [List.tail_cons] at hm'
    simp only [List.mem_cons] at hm
    rcases hm with rfl | hm
    · rfl
    · exact absurd hm hm'

theorem mstep_only_one {st : State} {tid : Nat} {th : Thread} {st' : State} {th' : Thread}
    (h : mstep st tid th = some (st', th')) {m m' : Micro} (hm : m ∈ th.prog) (hm' : m ∉ th'.prog)
    (hn : m' ∈ th.prog) (hn' : m' ∉ th'.prog) : m = m' :=
  Option.some.inj ((mstep_only_head st tid th st' th' h m hm hm').symm.trans (mstep_only_head st tid th st' th' h m' hn hn'))

/-- once a committed writer is past its `notify` (`closeInit`), the channels it notified (collected) are closed -/
def ClosedOK (st : State) (cs : List Bool) : Prop :=
  ∀ j T, SW st cs j T →
    (Micro.act .notify ∉ T.prog → ∀ w ∈ T.toNotify, w ∈ st.closed) ∧
    (Micro.act .closeInit ∉ T.prog → ∀ w ∈ T.initToClose, w ∈ st.closed)

theorem ClosedOK.notified {st : State} {cs : List Bool} (h : ClosedOK st cs) {j : Nat} {T : Thread} (hT : SW st cs j T)
    (hn : Micro.act .notify ∉ T.prog) : ∀ w ∈ T.toNotify, w ∈ st.closed := (h j T hT).1 hn

theorem ClosedOK.collected {st : State} {cs : List Bool} (h : ClosedOK st cs) {j : Nat} {T : Thread} (hT : SW st cs j T)
    (hn : Micro.act .closeInit ∉ T.prog) : ∀ w ∈ T.initToClose, w ∈ st.closed := (h j T hT).2 hn

/-- the step after which a channel action is gone is that action: it appends the thread's list -/
theorem closes_of_gone {cs : List Bool} {tid : Nat} {a b : State × Thread} {c : Bool} (ctx : MicroCtx cs tid a b c) :
    (Micro.act .notify ∈ a.2.prog → Micro.act .notify ∉ b.2.prog → ∀ w ∈ a.2.toNotify, w ∈ b.1.closed) ∧
    (Micro.act .closeInit ∈ a.2.prog → Micro.act .closeInit ∉ b.2.prog → ∀ w ∈ a.2.initToClose, w ∈ b.1.closed) := by
  refine ⟨fun h h' w hw => ?_, fun h h' w hw => ?_⟩
  · cases ctx.eff with
    | quiet _ _ _ hnotify => exact absurd (hnotify.2 h) h'
    | notify _ _ hclosed => rw [hclosed]; exact List.mem_append_right _ hw
    | commit _ _ hahead hgone | register _ _ hahead hgone | closeInit _ _ _ hahead hgone =>
      exact absurd (mstep_only_one ctx.step h h' hahead hgone) (by decide)
  · cases ctx.eff with
    | quiet _ _ _ _ hclose => exact absurd (hclose.2 h) h'
    | closeInit _ _ hclosed => rw [hclosed]; exact List.mem_append_right _ hw
    | commit _ _ hahead hgone | register _ _ hahead hgone | notify _ _ _ hahead hgone =>
      exact absurd (mstep_only_one ctx.step h h' hahead hgone) (by decide)

theorem ClosedOK_micro (cs : List Bool) (tid : Nat) (a b : State × Thread) (c : Bool) (ctx : MicroCtx cs tid a b c)
    (h : ClosedOK (install a.1 tid a.2) cs) : ClosedOK (install b.1 tid b.2) cs := by
  intro j T' hT'
  have mono := ctx.eff.closed_mono
  rcases install_lookup a.1 b.1 tid a.2 b.2 ctx.lt ctx.threads j T' hT'.thread with ⟨rfl, rfl⟩ | ⟨_, hold, _⟩
  · have hown := install_own a.1 j a.2 ctx.lt
    have ord := commitOrder _ cs _ ctx.ci j a.2 hown hT'.flag
    by_cases hs : Micro.act .storeRoot ∈ a.2.prog
    · -- this step is the store: both channel actions are still ahead
      have gone : ∀ m, m ∈ a.2.prog → m ≠ .act .storeRoot → m ∈ b.2.prog := fun m hm hne =>
        Decidable.byContradiction fun hm' => hne (mstep_only_one ctx.step hm hm' hs hT'.stored)
      have hn : Micro.act .notify ∈ a.2.prog := Decidable.byContradiction fun hn => ord.notify_after_store hn hs
      have hc : Micro.act .closeInit ∈ a.2.prog := Decidable.byContradiction fun hc => ord.closeInit_after_notify hc hn
      exact ⟨fun h' => absurd (gone _ hn (by simp)) h', fun h' => absurd (gone _ hc (by simp)) h'⟩
    · obtain ⟨e1, e2⟩ := ctx.frame.stored (Option.some.inj (ctx.flag.symm.trans hT'.flag)) hs
      obtain ⟨o1, o2⟩ := h j a.2 ⟨hown, hT'.flag, hs⟩
      obtain ⟨c1, c2⟩ := closes_of_gone ctx
      rw [e1, e2]
      exact ⟨fun h' w hw => (Decidable.em _).elim (fun hn => c1 hn h' w hw) fun hn => mono w (o1 hn w hw),
        fun h' w hw => (Decidable.em _).elim (fun hn => c2 hn h' w hw) fun hn => mono w (o2 hn w hw)⟩
  · exact ⟨fun hn w hw => mono w ((h j T' ⟨hold, hT'.flag, hT'.stored⟩).1 hn w hw),
      fun hn w hw => mono w ((h j T' ⟨hold, hT'.flag, hT'.stored⟩).2 hn w hw)⟩

theorem reach_closedOK (P : Protocol) (hP : P.initShape = true) (n : Nat) (st : State) (cs : List Bool)
    (h : Reach P n st cs) : ClosedOK st cs :=
  reachFrom_inv P hP n _ _ .init ClosedOK
    (fun st cs thn c hlen hnew h j T hT => h j T ((sw_spawn st cs thn c hlen hnew j T).1 hT)) ClosedOK_micro
    (fun j T hT => by have := hT.thread; simp [initState] at this) st cs (reachFrom_of_reach P n st cs h)

end Sdb.Conc
