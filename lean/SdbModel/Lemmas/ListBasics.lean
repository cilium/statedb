/-!
  Facts about core lists that the models use under several names.  A list with distinct keys read by `find?` and
  written by replace-or-append (`Rec.R.setObj`, `RecLoop.FTable.set`); `set` read back by `getD` (the tables of a
  root: `Conc.getT`, `Chg.tbl`); a list of records addressed by position (`Serial.State.txns`, `Conc.State.threads`);
  merging by a key (`Tbl.mergeChanges`, `Rec.mergeCh` are core's `List.merge`) and
  sorting by insertion (`Conc.insertSorted`, `Rec.insertBy`, `Rec.insertCh` merge a singleton into the list).
  Nothing here mentions a model, so the module imports nothing and every family can stand on it.
-/
namespace Sdb.LB
variable {α : Type _}

/-! ### two members of a pairwise-related list -/

theorem pairwise_mem {R : α → α → Prop} {l : List α} (h : l.Pairwise R) {a b : α} (ha : a ∈ l) (hb : b ∈ l) :
    a = b ∨ R a b ∨ R b a := by
  induction l with
  | nil => cases ha
  | cons x xs ih =>
    rw [List.pairwise_cons] at h
    simp only [List.mem_cons] at ha hb
    rcases ha with rfl | ha <;> rcases hb with rfl | hb
    · exact .inl rfl
    · exact .inr (.inl (h.1 _ hb))
    · exact .inr (.inr (h.1 _ ha))
    · exact ih h.2 ha hb

/-! ### lists read by key -/
section keyed
variable {κ : Type _} (key : α → κ)

theorem eq_of_key {l : List α} (h : l.Pairwise fun a b => key a ≠ key b) {a b : α} (ha : a ∈ l) (hb : b ∈ l)
    (e : key a = key b) : a = b :=
  (pairwise_mem h ha hb).elim id fun h => h.elim (absurd e) (absurd e.symm)

variable [DecidableEq κ]

theorem find_key_some {l : List α} {k : κ} {a : α} (h : l.find? (key · = k) = some a) : a ∈ l ∧ key a = k :=
  ⟨List.mem_of_find?_eq_some h, by simpa using List.find?_some h⟩

theorem find_key_none {l : List α} {k : κ} : l.find? (key · = k) = none ↔ ∀ a ∈ l, key a ≠ k := by
  simp [List.find?_eq_none]

theorem find_key_of_mem {l : List α} (h : l.Pairwise fun a b => key a ≠ key b) {a : α} (ha : a ∈ l) :
    l.find? (key · = key a) = some a := by
  cases hf : l.find? (key · = key a) with
  | none => exact absurd rfl ((find_key_none key).1 hf a ha)
  | some b => rw [eq_of_key key h (find_key_some key hf).1 ha (find_key_some key hf).2]

/-- dropping the entries of key `k` -/
theorem find_key_filter (l : List α) (k id : κ) :
    (l.filter (key · ≠ k)).find? (key · = id) = if id = k then none else l.find? (key · = id) := by
  induction l with
  | nil => simp
  | cons a as ih =>
    by_cases ha : key a = k <;> by_cases hi : key a = id <;> simp_all

/-- replacing the entries of key `k` by `n`, itself of key `k` -/
theorem find_key_replace (l : List α) {n : α} {k : κ} (hn : key n = k) (id : κ) :
    (l.map fun x => if key x = k then n else x).find? (key · = id) =
      (l.find? (key · = id)).map fun x => if id = k then n else x := by
  induction l with
  | nil => rfl
  | cons a as ih =>
    have hx : key (if key a = k then n else a) = key a := by split <;> simp_all
    simp only [List.map_cons, List.find?_cons, hx]
    by_cases h : key a = id
    · subst h; simp
    · simp [h, ih]

/-- replace in place or append, as `Rec.R.setObj` and `RecLoop.FTable.set` write it out -/
theorem find_key_upsert (l : List α) (o : α) (id : κ) :
    (if l.any (key · = key o) then l.map (fun x => if key x = key o then o else x) else l ++ [o]).find? (key · = id) =
      if id = key o then some o else l.find? (key · = id) := by
  split
  · next hany =>
    rw [find_key_replace key l rfl]
    split
    · next hid =>
      subst hid
      obtain ⟨x, hx, hk⟩ := List.any_eq_true.1 hany
      cases hf : l.find? (key · = key o) with
      | none => exact absurd (by simpa using hk) ((find_key_none key).1 hf x hx)
      | some y => rfl
    · exact Option.map_id'
  · next hany =>
    rw [List.find?_append]
    split
    · next hid =>
      subst hid
      rw [(find_key_none key).2 fun a ha e => hany (List.any_eq_true.2 ⟨a, ha, by simpa using e⟩)]
      simp
    · next hid =>
      have : ¬ key o = id := fun e => hid e.symm
      simp [this]

theorem mem_upsert (l : List α) (o x : α) :
    x ∈ (if l.any (key · = key o) then l.map (fun x => if key x = key o then o else x) else l ++ [o]) ↔
      (x ∈ l ∧ key x ≠ key o) ∨ x = o := by
  split
  · next hany =>
    obtain ⟨y, hy, hk⟩ := List.any_eq_true.1 hany
    simp only [List.mem_map]
    constructor
    · rintro ⟨z, hz, rfl⟩
      by_cases hzk : key z = key o <;> simp [hzk, hz]
    · rintro (⟨hx, hxk⟩ | rfl)
      · exact ⟨x, hx, by simp [hxk]⟩
      · exact ⟨y, hy, if_pos (by simpa using hk)⟩
  · next hany =>
    have : ∀ a ∈ l, key a ≠ key o := fun a ha e => hany (List.any_eq_true.2 ⟨a, ha, by simpa using e⟩)
    simp only [List.mem_append, List.mem_singleton]
    exact ⟨fun h => h.imp (fun hx => ⟨hx, this x hx⟩) id, fun h => h.imp (·.1) id⟩

end keyed

/-! ### `set` read by `getD` -/

theorem getD_set (l : List α) (i j : Nat) (v d : α) :
    (l.set i v).getD j d = if j = i ∧ i < l.length then v else l.getD j d := by
  simp only [List.getD_eq_getElem?_getD, List.getElem?_set]
  by_cases h : i = j
  · subst h; by_cases hl : i < l.length <;> simp [hl]
  · have : ¬ j = i := fun e => h e.symm
    simp [h, this]

/-! ### one position of a list -/

theorem lt_of_getElem? {l : List α} {i : Nat} {a : α} (h : l[i]? = some a) : i < l.length :=
  let ⟨h, _⟩ := List.getElem?_eq_some_iff.1 h; h

theorem getElem?_set_lt {l : List α} {i : Nat} (hi : i < l.length) (j : Nat) (a : α) :
    (l.set i a)[j]? = if j = i then some a else l[j]? := by
  rw [List.getElem?_set, if_pos hi]
  by_cases h : i = j
  · rw [if_pos h, if_pos h.symm]
  · rw [if_neg h, if_neg fun e => h e.symm]

theorem set_self {l : List α} {i : Nat} {a : α} (h : l[i]? = some a) : l.set i a = l := by
  obtain ⟨hlt, rfl⟩ := List.getElem?_eq_some_iff.1 h
  exact List.set_getElem_self hlt

theorem forall_concat {l : List α} (a : α) (P : Nat → α → Prop) (h1 : P l.length a)
    (h2 : ∀ j u, l[j]? = some u → P j u) : ∀ j u, (l ++ [a])[j]? = some u → P j u := by
  intro j u hj
  rw [List.getElem?_append] at hj
  split at hj
  · exact h2 j u hj
  · rename_i hge
    have hl : j - l.length < 1 := lt_of_getElem? hj
    obtain rfl : j = l.length :=
      Nat.le_antisymm (Nat.le_of_sub_eq_zero (Nat.lt_one_iff.1 hl)) (Nat.le_of_not_lt hge)
    cases List.mem_singleton.1 (List.mem_of_getElem? hj)
    exact h1

theorem drop_of_getElem? (l : List α) (k : Nat) (a : α) (h : l[k]? = some a) : l.drop k = a :: l.drop (k + 1) := by
  obtain ⟨hlt, rfl⟩ := List.getElem?_eq_some_iff.1 h
  exact List.drop_eq_getElem_cons hlt

theorem drop_of_getElem?_none (l : List α) (k : Nat) (h : l[k]? = none) : l.drop k = [] :=
  List.drop_eq_nil_of_le (List.getElem?_eq_none_iff.1 h)

theorem eq_take_cons_drop {l : List α} {k : Nat} {a : α} (hk : l[k]? = some a) :
    l = l.take k ++ a :: l.drop (k + 1) := by
  rw [← drop_of_getElem? l k a hk, List.take_append_drop]

theorem mem_take_succ {l : List α} {k : Nat} {a : α} (hk : l[k]? = some a) (x : α) :
    x ∈ l.take (k + 1) ↔ x ∈ l.take k ∨ x = a := by
  rw [List.take_add_one, hk]
  simp

theorem mem_drop_iff {l : List α} {k : Nat} {a : α} (hk : l[k]? = some a) (x : α) :
    x ∈ l.drop k ↔ x = a ∨ x ∈ l.drop (k + 1) := by
  rw [drop_of_getElem? l k a hk, List.mem_cons]

theorem sum_map_set (f : α → Nat) : ∀ (l : List α) (i : Nat) (a b : α), l[i]? = some a →
    ((l.set i b).map f).sum + f a = (l.map f).sum + f b := by
  intro l
  induction l with
  | nil => intro i a b h; simp at h
  | cons c l ih =>
    intro i a b h
    cases i with
    | zero =>
      simp only [List.getElem?_cons_zero, Option.some.injEq] at h; subst h
      simp only [List.set_cons_zero, List.map_cons, List.sum_cons]; omega
    | succ i =>
      simp only [List.getElem?_cons_succ] at h
      have := ih i a b h
      simp only [List.set_cons_succ, List.map_cons, List.sum_cons]; omega

/-- core's `List.countP_set` without the truncated subtraction -/
theorem countP_set (p : α → Bool) (l : List α) (i : Nat) (a b : α) (h : l[i]? = some a) :
    (l.set i b).countP p + (if p a then 1 else 0) = l.countP p + (if p b then 1 else 0) := by
  have sum : ∀ l : List α, l.countP p = (l.map fun a => if p a then 1 else 0).sum := fun l => by
    induction l with
    | nil => rfl
    | cons c l ih => rw [List.countP_cons, ih, List.map_cons, List.sum_cons, Nat.add_comm]
  rw [sum, sum]
  exact sum_map_set _ l i a b h

theorem countP_set_same (p : α → Bool) (l : List α) (i : Nat) (a b : α)
    (h : l[i]? = some a) (hp : p b = p a) : (l.set i b).countP p = l.countP p := by
  have := countP_set p l i a b h
  rw [hp] at this
  omega

theorem countP_set_gain (p : α → Bool) (l : List α) (i : Nat) (a b : α)
    (h : l[i]? = some a) (hpa : p a = false) (hpb : p b = true) : (l.set i b).countP p = l.countP p + 1 := by
  have := countP_set p l i a b h
  rw [hpa, hpb] at this
  exact this

/-! ### merge by a key
  Strictness is not core's: the order `≤` comes from `List.pairwise_merge`, distinctness is carried along `Perm`. -/

theorem pairwise_le_merge (k : α → Nat) {l r : List α} (hl : l.Pairwise fun a b => k a ≤ k b)
    (hr : r.Pairwise fun a b => k a ≤ k b) : (l.merge r fun a b => k a ≤ k b).Pairwise fun a b => k a ≤ k b :=
  (List.pairwise_merge (le := fun a b => decide (k a ≤ k b))
    (fun a b c h1 h2 => decide_eq_true (Nat.le_trans (of_decide_eq_true h1) (of_decide_eq_true h2)))
    (fun a b => by simp only [Bool.or_eq_true, decide_eq_true_eq]; exact Nat.le_total _ _) l r
    (hl.imp decide_eq_true) (hr.imp decide_eq_true)).imp of_decide_eq_true

theorem pairwise_lt_merge (k : α → Nat) {l r : List α} (hl : l.Pairwise fun a b => k a < k b)
    (hr : r.Pairwise fun a b => k a < k b) (hd : ∀ a ∈ l, ∀ b ∈ r, k a ≠ k b) :
    (l.merge r fun a b => k a ≤ k b).Pairwise fun a b => k a < k b :=
  (pairwise_le_merge k (hl.imp Nat.le_of_lt) (hr.imp Nat.le_of_lt)).imp₂ (fun _ _ => Nat.lt_of_le_of_ne)
    (((List.merge_perm_append _).pairwise_iff Ne.symm).2
      (List.pairwise_append.2 ⟨hl.imp Nat.ne_of_lt, hr.imp Nat.ne_of_lt, hd⟩))

/-! ### sorted insertion -/

/-- sorting by insertion as the models' folds do it, each insertion the merge of a singleton -/
abbrev isort (le : α → α → Bool) (l : List α) : List α := l.foldr (fun x acc => [x].merge acc le) []

theorem perm_isort (le : α → α → Bool) (l : List α) : (isort le l).Perm l := by
  induction l with
  | nil => exact .nil
  | cons x xs ih => exact (List.merge_perm_append le).trans (ih.cons x)

theorem pairwise_le_isort (k : α → Nat) (l : List α) : (isort (fun a b => k a ≤ k b) l).Pairwise fun a b => k a ≤ k b := by
  induction l with
  | nil => exact .nil
  | cons x xs ih => exact pairwise_le_merge k (List.pairwise_singleton _ _) ih

theorem pairwise_lt_isort (k : α → Nat) {l : List α} (h : l.Pairwise fun a b => k a ≠ k b) :
    (isort (fun a b => k a ≤ k b) l).Pairwise fun a b => k a < k b :=
  (pairwise_le_isort k l).imp₂ (fun _ _ => Nat.lt_of_le_of_ne) (((perm_isort _ l).pairwise_iff Ne.symm).2 h)

end Sdb.LB
