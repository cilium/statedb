import SdbModel.Lemmas.ConcInitStore

/-!
  EVERY micro step of `Model.Conc` preserves `CI`, and what it does to the committed root and to the
  closed channels is one of: nothing; the `storeRoot` of a committing writer replaces the versions of
  exactly its tables by the versions it computed from the committed ones; the `storeRoot` of a
  registration appends a table; `notify` closes the watch channels of the replaced versions; `closeInit`
  closes the collected init channels.  One case analysis over the program position, on the step lemmas of
  `ConcInitStep` / `ConcInitStore`.
-/
namespace Sdb.Conc

theorem doAct_irrelevant2 (st : State) (th : Thread) (a : Act) (h : relevantAct2 a = false) :
    ∃ r, doAct st th a = (st, { th with result := r }) := by
  cases a with
  | hook _ | dedupTables | commitIndexes | returnToPool => exact ⟨_, rfl⟩
  | _ => cases h

theorem not_tracked_irrelevant (m : Micro) (h : relevant2 m = false) : ¬ tracked m := by
  rintro (rfl | rfl | rfl | rfl) <;> simp [relevant2, relevantAct2] at h

theorem CI_irrelevant {st : State} {cs : List Bool} {tid : Nat} {th : Thread} {c : Bool} {m : Micro}
    {rest : List Micro} {p : Pos2} (S : At st cs tid th c m rest p) (r : Option (List TableV))
    (hm : relevant2 m = false) (hstrip : strip2 rest = code2 (lockList th) c p) :
    StepCI st st cs tid th { th with prog := rest, result := r } c :=
  CI_pop S (not_tracked_irrelevant m hm) rfl (S.pop r) rfl rfl rfl rfl hstrip
    (Loc_pop _ _ th c p m rest r S.prog (fun e => by subst e; simp [relevant2, relevantAct2] at hm) S.loc)

theorem CI_finish (st : State) (cs : List Bool) (tid : Nat) (th : Thread) (c : Bool)
    (hCI : CI (install st tid th) cs (some tid)) (htid : tid < st.threads.length) (hc : cs[tid]? = some c) :
    StepCI st st cs tid th { th with done := true } c := by
  have hown_old := install_own st tid th htid
  have ok := hCI.thread hown_old hc
  obtain ⟨p, hp, hl⟩ := ok.pos
  have hfr : EffFrame th { th with done := true } c := .same fun _ hm => hm
  refine ⟨?_, .quiet rfl rfl Iff.rfl Iff.rfl Iff.rfl, hfr⟩
  exact CI_quiet st st cs tid th _ c hCI htid hc rfl rfl rfl rfl
    (fun w hw => priv_congr th { th with done := true } c w (fun _ _ => Iff.rfl) hfr hw)
    (FI_congr th { th with done := true } c (fun _ _ => Iff.rfl) hfr (hCI.FIc tid th c hown_old hc)) hfr
    (.at p ok.bound ok.adj hp (by cases p <;> exact hl))

theorem mstep_ok (st : State) (cs : List Bool) (tid : Nat) (th : Thread) (st' : State) (th' : Thread)
    (hsim : Sim (install st tid th) cs) (htid : tid < st.threads.length)
    (hCI : CI (install st tid th) cs (some tid)) (h : mstep st tid th = some (st', th')) :
    ∃ c, cs[tid]? = some c ∧ StepCI st st' cs tid th th' c := by
  obtain ⟨c, hc, ok⟩ : ∃ c, cs[tid]? = some c ∧ ThreadOK st.root st.nextChan th c :=
    hCI.TH tid th (install_own st tid th htid)
  obtain ⟨p, hp0, hl⟩ := ok.pos
  have hb := ok.bound
  have hadj := ok.adj
  refine ⟨c, hc, ?_⟩
  cases hprog : th.prog with
  | nil =>
    simp only [mstep, hprog] at h
    split at h
    · simp at h
    · simp only [Option.some.injEq, Prod.mk.injEq] at h
      obtain ⟨rfl, rfl⟩ := h
      have := CI_finish st cs tid th c hCI htid hc
      rw [hprog] at this
      exact this
  | cons m rest =>
    have hp := hp0
    rw [hprog] at hp
    have huw : uwIn p = true → Micro.userWrites ∈ th.prog := (tracked_of_pos th _ c _ hp0).userWrites.2
    have S : At st cs tid th c m rest p :=
      { ci := hCI, lt := htid, flag := hc, prog := hprog, pos := hp0, bound := hb, adj := hadj, loc := hl }
    have sub := S.sub
    rcases pop_code2 _ _ p m rest hp with ⟨hm, hstrip⟩ | ⟨hm, p', hn, hstrip⟩
    · cases m with
      | park l =>
        cases mstep_cons hprog h
        exact CI_irrelevant S th.result hm hstrip
      | act a =>
        obtain ⟨r, hr⟩ := doAct_irrelevant2 st { th with prog := rest } a hm
        cases hr.symm.trans (mstep_act hprog h)
        exact CI_irrelevant S r hm hstrip
      | acquire _ | release _ | acquireRoot | releaseRoot | userWrites => exact Bool.noConfusion hm
    · cases p with
      | acq k =>
        simp only [next2] at hn
        cases hk : (lockList th)[k]? with
        | some tb =>
          rw [hk] at hn
          simp only [Option.some.injEq, Prod.mk.injEq] at hn
          obtain ⟨rfl, rfl⟩ := hn
          exact CI_move S (by simp) (by simp) h hstrip
            (fun _ _ => trivial)
        | none =>
          rw [hk] at hn
          simp only [Option.some.injEq, Prod.mk.injEq] at hn
          obtain ⟨rfl, rfl⟩ := hn
          cases mstep_act hprog h
          exact CI_act S (by simp) (by simp) (by simp) rfl
            ⟨rfl, rfl, rfl, sub, fun h => absurd (huw rfl) h, fun _ _ => ⟨rfl, rfl⟩⟩
            hstrip fun x hx => ⟨hb x hx, rfl⟩
      | clR =>
        cases hn
        cases mstep_act hprog h
        exact CI_act S (by simp) (by simp) (by simp) rfl
          ⟨rfl, rfl, rfl, sub, fun h => absurd (huw rfl) h, fun _ _ => ⟨rfl, rfl⟩⟩ hstrip ⟨hl, rfl⟩
      | clE =>
        cases hn
        cases mstep_act hprog h
        exact CI_act S (by simp) (by simp) (by simp) rfl
          (.same sub) hstrip ⟨hl.1, hl.2, rfl⟩
      | uw =>
        cases hn
        have := CI_userWrites S hstrip
        rw [mstep_cons hprog h] at this
        exact this
      | aR | rR | gA | gR | dA | dR =>
        cases hn
        exact CI_move S (by simp) (by simp) h hstrip (fun _ h => h)
      | lc =>
        cases hn
        cases mstep_act hprog h
        exact CI_act S (by simp) (by simp) (by simp) rfl
          (.same sub) hstrip ⟨hl.1, hl.2.1, hl.2.2, rfl⟩
      | mg =>
        cases hn
        cases mstep_act hprog h
        exact CI_mergeUnlocked S hstrip
      | ci =>
        cases hn
        cases mstep_act hprog h
        exact CI_collectInit S hstrip
      | sr =>
        cases hn
        cases mstep_act hprog h
        exact CI_storeCommit S hsim hstrip
      | nt =>
        cases hn
        cases mstep_act hprog h
        exact CI_notify S hstrip
      | rel k =>
        simp only [next2] at hn
        cases hk : (lockList th)[k]? with
        | some tb =>
          rw [hk] at hn
          simp only [Option.some.injEq, Prod.mk.injEq] at hn
          obtain ⟨rfl, rfl⟩ := hn
          refine CI_move S (by simp) (by simp) h hstrip ?_
          intro th'' hl''
          refine ⟨hl''.1, fun hc' => ⟨(hl''.2 hc').1, fun x hx => (hl''.2 hc').2 x ?_⟩⟩
          rw [← List.drop_drop] at hx
          exact List.mem_of_mem_drop hx
        | none =>
          rw [hk] at hn
          cases c with
          | false => simp at hn
          | true =>
            simp only [if_true, Option.some.injEq, Prod.mk.injEq] at hn
            obtain ⟨rfl, rfl⟩ := hn
            cases mstep_act hprog h
            exact CI_closeInit S hk hstrip
      | fin => simp [next2] at hn
      | gL =>
        cases hn
        cases mstep_act hprog h
        exact CI_act S (by simp) (by simp) (by simp) rfl
          (.same sub) hstrip ⟨hl.1, hl.2, rfl⟩
      | gP =>
        cases hn
        cases mstep_act hprog h
        rw [hprog] at hadj
        exact CI_act S (by simp) (by simp) (by simp) rfl
          (.same sub)
          hstrip ⟨hl.1, hl.2.1, by show th.curRoot ++ _ = _; rw [hl.2.2], adjOK_head rest hadj⟩
      | gS =>
        cases hn
        cases mstep_act hprog h
        exact CI_storeReg S hsim hstrip
      | gE => simp [next2] at hn
      | dL =>
        cases hn
        cases mstep_act hprog h
        exact CI_act S (by simp) (by simp) (by simp) rfl
          (.same sub) hstrip hl

end Sdb.Conc
