import SdbModel.Lemmas.IndexBase
/-!
  C04, non-unique multi-key secondary index `tagIdx`, keyed by `P.composite id tag` =
  enc tag ++ 0 ++ enc id ++ uint16 |enc id|.  Under the invariant `TagInv` (sorted; one entry per live object
  and tag of it) the index is read as the sorted list `tagTriples` of (tag, id, object).  The byte-level
  filters that `qList` / `qGet` / `qPrefix` / `qLowerBound` apply to composite keys amount to predicates on
  the tag (`comp_*_match`), so every query on `Idx.tags` is a filter of the triple list, followed by
  `firstById` where the code de-duplicates (`dedupPrimary`).
-/
namespace Sdb.Tbl
open OMap

theorem comp_eq (id tag : Key) : P.composite id tag = P.enc tag ++ 0 :: (P.enc id ++ be 2 (P.enc id).length) :=
  composite_eq P P_wf id tag

theorem comp_secLen (id tag : Key) (h : (P.enc id).length < 65536) :
    nukSecLen (P.composite id tag) = ((P.enc tag).length : Int) :=
  (composite_split P P_wf id tag h).2.1

theorem comp_encPrimary (id tag : Key) (h : (P.enc id).length < 65536) :
    nukEncodedPrimary (P.composite id tag) = P.enc id :=
  (composite_split P P_wf id tag h).2.2.1

theorem comp_encSecondary (id tag : Key) (h : (P.enc id).length < 65536) :
    nukEncodedSecondary (P.composite id tag) = P.enc tag :=
  (composite_split P P_wf id tag h).2.2.2

theorem enc_prefix_iff (k p : Key) : P.enc p <+: P.enc k ↔ p <+: k := by
  rw [← hasPrefix_iff, ← hasPrefix_iff, enc_hasPrefix P P_wf]

theorem prefix_comp_iff (id tag : Key) (s : Key) (hl : s.length ≤ (P.enc tag).length) :
    s <+: P.composite id tag ↔ s <+: P.enc tag := by
  rw [comp_eq]
  exact ⟨fun h => List.prefix_of_prefix_length_le h (List.prefix_append _ _) hl,
    fun h => h.trans (List.prefix_append _ _)⟩

/-- the test of `List` / `Get` -/
theorem comp_list_match (id tag key : Key) (h : (P.enc id).length < 65536) :
    ((nukSecLen (P.composite id tag) == ((P.enc key).length : Int)) &&
      hasPrefix (P.composite id tag) (P.enc key)) = (tag == key) := by
  rw [Bool.eq_iff_iff, Bool.and_eq_true, beq_iff_eq, beq_iff_eq, comp_secLen id tag h, hasPrefix_iff]
  constructor
  · rintro ⟨h2, h1⟩
    have hl : (P.enc key).length = (P.enc tag).length := by omega
    rw [prefix_comp_iff id tag _ (Nat.le_of_eq hl)] at h1
    exact (enc_injective P P_wf _ _ (h1.eq_of_length hl)).symm
  · rintro rfl
    exact ⟨rfl, (prefix_comp_iff id tag _ (Nat.le_refl _)).mpr (List.prefix_refl _)⟩

/-- the test of `Prefix` -/
theorem comp_prefix_match (id tag key : Key) (h : (P.enc id).length < 65536) :
    (decide (nukSecLen (P.composite id tag) ≥ ((P.enc key).length : Int)) &&
      hasPrefix (P.composite id tag) (P.enc key)) = hasPrefix tag key := by
  rw [Bool.eq_iff_iff, Bool.and_eq_true, decide_eq_true_iff, comp_secLen id tag h, hasPrefix_iff, hasPrefix_iff,
    ← enc_prefix_iff tag key]
  constructor
  · rintro ⟨h2, h1⟩
    exact (prefix_comp_iff id tag (P.enc key) (by omega)).mp h1
  · intro h0
    have := h0.length_le
    exact ⟨by omega, (prefix_comp_iff id tag _ this).mpr h0⟩

/-- the test of `LowerBound` -/
theorem comp_lowerBound_match (id tag key : Key) (h : (P.enc id).length < 65536) :
    ((cmpL (nukEncodedSecondary (P.composite id tag)) (P.enc key) != .lt) &&
      (cmpL (P.composite id tag) (P.enc key) != .lt)) = (cmpL tag key != .lt) := by
  rw [Bool.eq_iff_iff, Bool.and_eq_true, bne_iff_ne, bne_iff_ne, bne_iff_ne, comp_encSecondary id tag h, enc_cmp P P_wf]
  refine ⟨fun h1 => h1.1, fun h1 => ⟨h1, ?_⟩⟩
  rw [comp_eq]
  exact cmpL_append_not_lt _ _ _ (by rw [enc_cmp P P_wf]; exact h1)

/-- keep the first occurrence of every object id (ids in `seen` count as already met) -/
def firstById : List Obj → List Key → List Obj
  | [], _ => []
  | o :: r, seen => if o.id ∈ seen then firstById r seen else o :: firstById r (o.id :: seen)

theorem firstById_sublist (l : List Obj) (seen : List Key) : List.Sublist (firstById l seen) l := by
  induction l generalizing seen with
  | nil => exact List.Sublist.slnil
  | cons o r ih =>
    unfold firstById
    split
    · exact (ih seen).cons _
    · exact (ih _).cons_cons _

theorem mem_firstById_imp (l : List Obj) (seen : List Key) (x : Obj) (h : x ∈ firstById l seen) :
    x ∈ l ∧ x.id ∉ seen := by
  induction l generalizing seen with
  | nil => simp [firstById] at h
  | cons o r ih =>
    unfold firstById at h
    split at h
    · have := ih seen h; exact ⟨List.mem_cons_of_mem _ this.1, this.2⟩
    · rename_i hs
      rcases List.mem_cons.mp h with h | h
      · subst h; exact ⟨List.mem_cons_self .., hs⟩
      · have := ih _ h
        exact ⟨List.mem_cons_of_mem _ this.1, fun hx => this.2 (List.mem_cons_of_mem _ hx)⟩

theorem mem_firstById (l : List Obj) (hl : ∀ a ∈ l, ∀ b ∈ l, a.id = b.id → a = b) (seen : List Key) (x : Obj) :
    x ∈ firstById l seen ↔ x ∈ l ∧ x.id ∉ seen := by
  refine ⟨mem_firstById_imp l seen x, ?_⟩
  induction l generalizing seen with
  | nil => simp
  | cons o r ih =>
    have hr : ∀ a ∈ r, ∀ b ∈ r, a.id = b.id → a = b :=
      fun a ha b hb => hl a (List.mem_cons_of_mem _ ha) b (List.mem_cons_of_mem _ hb)
    rintro ⟨hx, hs⟩
    unfold firstById
    split
    · rename_i ho
      rcases List.mem_cons.mp hx with h | h
      · subst h; exact absurd ho hs
      · exact ih hr seen ⟨h, hs⟩
    · rename_i ho
      by_cases hxo : x = o
      · subst hxo; exact List.mem_cons_self ..
      · rcases List.mem_cons.mp hx with h | h
        · exact absurd h hxo
        · refine List.mem_cons_of_mem _ (ih hr _ ⟨h, ?_⟩)
          intro hm
          rcases List.mem_cons.mp hm with e | e
          · exact hxo (hl x hx o (List.mem_cons_self ..) e)
          · exact hs e

theorem firstById_ids_nodup (l : List Obj) (seen : List Key) :
    (firstById l seen).Pairwise (fun a b => a.id ≠ b.id) := by
  induction l generalizing seen with
  | nil => exact List.Pairwise.nil
  | cons o r ih =>
    unfold firstById
    split
    · exact ih seen
    · refine List.Pairwise.cons ?_ (ih _)
      intro b hb e
      exact (mem_firstById_imp r _ b hb).2 (e ▸ List.mem_cons_self ..)

theorem firstById_of_nodup (l : List Obj) (h : l.Pairwise (fun a b => a.id ≠ b.id)) (seen : List Key)
    (hs : ∀ a ∈ l, a.id ∉ seen) : firstById l seen = l := by
  induction l generalizing seen with
  | nil => rfl
  | cons o r ih =>
    have ⟨h1, h2⟩ := List.pairwise_cons.mp h
    unfold firstById
    rw [if_neg (hs o (List.mem_cons_self ..))]
    congr 1
    apply ih h2
    intro a ha hm
    rcases List.mem_cons.mp hm with e | e
    · exact h1 a ha e.symm
    · exact hs a (List.mem_cons_of_mem _ ha) e

theorem dedupPrimary_fold (es : List (Key × Obj)) (hes : ∀ e ∈ es, nukEncodedPrimary e.1 = P.enc e.2.id)
    (ids : List Key) (acc : List Obj) :
    (es.foldl (fun (acc : List Key × List Obj) (x : Key × Obj) =>
        if acc.1.contains (nukEncodedPrimary x.1) then acc else (nukEncodedPrimary x.1 :: acc.1, x.2 :: acc.2))
      (ids.map P.enc, acc)).2.reverse = acc.reverse ++ firstById (es.map (·.2)) ids := by
  induction es generalizing ids acc with
  | nil => simp [firstById]
  | cons e r ih =>
    rw [List.forall_mem_cons] at hes
    have hmem : (ids.map P.enc).contains (P.enc e.2.id) = true ↔ e.2.id ∈ ids := by
      rw [List.contains_iff_mem, List.mem_map]
      exact ⟨fun ⟨a, ha, hae⟩ => enc_injective P P_wf _ _ hae ▸ ha, fun h => ⟨_, h, rfl⟩⟩
    rw [List.foldl_cons, List.map_cons, firstById, hes.1]
    by_cases hin : e.2.id ∈ ids
    · rw [if_pos (hmem.mpr hin), if_pos hin]
      exact ih hes.2 ids acc
    · rw [if_neg (fun h => hin (hmem.mp h)), if_neg hin]
      rw [← List.map_cons, ih hes.2 (e.2.id :: ids) (e.2 :: acc), List.reverse_cons, List.append_assoc]
      rfl

theorem dedupPrimary_eq (es : List (Key × Obj)) (hes : ∀ e ∈ es, nukEncodedPrimary e.1 = P.enc e.2.id) :
    dedupPrimary es = firstById (es.map (·.2)) [] :=
  (dedupPrimary_fold es hes [] []).trans (List.nil_append _)

structure TagInv (primary : OMap Obj) (tg : OMap Obj) : Prop where
  sorted : Sorted tg
  char : ∀ c x, tg.get c = some x ↔ primary.get x.id = some x ∧ ∃ tag ∈ x.tags, c = P.composite x.id tag

theorem TagInv.nil : TagInv [] [] := ⟨sorted_nil, fun c x => by simp⟩

/-- covers tag sets that grow, shrink, have duplicates, become empty -/
theorem TagInv.write {primary tg primary' : OMap Obj} (inv : TagInv primary tg) (id : Key) (new : Option Obj)
    (hid : ∀ n, new = some n → n.id = id)
    (hP : Updated primary id new primary') :
    TagInv primary' (reindexNonUnique tg id (primary.get id) new (·.tags)) := by
  have mem : ∀ (i : Key) (y : Obj) (c : Key),
      c ∈ y.tags.map (P.composite i) ↔ ∃ tag ∈ y.tags, c = P.composite i tag := by
    intro i y c
    rw [List.mem_map]
    constructor <;> rintro ⟨a, h1, h2⟩ <;> exact ⟨a, h1, h2.symm⟩
  refine ⟨sorted_reindexNonUnique _ inv.sorted _ _ _ _, fun c x => ?_⟩
  refine (partIndex_write (K := fun i y => y.tags.map (P.composite i))
    (fun c x => (inv.char c x).trans (and_congr_right fun _ => (mem _ _ _).symm)) hid ?_ hP
    (get_reindexNonUnique tg inv.sorted id _ _ _) c x).trans (and_congr_right fun _ => mem _ _ _)
  -- a composite key determines the primary key
  intro x y c _ _ hcx hcy
  obtain ⟨a, _, rfl⟩ := (mem _ _ _).mp hcx
  obtain ⟨b, _, e⟩ := (mem _ _ _).mp hcy
  exact (comp_inj _ _ _ _ e).1

/-- bound on the encoded length of the live primary keys (K2: the composite key stores the
    length in a uint16 and compares it bytewise) -/
def IdLen (B : Nat) (primary : OMap Obj) : Prop := ∀ k o, primary.get k = some o → (P.enc k).length < B

theorem IdLen.nil (B : Nat) : IdLen B [] := fun k o h => by simp at h

theorem IdLen.mono {B B' : Nat} {primary : OMap Obj} (h : IdLen B primary) (hb : B ≤ B') : IdLen B' primary :=
  fun k o hk => Nat.lt_of_lt_of_le (h k o hk) hb

theorem IdLen.write {B : Nat} {primary primary' : OMap Obj} (h : IdLen B primary) (id : Key) (new : Option Obj)
    (hn : new ≠ none → (P.enc id).length < B)
    (hP : Updated primary id new primary') : IdLen B primary' := by
  intro k o hk
  rw [hP] at hk
  split at hk
  · rename_i e; rw [e]; exact hn (by rw [hk]; exact Option.some_ne_none o)
  · exact h k o hk

theorem IdLen.insert {B : Nat} {primary : OMap Obj} (h : IdLen B primary) (n : Obj) (hn : (P.enc n.id).length < B) :
    IdLen B (primary.insert n.id n) :=
  h.write n.id (some n) (fun _ => hn) (.insert primary n.id n)

/-- the tag under which the entry `(c, x)` is stored, recovered by search in the object's tags -/
def tagOf (c : Key) (x : Obj) : Key := (x.tags.find? (fun tag => P.composite x.id tag == c)).getD []

theorem tagOf_comp (x : Obj) (tag : Key) (h : tag ∈ x.tags) : tagOf (P.composite x.id tag) x = tag := by
  unfold tagOf
  cases hf : x.tags.find? (fun tag' => P.composite x.id tag' == P.composite x.id tag) with
  | none =>
    have := List.find?_eq_none.mp hf tag h
    simp at this
  | some t' =>
    have := List.find?_some hf
    simp only [beq_iff_eq] at this
    simpa using (comp_inj _ _ _ _ this).2

def tagTriples (tg : OMap Obj) : List (Key × Key × Obj) := tg.map fun e => (tagOf e.1 e.2, e.2.id, e.2)

section triples
variable {primary tg : OMap Obj}

structure TagEntry (primary : OMap Obj) (e : Key × Obj) : Prop where
  live : primary.get e.2.id = some e.2
  tagMem : tagOf e.1 e.2 ∈ e.2.tags
  key : e.1 = P.composite e.2.id (tagOf e.1 e.2)

theorem TagInv.entry (inv : TagInv primary tg) {e : Key × Obj} (he : e ∈ tg) : TagEntry primary e := by
  obtain ⟨c, x⟩ := e
  obtain ⟨hlive, tag, htag, rfl⟩ := (inv.char c x).mp (mem_get_some _ inv.sorted c x he)
  have ht : tagOf (P.composite x.id tag) x = tag := tagOf_comp x tag htag
  exact ⟨hlive, by rw [ht]; exact htag, by rw [ht]⟩

theorem TagInv.mem_triples (inv : TagInv primary tg) (tag id : Key) (x : Obj) :
    (tag, id, x) ∈ tagTriples tg ↔ primary.get x.id = some x ∧ id = x.id ∧ tag ∈ x.tags := by
  unfold tagTriples
  rw [List.mem_map]
  constructor
  · rintro ⟨e, he, heq⟩
    simp only [Prod.mk.injEq] at heq
    obtain ⟨e1, e2, e3⟩ := heq
    subst e3; subst e2; subst e1
    exact ⟨(inv.entry he).live, rfl, (inv.entry he).tagMem⟩
  · rintro ⟨h1, rfl, h3⟩
    refine ⟨(P.composite x.id tag, x), ?_, ?_⟩
    · exact get_some_mem _ _ _ ((inv.char _ _).mpr ⟨h1, tag, h3, rfl⟩)
    · simp only [tagOf_comp x tag h3]

theorem TagInv.triples_composite_sorted (inv : TagInv primary tg) :
    (tagTriples tg).Pairwise (fun a b => cmpL (P.composite a.2.1 a.1) (P.composite b.2.1 b.1) = .lt) := by
  unfold tagTriples
  rw [List.pairwise_map]
  refine List.Pairwise.imp_of_mem ?_ inv.sorted
  intro a b ha hb hlt
  rw [← (inv.entry ha).key, ← (inv.entry hb).key]
  exact hlt

theorem TagInv.triples_distinct (inv : TagInv primary tg) :
    (tagTriples tg).Pairwise (fun a b => ¬ (a.1 = b.1 ∧ a.2.1 = b.2.1)) :=
  inv.triples_composite_sorted.imp fun hlt e => by
    rw [e.1, e.2, cmpL_refl] at hlt; cases hlt

/-- `IdLen 256`: the bound under which C18 has the order of composite keys (K2) -/
theorem TagInv.triples_sorted (inv : TagInv primary tg) (hl : IdLen 256 primary) :
    (tagTriples tg).Pairwise (fun a b => Ordering.thenO (cmpL a.1 b.1) (cmpL a.2.1 b.2.1) = .lt) := by
  refine List.Pairwise.imp_of_mem ?_ inv.triples_composite_sorted
  rintro ⟨ta, ia, xa⟩ ⟨tb, ib, xb⟩ ha hb hlt
  obtain ⟨la, rfl, _⟩ := (inv.mem_triples _ _ _).mp ha
  obtain ⟨lb, rfl, _⟩ := (inv.mem_triples _ _ _).mp hb
  rwa [composite_cmp_partial P P_wf _ _ _ _ (hl _ _ la) (hl _ _ lb)] at hlt

theorem filter_triples (tg : OMap Obj) (q : Key × Key × Obj → Bool) :
    ((tagTriples tg).filter q).map (·.2.2) =
      (tg.filter (fun e => q (tagOf e.1 e.2, e.2.id, e.2))).map (·.2) := by
  unfold tagTriples
  rw [List.filter_map, List.map_map]
  rfl

theorem TagInv.filter_eq (inv : TagInv primary tg) (hl : IdLen 65536 primary) (p q : Key → Bool)
    (hpq : ∀ id tag, (P.enc id).length < 65536 → p (P.composite id tag) = q tag) :
    (tg.filter (fun e => p e.1)).map (·.2) = ((tagTriples tg).filter (fun tr => q tr.1)).map (·.2.2) := by
  rw [filter_triples]
  congr 1
  apply List.filter_congr
  intro e he
  show p e.1 = q (tagOf e.1 e.2)
  exact (congrArg p (inv.entry he).key).trans (hpq _ _ (hl _ _ (inv.entry he).live))

theorem TagInv.dedup_filter_eq (inv : TagInv primary tg) (hl : IdLen 65536 primary) (p q : Key → Bool)
    (hpq : ∀ id tag, (P.enc id).length < 65536 → p (P.composite id tag) = q tag) :
    dedupPrimary (tg.filter (fun e => p e.1)) =
      firstById (((tagTriples tg).filter (fun tr => q tr.1)).map (·.2.2)) [] := by
  rw [dedupPrimary_eq, inv.filter_eq hl p q hpq]
  intro e he
  have h := inv.entry (List.mem_filter.mp he).1
  rw [h.key]
  exact comp_encPrimary _ _ (hl _ _ h.live)

end triples

theorem qList_tags_eq (t : TableS) (inv : TagInv t.primary t.tagIdx) (hl : IdLen 65536 t.primary)
    (key : Key) (plen : Nat) :
    qList t .tags key plen = ((tagTriples t.tagIdx).filter (fun tr => tr.1 == key)).map (·.2.2) := by
  simp only [qList, prefixQ, List.filter_filter]
  exact inv.filter_eq hl (fun c => (nukSecLen c == ((P.enc key).length : Int)) && hasPrefix c (P.enc key)) _
    fun id tag h => comp_list_match id tag key h

theorem qGet_tags_eq (t : TableS) (key : Key) (plen : Nat) :
    qGet t .tags key plen = (qList t .tags key plen).head? := by
  simp only [qGet, qList]
  rw [List.head?_map, List.head?_filter]

theorem qPrefix_tags_eq (t : TableS) (inv : TagInv t.primary t.tagIdx) (hl : IdLen 65536 t.primary)
    (key : Key) (plen : Nat) :
    qPrefix t .tags key plen =
      firstById (((tagTriples t.tagIdx).filter (fun tr => hasPrefix tr.1 key)).map (·.2.2)) [] := by
  simp only [qPrefix, prefixQ, List.filter_filter]
  exact inv.dedup_filter_eq hl
    (fun c => decide (nukSecLen c ≥ ((P.enc key).length : Int)) && hasPrefix c (P.enc key)) _
    fun id tag h => comp_prefix_match id tag key h

theorem qLowerBound_tags_eq (t : TableS) (inv : TagInv t.primary t.tagIdx) (hl : IdLen 65536 t.primary)
    (key : Key) (plen : Nat) :
    qLowerBound t .tags key plen =
      firstById (((tagTriples t.tagIdx).filter (fun tr => cmpL tr.1 key != .lt)).map (·.2.2)) [] := by
  simp only [qLowerBound, lowerBound, List.filter_filter]
  exact inv.dedup_filter_eq hl
    (fun c => (cmpL (nukEncodedSecondary c) (P.enc key) != .lt) && (cmpL c (P.enc key) != .lt)) _
    fun id tag h => comp_lowerBound_match id tag key h

theorem TagInv.mem_filter_triples {primary tg : OMap Obj} (inv : TagInv primary tg) (q : Key → Bool) (x : Obj) :
    x ∈ ((tagTriples tg).filter (fun tr => q tr.1)).map (·.2.2) ↔
      primary.get x.id = some x ∧ ∃ tag ∈ x.tags, q tag = true := by
  rw [List.mem_map]
  constructor
  · rintro ⟨⟨tag, id, y⟩, hm, rfl⟩
    have ⟨h1, h2⟩ := List.mem_filter.mp hm
    have ⟨a, _, c⟩ := (inv.mem_triples tag id y).mp h1
    exact ⟨a, tag, c, h2⟩
  · rintro ⟨h1, tag, htag, hq⟩
    exact ⟨(tag, x.id, x), List.mem_filter.mpr ⟨(inv.mem_triples _ _ _).mpr ⟨h1, rfl, htag⟩, hq⟩, rfl⟩

theorem TagInv.mem_firstById_filter_triples {primary tg : OMap Obj} (inv : TagInv primary tg) (q : Key → Bool)
    (x : Obj) :
    x ∈ firstById (((tagTriples tg).filter (fun tr => q tr.1)).map (·.2.2)) [] ↔
      primary.get x.id = some x ∧ ∃ tag ∈ x.tags, q tag = true := by
  rw [mem_firstById, inv.mem_filter_triples q]
  · simp only [List.not_mem_nil, not_false_eq_true, and_true]
  · -- listed objects with the same id are the same live object
    intro a ha b hb e
    have h1 := ((inv.mem_filter_triples q a).mp ha).1
    have h2 := ((inv.mem_filter_triples q b).mp hb).1
    rw [e, h2] at h1
    exact (Option.some.inj h1).symm

section list
variable {t : TableS}

theorem TagInv.mem_qList (inv : TagInv t.primary t.tagIdx) (hl : IdLen 65536 t.primary)
    (key : Key) (plen : Nat) (x : Obj) :
    x ∈ qList t .tags key plen ↔ t.primary.get x.id = some x ∧ key ∈ x.tags := by
  rw [qList_tags_eq t inv hl, inv.mem_filter_triples (fun tag => tag == key)]
  constructor
  · rintro ⟨h1, tag, htag, hq⟩; exact ⟨h1, (eq_of_beq hq) ▸ htag⟩
  · rintro ⟨h1, h2⟩; exact ⟨h1, key, h2, beq_self_eq_true key⟩

theorem TagInv.qList_pairwise (inv : TagInv t.primary t.tagIdx) (hl : IdLen 65536 t.primary) (key : Key)
    (plen : Nat) {R : Key × Key × Obj → Key × Key × Obj → Prop} (hR : (tagTriples t.tagIdx).Pairwise R)
    {S : Obj → Obj → Prop} (hRS : ∀ a b, R (key, a.id, a) (key, b.id, b) → S a b) :
    (qList t .tags key plen).Pairwise S := by
  rw [qList_tags_eq t inv hl, List.pairwise_map]
  refine List.Pairwise.imp_of_mem ?_ (hR.filter _)
  rintro ⟨ta, ia, xa⟩ ⟨tb, ib, xb⟩ ha hb h
  obtain ⟨ha1, ha2⟩ := List.mem_filter.mp ha
  obtain ⟨hb1, hb2⟩ := List.mem_filter.mp hb
  obtain ⟨_, rfl, _⟩ := (inv.mem_triples _ _ _).mp ha1
  obtain ⟨_, rfl, _⟩ := (inv.mem_triples _ _ _).mp hb1
  obtain rfl : ta = key := eq_of_beq ha2
  obtain rfl : tb = ta := eq_of_beq hb2
  exact hRS xa xb h

/-- K2: the order by primary key needs encoded primary keys below 256 bytes -/
theorem TagInv.qList_sorted (inv : TagInv t.primary t.tagIdx) (hl : IdLen 256 t.primary)
    (key : Key) (plen : Nat) :
    (qList t .tags key plen).Pairwise (fun a b => cmpL a.id b.id = .lt) :=
  inv.qList_pairwise (hl.mono (by omega)) key plen (inv.triples_sorted hl) fun a b h => by
    simpa [Ordering.thenO, cmpL_refl] using h

theorem TagInv.qList_nodup (inv : TagInv t.primary t.tagIdx) (hl : IdLen 65536 t.primary)
    (key : Key) (plen : Nat) :
    (qList t .tags key plen).Pairwise (fun a b => a.id ≠ b.id) :=
  inv.qList_pairwise hl key plen inv.triples_distinct fun _ _ h e => h ⟨rfl, e⟩

/-- `List` is in ascending order of the COMPOSITE keys (no bound beyond the uint16 one); whether that
    is the order of the primary keys is C18's question -/
theorem TagInv.qList_sorted_by_composite (inv : TagInv t.primary t.tagIdx) (hl : IdLen 65536 t.primary)
    (key : Key) (plen : Nat) :
    (qList t .tags key plen).Pairwise (fun a b => cmpL (P.composite a.id key) (P.composite b.id key) = .lt) :=
  inv.qList_pairwise hl key plen inv.triples_composite_sorted fun _ _ h => h

theorem TagInv.mem_qPrefix (inv : TagInv t.primary t.tagIdx) (hl : IdLen 65536 t.primary)
    (key : Key) (plen : Nat) (x : Obj) :
    x ∈ qPrefix t .tags key plen ↔ t.primary.get x.id = some x ∧ ∃ tag ∈ x.tags, key <+: tag := by
  rw [qPrefix_tags_eq t inv hl, inv.mem_firstById_filter_triples (fun tag => hasPrefix tag key)]
  simp only [hasPrefix_iff]

theorem TagInv.mem_qLowerBound (inv : TagInv t.primary t.tagIdx) (hl : IdLen 65536 t.primary)
    (key : Key) (plen : Nat) (x : Obj) :
    x ∈ qLowerBound t .tags key plen ↔ t.primary.get x.id = some x ∧ ∃ tag ∈ x.tags, cmpL tag key ≠ .lt := by
  rw [qLowerBound_tags_eq t inv hl, inv.mem_firstById_filter_triples (fun tag => cmpL tag key != .lt)]
  simp only [bne_iff_ne]

theorem TagInv.qPrefix_nodup (inv : TagInv t.primary t.tagIdx) (hl : IdLen 65536 t.primary)
    (key : Key) (plen : Nat) : (qPrefix t .tags key plen).Pairwise (fun a b => a.id ≠ b.id) := by
  rw [qPrefix_tags_eq t inv hl]; exact firstById_ids_nodup _ _

theorem TagInv.qLowerBound_nodup (inv : TagInv t.primary t.tagIdx) (hl : IdLen 65536 t.primary)
    (key : Key) (plen : Nat) : (qLowerBound t .tags key plen).Pairwise (fun a b => a.id ≠ b.id) := by
  rw [qLowerBound_tags_eq t inv hl]; exact firstById_ids_nodup _ _

end list

end Sdb.Tbl
