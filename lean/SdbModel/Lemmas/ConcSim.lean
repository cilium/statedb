import SdbModel.Lemmas.ConcSimStep

/-!
  The simulation of `Model.Conc` by `Model.Serial`, for all schedules.

  `Reach P n st cs`: `st` is reachable from `initState n` by spawning writers (on registered tables),
  registrations, rejected registrations and scheduler steps `Conc.step`; `cs` records, per thread, the
  `commit` argument it was spawned with (`false` for registration threads).  For every protocol `P` with
  `P.simShape` (in particular `Gen.protocol`) every such state is related by `R` to a `Serial.Reachable`
  state whose transactions carry exactly those commit flags.
-/
namespace Sdb.Conc
open Sdb.Serial (Txn Phase setTxn)

inductive Reach (P : Protocol) (n : Nat) : State → List Bool → Prop where
  | init : Reach P n (initState n) []
  | writer (st : State) (cs : List Bool) (tabs : List Nat) (commit : Bool) (markInit regInit : List Nat) :
      Reach P n st cs → (∀ x ∈ tabs, x < st.root.length ∧ x < st.lockOwner.length) →
      Reach P n (spawnWriter P st tabs commit markInit regInit) (cs ++ [commit])
  | register (st : State) (cs : List Bool) : Reach P n st cs → Reach P n (spawnRegister P st) (cs ++ [false])
  | registerDup (st : State) (cs : List Bool) : Reach P n st cs → Reach P n (spawnRegisterDup P st) (cs ++ [false])
  | step (st : State) (cs : List Bool) (tid : Nat) : Reach P n st cs → Reach P n (step st tid).1 cs

/-- related to some reachable state of `Model.Serial` with commit flags `cs` -/
def Sim (st : State) (cs : List Bool) : Prop :=
  ∃ s, Serial.Reachable s ∧ R st s ∧ s.txns.map (·.commit) = cs

theorem Sim.tables_lt {st : State} {cs : List Bool} (h : Sim st cs) {tid : Nat} {th : Thread}
    (hth : st.threads[tid]? = some th) {x : Nat} (hx : x ∈ th.tables) :
    x < st.root.length ∧ x < st.lockOwner.length :=
  let ⟨_, _, hR, _⟩ := h
  let ⟨_, _, hT⟩ := hR.thr tid th hth
  hT.bound x ((mem_lockList th x).2 hx)

theorem getD_replicate_none (k i : Nat) : (List.replicate k (none : Option Nat)).getD i none = none := by
  rw [List.getD_eq_getElem?_getD, List.getElem?_replicate]
  split <;> rfl

theorem R_init (n : Nat) : R (initState n) {} := by
  constructor
  · rfl
  · intro i hi
    simp only [initState, List.length_map, List.length_range] at hi
    show (getT ((List.range n).map _) i).cnt = 0
    rw [getT_map_range _ _ i hi]
  · intro i _; rfl
  · intro i
    exact getD_replicate_none 64 i
  · intro tid th h; simp [initState] at h
  · intro j h; simp [initState] at h

theorem R_spawn (st : State) (s : Serial.State) (thn : Thread) (tn : Txn) (hR : R st s)
    (hT : TRel st.root st.rootMu st.lockOwner.length st.threads.length thn tn) :
    R { st with threads := st.threads ++ [thn] } { s with txns := s.txns ++ [tn] } where
  len := by simp [hR.len]
  root := hR.root
  rootHi := hR.rootHi
  owner := hR.owner
  thr := LB.forall_concat thn _ ⟨tn, by rw [← hR.len]; simp, hT⟩ fun j u hj => by
    obtain ⟨t, ht, hrel⟩ := hR.thr j u hj
    exact ⟨t, (List.getElem?_append_left (LB.lt_of_getElem? ht)).trans ht, hrel⟩
  muLt := fun j hj => by
    have := hR.muLt j hj
    simp; omega

theorem Sim_init (n : Nat) : Sim (initState n) [] := ⟨{}, .init, R_init n, rfl⟩

theorem Sim_writer (P : Protocol) (hP : P.simShape = true) (st : State) (cs : List Bool) (tabs : List Nat)
    (commit : Bool) (markInit regInit : List Nat) (h : Sim st cs)
    (hb : ∀ x ∈ tabs, x < st.root.length ∧ x < st.lockOwner.length) :
    Sim (spawnWriter P st tabs commit markInit regInit) (cs ++ [commit]) := by
  obtain ⟨s, hs, hR, hcs⟩ := h
  let tn : Txn := { tabs := sortNat (dedup tabs), commit := commit }
  refine ⟨{ s with txns := s.txns ++ [tn] },
    .step _ _ hs (Serial.Step.spawn s tn (lockOrder_ascending tabs).1 rfl rfl), ?_, by simp [hcs, tn]⟩
  refine R_spawn st s _ tn hR (.at (.acq 0) rfl ?_ (strip_writerProg P hP tabs commit) ?_ ⟨rfl, Nat.zero_le _⟩)
  · intro x hx
    exact hb x ((lockOrder_ascending tabs).2 x |>.1 hx)
  · constructor
    · intro hmu; have := hR.muLt _ hmu; omega
    · intro hf; simp [inCS] at hf

theorem Sim_register (P : Protocol) (hP : P.simShape = true) (st : State) (cs : List Bool) (h : Sim st cs) :
    Sim (spawnRegister P st) (cs ++ [false]) := by
  obtain ⟨s, hs, hR, hcs⟩ := h
  let tn : Txn := { tabs := [], commit := false }
  refine ⟨{ s with txns := s.txns ++ [tn] }, .step _ _ hs (Serial.Step.spawn s tn trivial rfl rfl), ?_,
    by simp [hcs, tn]⟩
  refine R_spawn st s _ tn hR (.at .gA rfl ?_ (strip_registerProg P hP false) ?_ ⟨rfl, rfl⟩)
  · intro x hx; simp [lockList, dedup, sortNat] at hx
  · constructor
    · intro hmu; have := hR.muLt _ hmu; omega
    · intro hf; simp [inCS] at hf

theorem Sim_registerDup (P : Protocol) (hP : P.simShape = true) (st : State) (cs : List Bool) (h : Sim st cs) :
    Sim (spawnRegisterDup P st) (cs ++ [false]) := by
  obtain ⟨s, hs, hR, hcs⟩ := h
  let tn : Txn := { tabs := [], commit := false }
  refine ⟨{ s with txns := s.txns ++ [tn] }, .step _ _ hs (Serial.Step.spawn s tn trivial rfl rfl), ?_,
    by simp [hcs, tn]⟩
  refine R_spawn st s _ tn hR (.at .dA rfl ?_ (strip_registerDupProg P hP false) ?_ ⟨rfl, rfl⟩)
  · intro x hx; simp [lockList, dedup, sortNat] at hx
  · constructor
    · intro hmu; have := hR.muLt _ hmu; omega
    · intro hf; simp [inCS] at hf

/-- what is carried along the micro steps of one run of thread `tid` -/
structure RunInv (tid : Nat) (cs : List Bool) (a : State × Thread) : Prop where
  sim : Sim (install a.1 tid a.2) cs
  lt : tid < a.1.threads.length
  done : a.2.done = true → a.2.prog = []

theorem RunInv_mstep (tid : Nat) (cs : List Bool) (a b : State × Thread) (ha : RunInv tid cs a)
    (h : mstep a.1 tid a.2 = some b) : RunInv tid cs b ∧ Effect a.1 b.1 tid a.2 b.2 := by
  obtain ⟨⟨s, hs, hR, hcs⟩, hlt, hdp⟩ := ha
  cases hd : a.2.done with
  | true =>
    have hp := hdp hd
    simp [mstep, hp, hd] at h
  | false =>
    obtain ⟨⟨s', hs', hc', hR'⟩, heff, hdp'⟩ := mstep_sim a.1 tid a.2 s b.1 b.2 hs hR hlt hd h
    refine ⟨⟨⟨s', hs', hR', by rw [hc', hcs]⟩, ?_, hdp'⟩, heff⟩
    rw [mstep_threads a.1 tid a.2 b.1 b.2 h]; exact hlt

theorem RunInv_mstar (tid : Nat) (cs : List Bool) {a b : State × Thread} (h : MStar tid a b)
    (ha : RunInv tid cs a) : RunInv tid cs b :=
  MStar.invariant (RunInv tid cs) (fun a b ha h => (RunInv_mstep tid cs a b ha h).1) h ha

theorem RunInv_start {st : State} {cs : List Bool} {tid : Nat} {th : Thread} (h : Sim st cs)
    (hth : st.threads[tid]? = some th) (hd : th.done = false) : RunInv tid cs (st, th) :=
  ⟨by rw [install_self st tid th hth]; exact h, LB.lt_of_getElem? hth, fun hd' => by simp [hd] at hd'⟩

theorem Sim_step (st : State) (cs : List Bool) (tid : Nat) (h : Sim st cs) : Sim (step st tid).1 cs := by
  rcases step_cases st tid with he | ⟨th, st', th', hth, hd, hstar, he, _⟩
  · rw [he]; exact h
  · rw [he]
    exact (RunInv_mstar tid cs hstar (RunInv_start h hth hd)).1

theorem reach_sim (P : Protocol) (hP : P.simShape = true) (n : Nat) (st : State) (cs : List Bool)
    (h : Reach P n st cs) : Sim st cs := by
  induction h with
  | init => exact Sim_init n
  | writer st cs tabs commit mi ri _ hb ih => exact Sim_writer P hP st cs tabs commit mi ri ih hb
  | register st cs _ ih => exact Sim_register P hP st cs ih
  | registerDup st cs _ ih => exact Sim_registerDup P hP st cs ih
  | step st cs tid _ ih => exact Sim_step st cs tid ih

end Sdb.Conc
