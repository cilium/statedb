import SdbModel.Lemmas.ConcSim

/-! Consequences of the simulation, stated on `Model.Conc` itself. -/
namespace Sdb.Conc
open Sdb.Serial (Txn Phase committedOn pastStore)

/-- number of COMMITTING writers (spawned with `commit = true`, flags `cs`) on table `x` whose `storeRoot`
    has been executed (it is no longer in the program) -/
def committedWriters (st : State) (cs : List Bool) (x : Nat) : Nat :=
  (st.threads.zip cs).countP fun p => p.2 && p.1.tables.contains x && !p.1.prog.contains (Micro.act .storeRoot)

theorem mem_map_acquire (L : List Nat) : Micro.act Act.storeRoot ∉ L.map Micro.acquire := by simp
theorem mem_map_release (L : List Nat) : Micro.act Act.storeRoot ∉ L.map Micro.release := by simp

theorem committed_pointwise (root : List TableV) (mu : Option Nat) (n tid : Nat) (th : Thread) (t : Txn)
    (hT : TRel root mu n tid th t) (x : Nat) :
    (t.commit && th.tables.contains x && !th.prog.contains (Micro.act .storeRoot)) = committedOn x t := by
  obtain ⟨p, hp, _, hl⟩ := hT.pos
  have hxt : decide (x ∈ t.tabs) = th.tables.contains x := by
    rw [hT.tabs, List.contains_eq_mem]
    exact decide_eq_decide.2 (mem_lockList th x)
  unfold committedOn
  rw [hxt]
  cases hc : t.commit with
  | false => simp
  | true =>
    cases hx : th.tables.contains x with
    | false => simp
    | true =>
      -- the store is ahead exactly before the phases `stored` and `done`
      suffices h : Micro.act Act.storeRoot ∈ code (lockList th) t.commit p ↔ pastStore t.phase = false by
        rw [← hp, mem_strip _ _ (by rfl)] at h
        cases hps : pastStore t.phase <;> simp [hps] at h <;> simp [h]
      rcases hl.stage with ⟨k, rfl⟩ | ⟨hph, _, hw⟩ | rfl | ⟨k, rfl⟩ | ⟨htb, _⟩
      · simp [code, (mem_cEnd (lockList th) t.commit).2.2 hc, hl.1, pastStore]
      · simp [hw.store hc, hph, pastStore]
      · simp [code, hl.1, pastStore]
      · simp only [code, mem_map_release, false_iff, hl.2.2.1]
        cases th.done <;> simp [pastStore]
      · simp [htb] at hx

theorem countP_pointwise {α β : Type} (p : α → Bool) (q : β → Bool) : ∀ (l₁ : List α) (l₂ : List β),
    l₁.length = l₂.length → (∀ (i : Nat) a b, l₁[i]? = some a → l₂[i]? = some b → p a = q b) →
    l₁.countP p = l₂.countP q := by
  intro l₁
  induction l₁ with
  | nil => intro l₂ hlen _; cases l₂ with
    | nil => rfl
    | cons _ _ => simp at hlen
  | cons a l₁ ih =>
    intro l₂ hlen h
    cases l₂ with
    | nil => simp at hlen
    | cons b l₂ =>
      have h0 : p a = q b := h 0 a b rfl rfl
      have ht := ih l₂ (by simpa using hlen) (fun i a' b' ha hb => h (i + 1) a' b' (by simpa using ha) (by simpa using hb))
      simp only [List.countP_cons, h0, ht]

/-- no lost update, on `Model.Conc` -/
theorem cnt_eq_committedWriters (st : State) (cs : List Bool) (h : Sim st cs) (x : Nat) (hx : x < st.root.length) :
    (getT st.root x).cnt = committedWriters st cs x := by
  obtain ⟨s, hs, hR, hcs⟩ := h
  rw [hR.root x hx, (Serial.inv_reachable s hs).serial x, Serial.commits_eq_count s hs x]
  unfold committedWriters
  symm
  apply countP_pointwise
  · rw [List.length_zip, ← hcs, List.length_map, hR.len]; simp
  · intro i a t ha ht
    obtain ⟨th, c⟩ := a
    rw [List.getElem?_zip_eq_some] at ha
    obtain ⟨hth, hc⟩ := ha
    obtain ⟨t', ht', hT⟩ := hR.thr i th hth
    rw [ht] at ht'; simp only [Option.some.injEq] at ht'; subst ht'
    have hct : c = t.commit := by
      rw [← hcs, List.getElem?_map, ht] at hc
      simpa using hc.symm
    simp only [hct]
    exact committed_pointwise _ _ _ _ th t hT x

theorem ascending_nodup (l : List Nat) (h : Serial.Ascending l) : l.Nodup :=
  ((Serial.ascending_iff_pairwise l).1 h).imp Nat.ne_of_lt

theorem mem_take_iff_of_nodup {l : List Nat} (h : l.Nodup) (k i : Nat) : i ∈ l.take k ↔ i ∈ l ∧ i ∉ l.drop k := by
  have hl : i ∈ l ↔ i ∈ l.take k ∨ i ∈ l.drop k := by rw [← List.mem_append, List.take_append_drop]
  rw [← List.take_append_drop k l, List.nodup_append] at h
  exact ⟨fun h1 => ⟨hl.2 (.inl h1), fun h2 => h.2.2 i h1 i h2 rfl⟩, fun ⟨h1, h2⟩ => (hl.1 h1).resolve_right h2⟩

theorem TRel.held_iff {root : List TableV} {mu : Option Nat} {n tid : Nat} {th : Thread} {t : Txn}
    (hT : TRel root mu n tid th t) (i : Nat) :
    i ∈ Serial.held t ↔ Micro.release i ∈ th.prog ∧ Micro.acquire i ∉ th.prog := by
  have htabs := hT.tabs
  obtain ⟨p, hp, _, hl⟩ := hT.pos
  rw [← mem_strip _ th.prog (show relevant (.release i) = true from rfl),
    ← mem_strip _ th.prog (show relevant (.acquire i) = true from rfl), hp]
  obtain ⟨c1, c2, _⟩ := mem_cEnd (lockList th) t.commit
  rcases hl.stage with ⟨k, rfl⟩ | ⟨hph, _, hw⟩ | rfl | ⟨k, rfl⟩ | ⟨htb, hph, hnr⟩
  · have hnd : (lockList th).Nodup := ascending_nodup _ (lockOrder_ascending th.tables).1
    simp [Serial.held_acquiring hl.1, htabs, code, c1, c2, mem_take_iff_of_nodup hnd, -List.map_drop]
  · simp [Serial.held_loaded hph, htabs, hw.release, hw.noAcquire]
  · simp [Serial.held_stored hl.1, hl.2.1, htabs, code]
  · obtain ⟨_, hr, hph, hdp⟩ := hl
    cases hd : th.done with
    | true =>
      rw [hdp hd] at hp
      simp [Serial.held, hph, hd, ← hp, strip]
    | false => simp [Serial.held, hph, hd, hr, htabs, code, -List.map_drop]
  · simp [Serial.held_acquiring hph, (hnr i).1]

/-- `release i` ahead and no `acquire i` any more: the thread is between its acquire and its release of
    table `i` -/
theorem holds_of_between (st : State) (cs : List Bool) (h : Sim st cs) (tid : Nat) (th : Thread)
    (hth : st.threads[tid]? = some th) (i : Nat) (hrel : Micro.release i ∈ th.prog)
    (hacq : Micro.acquire i ∉ th.prog) : st.lockOwner.getD i none = some tid := by
  obtain ⟨s, hs, hR, _⟩ := h
  obtain ⟨t, ht, hT⟩ := hR.thr tid th hth
  rw [hR.owner i]
  exact (Serial.inv_reachable s hs).heldOwner tid t i ht ((hT.held_iff i).2 ⟨hrel, hacq⟩)

theorem between_of_holds (st : State) (cs : List Bool) (h : Sim st cs) (tid i : Nat)
    (ho : st.lockOwner.getD i none = some tid) :
    ∃ th, st.threads[tid]? = some th ∧ Micro.release i ∈ th.prog ∧ Micro.acquire i ∉ th.prog := by
  obtain ⟨s, hs, hR, _⟩ := h
  rw [hR.owner i] at ho
  obtain ⟨t, ht, hheld⟩ := (Serial.inv_reachable s hs).ownerHeld i tid ho
  have hlt : tid < st.threads.length := by rw [← hR.len]; exact LB.lt_of_getElem? ht
  obtain ⟨t', ht', hT⟩ := hR.thr tid st.threads[tid] (List.getElem?_eq_getElem hlt)
  rw [ht] at ht'; cases ht'
  exact ⟨_, List.getElem?_eq_getElem hlt, (hT.held_iff i).1 hheld⟩

/-- from `loadRoot` until its `storeRoot` (its writes, when aborting) nothing was committed to the tables a
    writer requested -/
theorem sees_latest (st : State) (cs : List Bool) (h : Sim st cs) (tid : Nat) (th : Thread)
    (hth : st.threads[tid]? = some th) (hld : Micro.act Act.loadRoot ∉ th.prog)
    (hw : Micro.act Act.storeRoot ∈ th.prog ∨ Micro.userWrites ∈ th.prog) (x : Nat) (hx : x ∈ th.tables) :
    x < th.oldRoot.length ∧ x < st.root.length ∧ (getT th.oldRoot x).cnt = (getT st.root x).cnt := by
  have hxr := (h.tables_lt hth hx).1
  obtain ⟨s, hs, hR, _⟩ := h
  obtain ⟨t, ht, hT⟩ := hR.thr tid th hth
  have htabs := hT.tabs
  obtain ⟨p, hp, _, hl⟩ := hT.pos
  have hxl : x ∈ lockList th := (mem_lockList th x).2 hx
  rw [← mem_strip _ _ (by rfl), hp] at hld
  rw [← mem_strip _ _ (by rfl), ← mem_strip _ th.prog (show relevant .userWrites = true from rfl), hp] at hw
  -- the load is behind and the writes or the store are ahead only while the writer works on its copy
  rcases hl.stage with ⟨k, rfl⟩ | ⟨hph, hold, _⟩ | rfl | ⟨k, rfl⟩ | ⟨htb, _⟩
  · exact absurd (by simp [code]) hld
  · obtain ⟨h1, h2⟩ := hold x hxl
    refine ⟨h1, hxr, ?_⟩
    rw [h2, (Serial.inv_reachable s hs).sees tid t ht hph x (by rw [htabs]; exact hxl), hR.root x hxr]; rfl
  · simp [code] at hw
  · simp [code, -List.map_drop] at hw
  · rw [htb] at hx; cases hx

/-- every table of `T` advanced by one write, every other table untouched -/
def CommittedAll (root root' : List TableV) (T : List Nat) : Prop :=
  root'.length = root.length ∧ ∀ x, x < root.length →
    (x ∈ T → (getT root' x).cnt = (getT root x).cnt + 1) ∧ (x ∉ T → getT root' x = getT root x)

theorem step_summary (st : State) (cs : List Bool) (hsim : Sim st cs) (tid : Nat) :
    (step st tid).1 = st ∨ ∃ th, st.threads[tid]? = some th ∧
      (∀ i tid0, tid0 ≠ tid → st.lockOwner.getD i none = some tid0 →
        (step st tid).1.lockOwner.getD i none = some tid0) ∧
      ((step st tid).1.root = st.root ∨
       (CommittedAll st.root (step st tid).1.root th.tables ∧
         ∀ x ∈ th.tables, x < st.root.length → ∀ tid0, tid0 ≠ tid → st.lockOwner.getD x none ≠ some tid0) ∨
       ∃ v : TableV, (step st tid).1.root = st.root ++ [v] ∧ v.cnt = 0) := by
  let T : List Nat := ((st.threads[tid]?).map (·.tables)).getD []
  let Done (root : List TableV) : Prop :=
    (CommittedAll st.root root T ∧
      ∀ x ∈ T, x < st.root.length → ∀ tid0, tid0 ≠ tid → st.lockOwner.getD x none ≠ some tid0) ∨
    ∃ v : TableV, root = st.root ++ [v] ∧ v.cnt = 0
  -- along the run: the root is still the old one, or the store is behind and, since it occurs once, gone from the program
  let J : State × Thread → Prop := fun a =>
    a.2.tables = T ∧
    (∀ i tid0, tid0 ≠ tid → st.lockOwner.getD i none = some tid0 → a.1.lockOwner.getD i none = some tid0) ∧
    (a.1.root = st.root ∨ (Micro.act Act.storeRoot ∉ a.2.prog ∧ Done a.1.root))
  have hJ : ∀ a b, RunInv tid cs a → J a → mstep a.1 tid a.2 = some b → Effect a.1 b.1 tid a.2 b.2 → J b := by
    intro a b _ ⟨jt, jo, jr⟩ hms heff
    have ⟨_, _, ht, htail⟩ := mstep_frame a.1 tid a.2 b.1 b.2 hms
    have keep : b.1.root = a.1.root → (b.1.root = st.root ∨ (Micro.act Act.storeRoot ∉ b.2.prog ∧ Done b.1.root)) :=
      fun h1 => by
        rw [h1]
        exact jr.imp_right fun ⟨hn, h⟩ => ⟨fun hm => hn (List.mem_of_mem_tail (htail ▸ hm)), h⟩
    -- a mutex `tid` takes was free and one it gives back was its own: neither is held by another thread
    have set : ∀ tb v, a.1.lockOwner.getD tb none = none ∨ a.1.lockOwner.getD tb none = some tid →
        b.1.lockOwner = a.1.lockOwner.set tb v → ∀ i tid0, tid0 ≠ tid → st.lockOwner.getD i none = some tid0 →
        b.1.lockOwner.getD i none = some tid0 := fun tb v hfree h3 i tid0 hne ho => by
      have j1 := jo i tid0 hne ho
      have hi : i ≠ tb := fun e => by
        rw [e] at j1
        rcases hfree with h | h <;> rw [h] at j1 <;> cases j1
        exact hne rfl
      rw [h3, getD_set_opt]
      simp only [hi, false_and, if_false]
      exact j1
    cases heff with
    | quiet root owner => exact ⟨ht ▸ jt, owner ▸ jo, keep root⟩
    | acquire tb root free owner => exact ⟨ht ▸ jt, set tb _ (.inl free) owner, keep root⟩
    | release tb root own owner => exact ⟨ht ▸ jt, set tb _ (.inr own) owner, keep root⟩
    | commit owner len ahead gone tables =>
      refine ⟨ht ▸ jt, owner ▸ jo, .inr ⟨gone, .inl ?_⟩⟩
      have h := jr.resolve_right fun ⟨hn, _⟩ => hn ahead
      rw [h] at len tables
      rw [← jt]
      refine ⟨⟨len, fun x hx => ⟨fun hm => ((tables x hx).1 hm).2, (tables x hx).2⟩⟩, fun x hm hx tid0 hne ho => ?_⟩
      have := jo x tid0 hne ho
      rw [((tables x hx).1 hm).1] at this
      cases this
      exact hne rfl
    | register owner _ ahead gone grown =>
      refine ⟨ht ▸ jt, owner ▸ jo, .inr ⟨gone, .inr ?_⟩⟩
      rw [jr.resolve_right fun ⟨hn, _⟩ => hn ahead] at grown
      exact grown
  rcases step_cases st tid with he | ⟨th, st', th', hth, hd, hstar, he, _⟩
  · exact .inl he
  · have ha := RunInv_start (tid := tid) hsim hth hd
    obtain ⟨_, _, jo, jr⟩ := MStar.invariant (fun x => RunInv tid cs x ∧ J x)
      (fun a b hab hs =>
        have r := RunInv_mstep tid cs a b hab.1 hs
        ⟨r.1, hJ a b hab.1 hab.2 hs r.2⟩)
      hstar ⟨ha, by simp [T, hth], fun _ _ _ h => h, .inl rfl⟩
    have hT : T = th.tables := by simp [T, hth]
    rw [he]
    exact .inr ⟨th, hth, jo, hT ▸ jr.imp_right fun h => h.2⟩

theorem holder_excludes_others (st : State) (cs : List Bool) (hsim : Sim st cs) (i tid0 tid : Nat)
    (hne : tid ≠ tid0) (ho : st.lockOwner.getD i none = some tid0) (hi : i < st.root.length) :
    (step st tid).1.lockOwner.getD i none = some tid0 ∧ getT (step st tid).1.root i = getT st.root i := by
  rcases step_summary st cs hsim tid with he | ⟨th, _, hk, hr⟩
  · rw [he]; exact ⟨ho, rfl⟩
  · refine ⟨hk i tid0 hne.symm ho, ?_⟩
    rcases hr with h | ⟨⟨_, hc⟩, hno⟩ | ⟨v, hv, _⟩
    · rw [h]
    · exact (hc i hi).2 fun hm => hno i hm hi tid0 hne.symm ho
    · rw [hv, getT_append_left _ _ _ hi]

theorem step_atomic (st : State) (cs : List Bool) (hsim : Sim st cs) (tid : Nat) :
    (step st tid).1.root = st.root ∨
    (∃ th, st.threads[tid]? = some th ∧ CommittedAll st.root (step st tid).1.root th.tables) ∨
    (∃ v : TableV, (step st tid).1.root = st.root ++ [v] ∧ v.cnt = 0) := by
  rcases step_summary st cs hsim tid with he | ⟨th, hth, _, h | ⟨h, _⟩ | h⟩
  · exact .inl (by rw [he])
  · exact .inl h
  · exact .inr (.inl ⟨th, hth, h⟩)
  · exact .inr (.inr h)

end Sdb.Conc
