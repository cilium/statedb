import SdbModel.Lemmas.ReconcilerMeasure

/-!
  Whole runs with user writes landing during Updates, as far as they need the timer or the measure.
  `JWInv` is to such runs what `WInv` is to runs without them.  A round preserves it under the
  hypothesis `roundSafe` that no queued foreign status write lands on an Error object (known
  finding K4).  Once nothing fails and nothing is queued to land, `Mz` decreases from ANY state of
  `JRInv` (retry items outside the time queue may be left over from writes that landed earlier); an
  idle state has no such items left and satisfies `WInv` again.
-/
namespace Sdb.Rec

theorem JRInv.congr {r r' : R} (h : JRInv r) (objs : r'.objs = r.objs) (dels : r'.dels = r.dels) (tableRev : r'.tableRev = r.tableRev)
    (itRev : r'.itRev = r.itRev) (itDelRev : r'.itDelRev = r.itDelRev) (refreshedAt : r'.refreshedAt = r.refreshedAt)
    (items : r'.items = r.items) (log : r'.log = r.log) (nextSid : r'.nextSid = r.nextSid)
    (results : r'.results = r.results) (num : r'.numReconciled = r.numReconciled) (pending : r'.pending = r.pending) : JRInv r' := by
  refine ⟨h.inv.congr objs dels tableRev itRev itDelRev refreshedAt items log nextSid, results.trans h.res, num.trans h.num, ?_⟩
  unfold Sync
  rw [objs, dels, itRev, itDelRev, refreshedAt, pending]
  exact h.sync

theorem JRInv.fireTimer {r : R} (h : JRInv r) : JRInv r.fireTimer := by
  unfold R.fireTimer
  split
  · split
    · exact h.congr rfl rfl rfl rfl rfl rfl rfl rfl rfl rfl rfl rfl
    · exact h
  · exact h

theorem JRInv.setNow {r : R} (h : JRInv r) (t : Nat) : JRInv { r with now := t } :=
  h.congr rfl rfl rfl rfl rfl rfl rfl rfl rfl rfl rfl rfl

theorem JRInv.setFailing {r : R} (h : JRInv r) (l : List Nat) : JRInv { r with failing := l } :=
  h.congr rfl rfl rfl rfl rfl rfl rfl rfl rfl rfl rfl rfl

theorem JRInv.setInjects {r : R} (h : JRInv r) (l : List (Nat × Inject)) : JRInv { r with injects := l } :=
  h.congr rfl rfl rfl rfl rfl rfl rfl rfl rfl rfl rfl rfl

theorem JRInv.init (c : Cfg) : JRInv { cfg := c } := by
  refine ⟨⟨⟨by simp, by simp, by simp, by simp, by simp, Nat.le_refl _, Nat.le_refl _, Nat.le_refl _⟩, by simp, by simp, by simp, by simp, by simp, by simp⟩, rfl, rfl, ?_⟩
  intro _
  exact ⟨by simp, by simp⟩

theorem JRInv.userPut {r : R} (h : JRInv r) (id data : Nat) : JRInv (r.userPut id data) := by
  have hI := h.inv.userPut id data
  obtain ⟨other, he⟩ := userPut_eq r id data
  rw [he] at hI ⊢
  exact ⟨hI, h.res, h.num, h.sync.setObj h.inv.tinv _⟩

theorem JRInv.delObj {r : R} (h : JRInv r) (id : Nat) : JRInv (r.delObj id) := by
  have hS := h.sync.delObj h.inv.tinv id
  cases hg : r.get id with
  | none => rw [delObj_of_none hg]; exact h
  | some o =>
    rw [delObj_of_get hg] at hS ⊢
    exact ⟨delObj_of_get hg ▸ h.inv.delObj id, h.res, h.num, hS⟩

theorem JRInv.touch {r : R} (h : JRInv r) (id : Nat) (hne : ∀ o, r.get id = some o → o.kind ≠ .error) : JRInv (r.touch id) := by
  have hI := h.inv.touch id hne
  cases hg : r.get id with
  | none => rw [touch_of_none hg]; exact h
  | some o =>
    rw [touch_of_get hg] at hI ⊢
    exact ⟨hI, h.res, h.num, h.sync.setObj h.inv.tinv _⟩

/-- between rounds no object carries a status for a version that was not processed -/
theorem JInv.status_processed {r : R} (h : JInv r []) :
    ∀ o ∈ r.objs,
      (o.kind = .done → lastCall r.log o.id = some ⟨"U", o.id, o.data, true⟩ ∧ ∀ it ∈ r.items, it.id ≠ o.id) ∧
      (o.kind = .error → ∃ it ∈ r.items, it.id = o.id ∧ it.delete = false ∧ it.rev = o.rev ∧ it.inQueue = true ∧
        it.obj.id = o.id ∧ it.obj.data = o.data ∧ it.obj.other = o.other) ∧
      ((o.kind = .pending ∨ o.kind = .refreshing) → o.rev > r.itRev) := by
  intro o ho
  obtain ⟨a, b, c⟩ := h.objOK o ho
  refine ⟨a, fun he => ?_, fun hn => ?_⟩
  · rcases b he with ⟨it, hit, b1, b2, b3, b4⟩ | ⟨res, hres, _⟩
    · rcases ((h.itemOK it hit).fresh b2).2.2 o ho b1.symm with ⟨_, _, e3, e4⟩ | ⟨e1, _⟩
      · exact ⟨it, hit, b1, b2, b3, b4, (h.itemOK it hit).1.trans b1, e3.symm, e4.symm⟩
      · omega
    · cases hres
  · rcases c hn with c | ⟨res, hres, _⟩
    · exact c
    · cases hres

/-- the invariant of all between-round states reachable with writes landing during Updates:
    `JRInv`, the timer invariant, every retry due within the maximal backoff -/
structure JWInv (r : R) : Prop where
  rinv : JRInv r
  q : QInv (fun t => t ≤ r.now + r.cfg.maxB) r

theorem JWInv.init (c : Cfg) : JWInv { cfg := c } := ⟨JRInv.init c, QInv.init _ c⟩

theorem JWInv.fireTimer {r : R} (h : JWInv r) : JWInv r.fireTimer := ⟨h.rinv.fireTimer, h.q.bound_fireTimer⟩

theorem JWInv.round {r : R} (h : JWInv r) (hs : r.roundSafe) : JWInv r.round := by
  obtain ⟨hq, n⟩ := h.q.roundJ h.rinv hs (fun _ => pAdd_bound r)
  refine ⟨h.rinv.round hs, ?_⟩
  rw [n.now, n.cfg]; exact hq

theorem JWInv.setNow {r : R} (h : JWInv r) (t : Nat) (ht : r.now ≤ t) : JWInv { r with now := t } :=
  ⟨h.rinv.setNow t, h.q.bound_setNow t ht⟩

theorem JWInv.setFailing {r : R} (h : JWInv r) (l : List Nat) : JWInv { r with failing := l } :=
  ⟨h.rinv.setFailing l, h.q.congr rfl rfl rfl⟩

theorem JWInv.setInjects {r : R} (h : JWInv r) (l : List (Nat × Inject)) : JWInv { r with injects := l } :=
  ⟨h.rinv.setInjects l, h.q.congr rfl rfl rfl⟩

theorem JWInv.userPut {r : R} (h : JWInv r) (id data : Nat) : JWInv (r.userPut id data) :=
  ⟨h.rinv.userPut id data, h.q.congr rfl rfl rfl⟩

theorem JWInv.delObj {r : R} (h : JWInv r) (id : Nat) : JWInv (r.delObj id) :=
  have f := frameW_delObj r id
  ⟨h.rinv.delObj id, h.q.bound_congr f.items f.timer f.now f.cfg⟩

theorem JWInv.touch {r : R} (h : JWInv r) (id : Nat) (hne : ∀ o, r.get id = some o → o.kind ≠ .error) : JWInv (r.touch id) :=
  have f := frameW_touch r id
  ⟨h.rinv.touch id hne, h.q.bound_congr f.items f.timer f.now f.cfg⟩

theorem round3_injSub (r : R) : InjSub r (round3 r) :=
  (InjSub.of_eq (by rcases nextChanges_fst r with e | e <;> rw [e])).trans (consume_injSub r.nextChanges.2 r.nextChanges.1 0)

theorem roundTail_injSub (x : R) (last : Nat) : InjSub x (roundTail x last) :=
  roundTail_ind (Q := fun y => InjSub x y) last (InjSub.refl x)
    (fun y h => h.trans (InjSub.of_eq (commitStatus_injects y)))
    (fun h => h.trans (processRetries_injSub _ _))
    (fun _ _ _ _ h => h.trans (InjSub.of_eq rfl))

theorem round_injSub (r : R) : InjSub r r.round := by
  rw [round_eq3]
  exact (round3_injSub r).trans (roundTail_injSub _ _)

theorem round_safe_of_noTouch (r : R) (h : NoTouch r.injects) : r.roundSafe ∧ InjSub r r.round := by
  have e0 : r.nextChanges.1.injects = r.injects := by rcases nextChanges_fst r with e | e <;> rw [e]
  refine ⟨⟨consume_safe_of_noTouch _ _ (e0 ▸ h), retries_safe_of_noTouch _ _ ?_⟩, round_injSub r⟩
  rw [commitStatus_injects]
  exact (round3_injSub r).noTouch h

theorem JWInv.quiesce {r : R} (h : JWInv r) (hn : NoTouch r.injects) (fuel : Nat) :
    JWInv (r.quiesce fuel) ∧ NoTouch (r.quiesce fuel).injects :=
  quiesce_ind (P := fun x => JWInv x ∧ NoTouch x.injects)
    (fun x h => ⟨h.1.fireTimer, (frameT_fireTimer x).injects ▸ h.2⟩)
    (fun x h => ⟨h.1.round (round_safe_of_noTouch x h.2).1, (round_injSub x).noTouch h.2⟩) ⟨h, hn⟩ fuel

theorem JWInv.advance {r : R} (h : JWInv r) (hn : NoTouch r.injects) (ms fuel : Nat) :
    JWInv (r.advance ms fuel) ∧ NoTouch (r.advance ms fuel).injects :=
  advance_ind (P := fun x => JWInv x ∧ NoTouch x.injects)
    (fun _ t ht h => ⟨h.1.setNow t ht, h.2⟩) (fun _ fuel h => h.1.quiesce h.2 fuel) ⟨h, hn⟩ ms fuel

theorem JRInv.toRInv {r : R} (h : JRInv r) (hinj : r.injects = []) (hq : ∀ it ∈ r.items, it.inQueue = true) : RInv r :=
  ⟨h.inv.core.invL (Calm.of_queued hinj hq), h.res, h.num, h.sync⟩

theorem JWInv.toWInv {r : R} (h : JWInv r) (hinj : r.injects = []) (hq : ∀ it ∈ r.items, it.inQueue = true) : WInv r :=
  ⟨h.rinv.toRInv hinj hq, h.q⟩

theorem JRInv.idle_items_queued {r : R} (h : JRInv r) (hidle : r.triggered = false) : ∀ it ∈ r.items, it.inQueue = true := by
  obtain ⟨c1, c2⟩ := (not_triggered hidle).caughtUp h.inv.tinv h.sync
  intro it hit
  cases hq : it.inQueue with
  | true => rfl
  | false =>
    exfalso
    -- an item outside the time queue belongs to an object whose change the iterator has yet to
    -- deliver, or has its failed result waiting to be committed: an idle loop has neither
    rcases (h.inv.itemOK it hit).popped hq with (⟨o, ho, _, h1, _⟩ | ⟨d, hd, _, h1⟩) | ⟨_, _, res, hres, _⟩
    · have := c1 o ho; omega
    · have := c2 d hd; omega
    · cases hres

theorem JWInv.toWInv_of_idle {r : R} (h : JWInv r) (hinj : r.injects = []) (hidle : r.triggered = false) : WInv r :=
  h.toWInv hinj (h.rinv.idle_items_queued hidle)

/-- the hypothesis `roundSafe` for every round `quiesce` runs (mirrors `R.quiesce`) -/
def R.quiesceSafe (r : R) : (fuel : Nat) → Prop
  | 0 => True
  | fuel + 1 =>
    let r := r.fireTimer
    if r.triggered then r.roundSafe ∧ R.quiesceSafe r.round fuel else True

/-- … and for every round `advance` runs (mirrors `R.advance`) -/
def R.advanceSafe (r : R) (ms : Nat) : (fuel : Nat) → Prop
  | 0 => True
  | fuel + 1 =>
    let target := r.now + ms
    match r.timer with
    | .armed t =>
      if t ≤ target then
        R.quiesceSafe ({ r with now := max t r.now }) 64 ∧
        (let r := ({ r with now := max t r.now }).quiesce 64
         R.advanceSafe r (target - r.now) fuel)
      else True
    | _ => True

theorem JWInv.quiesceS {r : R} (h : JWInv r) (fuel : Nat) (hs : r.quiesceSafe fuel) : JWInv (r.quiesce fuel) := by
  induction fuel generalizing r with
  | zero => exact h
  | succ n ih =>
    unfold R.quiesceSafe at hs
    unfold R.quiesce
    simp only at hs ⊢
    split
    · rename_i htr
      rw [if_pos htr] at hs
      exact ih (h.fireTimer.round hs.1) hs.2
    · exact h.fireTimer

theorem JWInv.advanceS {r : R} (h : JWInv r) (ms fuel : Nat) (hs : r.advanceSafe ms fuel) : JWInv (r.advance ms fuel) := by
  induction fuel generalizing r ms with
  | zero => exact h.setNow _ (by omega)
  | succ n ih =>
    unfold R.advanceSafe at hs
    unfold R.advance
    simp only at hs ⊢
    split
    · rename_i t htm
      split
      · rename_i hle
        split at hs
        · rename_i t' htm'
          have ht : t' = t := by rw [htm] at htm'; cases htm'; rfl
          subst ht
          rw [if_pos hle] at hs
          exact ih ((h.setNow (max t' r.now) (by omega)).quiesceS 64 hs.1) _ hs.2
        · rename_i hna
          exact absurd htm (hna t)
      · exact h.setNow _ (by omega)
    · exact h.setNow _ (by omega)

theorem quiesceSafe_of_noTouch (fuel : Nat) (r : R) (hn : NoTouch r.injects) : r.quiesceSafe fuel := by
  induction fuel generalizing r with
  | zero => trivial
  | succ n ih =>
    unfold R.quiesceSafe
    simp only
    have hn1 : NoTouch r.fireTimer.injects := by rw [(frameT_fireTimer r).injects]; exact hn
    split
    · obtain ⟨a, b⟩ := round_safe_of_noTouch r.fireTimer hn1
      exact ⟨a, ih _ (b.noTouch hn1)⟩
    · trivial

theorem advanceSafe_of_noTouch (fuel : Nat) (r : R) (ms : Nat) (hn : NoTouch r.injects) (h : JWInv r) : r.advanceSafe ms fuel := by
  induction fuel generalizing r ms with
  | zero => trivial
  | succ n ih =>
    unfold R.advanceSafe
    simp only
    split
    · rename_i t htm
      split
      · have h0 : JWInv { r with now := max t r.now } := h.setNow _ (by omega)
        obtain ⟨a, b⟩ := h0.quiesce hn 64
        exact ⟨quiesceSafe_of_noTouch 64 _ hn, ih _ _ b a⟩
      · trivial
    · trivial

theorem quiesce_injects_nil (n : Nat) (x : R) (hx : x.injects = []) : (x.quiesce n).injects = [] :=
  quiesce_ind (P := fun y => y.injects = []) (fun y h => (frameT_fireTimer y).injects.trans h)
    (fun y h => (round_injSub y).nil h) hx n

theorem advance_injects_nil (n : Nat) (x : R) (m : Nat) (hx : x.injects = []) : (x.advance m n).injects = [] :=
  advance_ind (P := fun y => y.injects = []) (fun _ _ _ h => h) (fun y n h => quiesce_injects_nil n y h) hx m n

/-! ## the hypothesis is decidable: it can be checked on concrete runs -/

def touchOK (r : R) : Inject → Bool
  | .touch id => (match r.get id with | some o => o.kind != .error | none => true)
  | _ => true

theorem touchOK_iff (r : R) (a : Inject) :
    touchOK r a = true ↔ ∀ id, a = .touch id → ∀ o, r.get id = some o → o.kind ≠ .error := by
  cases a with
  | put id data => simp [touchOK]
  | del id => simp [touchOK]
  | touch id =>
    simp only [touchOK]
    constructor
    · intro h id' e o ho
      cases e
      rw [ho] at h
      simpa using h
    · intro h
      cases hg : r.get id with
      | none => rfl
      | some o => simpa using h id rfl o hg

theorem injSafe_cons (r : R) (a : Nat × Inject) (as : List (Nat × Inject)) :
    InjSafe r (a :: as) ↔ touchOK r a.2 = true ∧ InjSafe (r.applyInject a.2) as := by
  rw [touchOK_iff]; exact Iff.rfl

instance injSafeDec : (acts : List (Nat × Inject)) → (r : R) → Decidable (InjSafe r acts)
  | [], _ => isTrue trivial
  | a :: as, r =>
    have := injSafeDec as (r.applyInject a.2)
    decidable_of_iff _ (injSafe_cons r a as).symm

instance (r : R) (obj : RObj) : Decidable (r.updSafe obj) := by unfold R.updSafe; infer_instance

theorem consumeSafe_cons (r : R) (c : Change) (cs : List Change) :
    r.consumeSafe (c :: cs) ↔
      (if !c.deleted ∧ !(c.obj.kind = .pending ∨ c.obj.kind = .refreshing) then
        (if c.deleted then ({ r with itDelRev := c.rev } : R) else { r with itRev := c.rev }).consumeSafe cs
      else
        (c.deleted = false → ((if c.deleted then ({ r with itDelRev := c.rev } : R) else { r with itRev := c.rev }).retryClear c.obj.id).updSafe c.obj) ∧
        (if ({ (((if c.deleted then ({ r with itDelRev := c.rev } : R) else { r with itRev := c.rev }).retryClear c.obj.id).processSingle c.obj c.rev c.deleted) with
                numReconciled := (((if c.deleted then ({ r with itDelRev := c.rev } : R) else { r with itRev := c.rev }).retryClear c.obj.id).processSingle c.obj c.rev c.deleted).numReconciled + 1 } : R).numReconciled ≥
              ({ (((if c.deleted then ({ r with itDelRev := c.rev } : R) else { r with itRev := c.rev }).retryClear c.obj.id).processSingle c.obj c.rev c.deleted) with
                numReconciled := (((if c.deleted then ({ r with itDelRev := c.rev } : R) else { r with itRev := c.rev }).retryClear c.obj.id).processSingle c.obj c.rev c.deleted).numReconciled + 1 } : R).cfg.roundSize
          then True
          else ({ (((if c.deleted then ({ r with itDelRev := c.rev } : R) else { r with itRev := c.rev }).retryClear c.obj.id).processSingle c.obj c.rev c.deleted) with
                numReconciled := (((if c.deleted then ({ r with itDelRev := c.rev } : R) else { r with itRev := c.rev }).retryClear c.obj.id).processSingle c.obj c.rev c.deleted).numReconciled + 1 } : R).consumeSafe cs)) := Iff.rfl

instance consumeSafeDec : (cs : List Change) → (r : R) → Decidable (r.consumeSafe cs)
  | [], _ => isTrue trivial
  | c :: cs, r =>
    have : ∀ x : R, Decidable (x.consumeSafe cs) := consumeSafeDec cs
    decidable_of_iff _ (consumeSafe_cons r c cs).symm

/-- a `match` on `r.head` in a form whose decidability is found by instance search -/
def optProp {α : Type} (o : Option α) (P : α → Prop) : Prop :=
  match o with
  | none => True
  | some h => P h

instance optPropDec {α : Type} (P : α → Prop) [∀ a, Decidable (P a)] : (o : Option α) → Decidable (optProp o P)
  | none => isTrue trivial
  | some h => (inferInstance : Decidable (P h))

theorem retriesSafe_succ_opt (r : R) (fuel : Nat) :
    r.retriesSafe (fuel + 1) ↔
      (if r.numReconciled ≥ r.cfg.roundSize then True else
        optProp r.head (fun h =>
          if h.retryAt > r.now then True else
          (h.delete = false → r.retryPop.updSafe h.obj) ∧
          R.retriesSafe { (r.retryPop.processSingle h.obj h.rev h.delete) with
            numReconciled := (r.retryPop.processSingle h.obj h.rev h.delete).numReconciled + 1 } fuel)) := by
  conv => lhs; unfold R.retriesSafe
  split
  · exact Iff.rfl
  · unfold optProp
    cases r.head with
    | none => exact Iff.rfl
    | some h => exact Iff.rfl

instance retriesSafeDec : (fuel : Nat) → (r : R) → Decidable (r.retriesSafe fuel)
  | 0, _ => isTrue trivial
  | fuel + 1, r =>
    have : ∀ x : R, Decidable (x.retriesSafe fuel) := retriesSafeDec fuel
    decidable_of_iff _ (retriesSafe_succ_opt r fuel).symm

instance (r : R) : Decidable r.tailSafe := by unfold R.tailSafe; infer_instance
instance (r : R) : Decidable r.roundSafe := by unfold R.roundSafe; infer_instance

theorem mz_roundJ {P : Nat → Prop} {r : R} (hr : JRInv r) (hq : QInv P r) (hf : r.failing = []) (hinj : r.injects = [])
    (hrs : 1 ≤ r.cfg.roundSize) (htr : r.triggered = true) : Mz r.round < Mz r :=
  mz_round_of hr.inv.tinv hr.sync hr.res hr.num hq hf hinj hrs htr

/-- the invariant once failures and writes during Updates have stopped: no retry is due later than `B` -/
structure JSInv (B : Nat) (r : R) : Prop where
  rinv : JRInv r
  q : QInv (fun t => t ≤ B) r
  nofail : r.failing = []
  noinj : r.injects = []

theorem JWInv.toJSInv {r : R} (h : JWInv r) (hf : r.failing = []) (hinj : r.injects = []) : JSInv (r.now + r.cfg.maxB) r :=
  ⟨h.rinv, h.q, hf, hinj⟩

theorem JSInv.fireTimer {B : Nat} {r : R} (h : JSInv B r) : JSInv B r.fireTimer ∧ r.fireTimer.now = r.now := by
  have f := frameT_fireTimer r
  exact ⟨⟨h.rinv.fireTimer, h.q.fireTimer, f.failing.trans h.nofail, f.injects.trans h.noinj⟩, f.now⟩

theorem JSInv.round {B : Nat} {r : R} (h : JSInv B r) : JSInv B r.round ∧ r.round.now = r.now ∧ r.round.cfg = r.cfg := by
  have hs := (round_safe_of_noTouch r (noTouch_nil h.noinj)).1
  obtain ⟨hq, n⟩ := h.q.roundJ h.rinv hs (fun e => absurd h.nofail e)
  exact ⟨⟨h.rinv.round hs, hq, n.failing.trans h.nofail, (round_injSub r).nil h.noinj⟩, n.now, n.cfg⟩

theorem JSInv.setNow {B : Nat} {r : R} (h : JSInv B r) (t : Nat) (ht : r.now ≤ t) : JSInv B { r with now := t } :=
  ⟨h.rinv.setNow t, h.q.setNow t ht, h.nofail, h.noinj⟩

theorem JSInv.quiesce {B : Nat} {r : R} (h : JSInv B r) (fuel : Nat) :
    JSInv B (r.quiesce fuel) ∧ (r.quiesce fuel).now = r.now ∧ (r.quiesce fuel).cfg = r.cfg :=
  quiesce_ind (P := fun x => JSInv B x ∧ x.now = r.now ∧ x.cfg = r.cfg)
    (fun x h => ⟨h.1.fireTimer.1, h.1.fireTimer.2.trans h.2.1, (frameT_fireTimer x).cfg.trans h.2.2⟩)
    (fun _ h => ⟨h.1.round.1, h.1.round.2.1.trans h.2.1, h.1.round.2.2.trans h.2.2⟩) ⟨h, rfl, rfl⟩ fuel

theorem JSInv.quiesce_idle {B : Nat} {r : R} (h : JSInv B r) (hrs : 1 ≤ r.cfg.roundSize) (fuel : Nat) (hfuel : Mz r < fuel) :
    (r.quiesce fuel).triggered = false :=
  quiesce_eq r fuel ▸ (quiesceW_idle (I := JSInv B) (fun _ h => h.fireTimer.1) (fun _ h => ⟨h.round.1, h.round.2.2⟩)
    (fun _ h => mz_roundJ h.rinv h.q h.nofail h.noinj) h hrs fuel hfuel).1

theorem JSInv.idle_converged {B : Nat} {r : R} (h : JSInv B r) (hB : B < r.now) (hidle : r.triggered = false) : Converged r :=
  Sdb.Rec.idle_converged (h.rinv.toRInv h.noinj (h.rinv.idle_items_queued hidle)) h.q hB hidle

end Sdb.Rec
