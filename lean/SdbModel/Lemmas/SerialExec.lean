import SdbModel.Model.SerialExec
import SdbModel.Lemmas.Serial

/-! `Serial.stepFn` only takes steps of `Serial.Step`; so every state the sched
    driver reaches by replaying the events of a Model.Conc run is `Reachable`. -/
namespace Sdb.Serial

theorem ascendingB_sound : ∀ l, ascendingB l = true → Ascending l
  | [], _ => trivial
  | [_], _ => trivial
  | a :: b :: r, h => by
    simp only [ascendingB, Bool.and_eq_true, decide_eq_true_eq] at h
    exact ⟨h.1, ascendingB_sound (b :: r) h.2⟩

theorem of_guard {p : Prop} [Decidable p] {a b : State} (h : (if p then some a else none) = some b) : p ∧ a = b := by
  by_cases hp : p
  · rw [if_pos hp] at h; exact ⟨hp, Option.some.inj h⟩
  · rw [if_neg hp] at h; cases h

theorem stepFn_sound (s s' : State) (ev : Ev) (h : stepFn s ev = some s') : Step s s' := by
  -- every event of a thread looks up its transaction, checks the premises of its `Step` and gives the
  -- state of that `Step`
  have look : ∀ {i : Nat} {f : Txn → Option State}, (match s.txns[i]? with | some t => f t | none => none) = some s' →
      ∃ t, s.txns[i]? = some t ∧ f t = some s' := by
    intro i f h
    cases hi : s.txns[i]? with
    | none => rw [hi] at h; cases h
    | some t => rw [hi] at h; exact ⟨t, rfl, h⟩
  cases ev with
  | acquire i tb =>
    obtain ⟨t, hi, h⟩ := look h
    cases hp : t.phase with
    | acquiring k =>
      rw [hp] at h
      obtain ⟨⟨hk, ho⟩, rfl⟩ := of_guard h
      exact Step.acquire s i t k tb hi hp hk ho
    | _ => rw [hp] at h; cases h
  | load i =>
    obtain ⟨t, hi, h⟩ := look h
    obtain ⟨hp, rfl⟩ := of_guard h
    exact Step.load s i t hi hp
  | store i =>
    obtain ⟨t, hi, h⟩ := look h
    obtain ⟨⟨hp, hc⟩, rfl⟩ := of_guard h
    exact Step.store s i t hi hp hc
  | abort i =>
    obtain ⟨t, hi, h⟩ := look h
    obtain ⟨⟨hp, hc⟩, rfl⟩ := of_guard h
    exact Step.abort s i t hi hp hc
  | release i tb =>
    obtain ⟨t, hi, h⟩ := look h
    obtain ⟨⟨hp, hk⟩, rfl⟩ := of_guard h
    exact Step.release s i t tb hi hp hk
  | finish i =>
    obtain ⟨t, hi, h⟩ := look h
    obtain ⟨⟨hp, hk⟩, rfl⟩ := of_guard h
    exact Step.finish s i t hi hp hk
  | spawn tabs commit =>
    obtain ⟨ha, rfl⟩ := of_guard h
    exact Step.spawn s { tabs, commit } (ascendingB_sound tabs ha) rfl rfl

theorem replay_reachable (evs : List Ev) (s : State) (hr : Reachable s) :
    ∀ s', evs.foldlM stepFn s = some s' → Reachable s' := by
  induction evs generalizing s with
  | nil => intro s' h; simp at h; subst h; exact hr
  | cons e es ih =>
    intro s' h
    simp only [List.foldlM_cons, Option.bind_eq_bind] at h
    cases hs : stepFn s e with
    | none => simp [hs] at h
    | some s1 =>
      simp only [hs, Option.bind_some] at h
      exact ih s1 (Reachable.step s s1 hr (stepFn_sound s s1 e hs)) s' h

end Sdb.Serial
