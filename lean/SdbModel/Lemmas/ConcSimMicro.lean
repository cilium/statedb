import SdbModel.Model.Conc
import SdbModel.Lemmas.ListBasics

/-!
  `Conc.step` as a sequence of MICRO steps.  `Conc.runThread` runs a thread from one park to the next; here the run
  is cut into micro steps (`mstep`: pop one `Micro` off the program and apply its effect; the end of the program sets
  `done`), and `Conc.step` is nothing, or the installation of the record reached by a finite chain of `mstep`s
  (`step_cases`).  What is proved of one micro step therefore lifts to scheduler steps WHATEVER the fuel and wherever
  the parks are, which is what makes the simulation insensitive to added hooks.  Protocol independent.
-/
namespace Sdb.Conc

theorem readTxn_eq (st : State) : readTxn st = st.root := rfl

/-- one micro step of thread `tid` whose current record is `th` (the record in
    `st.threads` is stale during a run); `none` = blocked or finished -/
def mstep (st : State) (tid : Nat) (th : Thread) : Option (State × Thread) :=
  match th.prog with
  | [] => if th.done then none else some (st, { th with done := true })
  | m :: rest =>
    let th' := { th with prog := rest }
    match m with
    | .park _ => some (st, th')
    | .acquire t =>
      if (st.lockOwner.getD t none).isSome then none
      else some ({ st with lockOwner := st.lockOwner.set t (some tid) }, th')
    | .release t => some ({ st with lockOwner := st.lockOwner.set t none }, th')
    | .acquireRoot => if st.rootMu.isSome then none else some ({ st with rootMu := some tid }, th')
    | .releaseRoot => some ({ st with rootMu := none }, th')
    | .act a => some (doAct st th' a)
    | .userWrites => some (doUserWrites st th')

inductive MStar (tid : Nat) : State × Thread → State × Thread → Prop where
  | refl (a : State × Thread) : MStar tid a a
  | tail (a b c : State × Thread) : MStar tid a b → mstep b.1 tid b.2 = some c → MStar tid a c

theorem MStar.trans {tid : Nat} {a b c : State × Thread} (h1 : MStar tid a b) (h2 : MStar tid b c) :
    MStar tid a c := by
  induction h2 with
  | refl => exact h1
  | tail b' c' _ h ih => exact .tail _ _ _ ih h

theorem MStar.head {tid : Nat} {a b c : State × Thread} (h1 : mstep a.1 tid a.2 = some b) (h2 : MStar tid b c) :
    MStar tid a c :=
  (MStar.tail _ _ _ (.refl _) h1).trans h2

theorem MStar.invariant {tid : Nat} (I : State × Thread → Prop)
    (hstep : ∀ a b, I a → mstep a.1 tid a.2 = some b → I b)
    {a b : State × Thread} (h : MStar tid a b) (ha : I a) : I b := by
  induction h with
  | refl => exact ha
  | tail b c _ hs ih => exact hstep b c ih hs

theorem thread_prog_eta (th : Thread) (p : List Micro) (h : th.prog = p) : { th with prog := p } = th := by
  cases th; simp_all

theorem doAct_done (st : State) (th : Thread) (a : Act) : (doAct st th a).2.done = th.done := by
  cases a <;> rfl

theorem doUserWrites_done (st : State) (th : Thread) : (doUserWrites st th).2.done = th.done := by
  simp only [doUserWrites]

theorem doAct_prog (st : State) (th : Thread) (a : Act) : (doAct st th a).2.prog = th.prog := by
  cases a <;> rfl

theorem doUserWrites_prog (st : State) (th : Thread) : (doUserWrites st th).2.prog = th.prog := by
  simp only [doUserWrites]

/-- inversion of `mstep` by the head `m` of the program; once `m` is a constructor the `match` reduces to
    the one line that applies (as in `mstep_act`) -/
theorem mstep_cons {st : State} {tid : Nat} {th : Thread} {m : Micro} {rest : List Micro} {st' : State}
    {th' : Thread} (hprog : th.prog = m :: rest) (h : mstep st tid th = some (st', th')) :
    match (generalizing := false) m with
    | .park _ => (st, { th with prog := rest }) = (st', th')
    | .acquire t => st.lockOwner.getD t none = none ∧
        ({ st with lockOwner := st.lockOwner.set t (some tid) }, { th with prog := rest }) = (st', th')
    | .release t => ({ st with lockOwner := st.lockOwner.set t none }, { th with prog := rest }) = (st', th')
    | .acquireRoot => st.rootMu = none ∧ ({ st with rootMu := some tid }, { th with prog := rest }) = (st', th')
    | .releaseRoot => ({ st with rootMu := none }, { th with prog := rest }) = (st', th')
    | .act a => doAct st { th with prog := rest } a = (st', th')
    | .userWrites => doUserWrites st { th with prog := rest } = (st', th') := by
  cases m <;> simp only [mstep, hprog] at h
  case acquire t =>
    by_cases hb : (st.lockOwner.getD t none).isSome = true
    · rw [if_pos hb] at h; cases h
    · rw [if_neg hb] at h; exact ⟨Option.not_isSome_iff_eq_none.1 hb, Option.some.inj h⟩
  case acquireRoot =>
    by_cases hb : st.rootMu.isSome = true
    · rw [if_pos hb] at h; cases h
    · rw [if_neg hb] at h; exact ⟨Option.not_isSome_iff_eq_none.1 hb, Option.some.inj h⟩
  all_goals exact Option.some.inj h

theorem mstep_act {st : State} {tid : Nat} {th : Thread} {a : Act} {rest : List Micro} {st' : State}
    {th' : Thread} (hprog : th.prog = .act a :: rest) (h : mstep st tid th = some (st', th')) :
    doAct st { th with prog := rest } a = (st', th') :=
  mstep_cons hprog h

theorem runThread_succ (st : State) (tid : Nat) (th : Thread) :
    (∃ l, (∀ fuel, runThread st tid th (fuel + 1) = (st, th, l)) ∧
      ((∃ r, th.prog = .park l :: r) ∨
       (∃ t r, th.prog = .acquire t :: r ∧ (st.lockOwner.getD t none).isSome = true) ∨
       (∃ r, th.prog = .acquireRoot :: r ∧ st.rootMu.isSome = true))) ∨
    (th.prog = [] ∧ ∀ fuel, runThread st tid th (fuel + 1) = (st, { th with done := true }, "done")) ∨
    (∃ m rest st' th', th.prog = m :: rest ∧ mstep st tid th = some (st', th') ∧ th'.prog = rest ∧
      th'.done = th.done ∧ ∀ fuel, runThread st tid th (fuel + 1) = runThread st' tid th' fuel) := by
  have hcases : th.prog = [] ∨ ∃ m rest, th.prog = m :: rest := by cases th.prog <;> simp
  rcases hcases with hp | ⟨m, rest, hp⟩
  · exact .inr (.inl ⟨hp, fun _ => by rw [runThread]; simp only [hp]⟩)
  refine Or.imp_right (fun ⟨st', th', h⟩ => Or.inr ⟨m, rest, st', th', hp, h⟩)
    (?_ : _ ∨ ∃ st' th', mstep st tid th = some (st', th') ∧ th'.prog = rest ∧ th'.done = th.done ∧
      ∀ fuel, runThread st tid th (fuel + 1) = runThread st' tid th' fuel)
  cases m with
  | park l =>
    exact .inl ⟨l, fun _ => by rw [runThread]; simp only [hp]; rw [thread_prog_eta _ _ hp], .inl ⟨rest, hp⟩⟩
  | acquire t =>
    by_cases hb : (st.lockOwner.getD t none).isSome = true
    · exact .inl ⟨_, fun _ => by rw [runThread]; simp only [hp]; rw [if_pos hb, thread_prog_eta _ _ hp],
        .inr (.inl ⟨t, rest, hp, hb⟩)⟩
    · exact .inr ⟨_, { th with prog := rest }, by simp only [mstep, hp]; rw [if_neg hb], rfl, rfl,
        fun _ => by rw [runThread]; simp only [hp]; rw [if_neg hb]⟩
  | release t =>
    exact .inr ⟨{ st with lockOwner := st.lockOwner.set t none }, { th with prog := rest }, by simp only [mstep, hp], rfl, rfl,
      fun _ => by rw [runThread]; simp only [hp]⟩
  | acquireRoot =>
    by_cases hb : st.rootMu.isSome = true
    · exact .inl ⟨_, fun _ => by rw [runThread]; simp only [hp]; rw [if_pos hb, thread_prog_eta _ _ hp],
        .inr (.inr ⟨rest, hp, hb⟩)⟩
    · exact .inr ⟨_, { th with prog := rest }, by simp only [mstep, hp]; rw [if_neg hb], rfl, rfl,
        fun _ => by rw [runThread]; simp only [hp]; rw [if_neg hb]⟩
  | releaseRoot =>
    exact .inr ⟨{ st with rootMu := none }, { th with prog := rest }, by simp only [mstep, hp], rfl, rfl,
      fun _ => by rw [runThread]; simp only [hp]⟩
  | act a =>
    exact .inr ⟨(doAct st { th with prog := rest } a).1, (doAct st { th with prog := rest } a).2,
      by simp only [mstep, hp], doAct_prog .., doAct_done .., fun _ => by rw [runThread]; simp only [hp]⟩
  | userWrites =>
    exact .inr ⟨(doUserWrites st { th with prog := rest }).1, (doUserWrites st { th with prog := rest }).2,
      by simp only [mstep, hp], doUserWrites_prog .., doUserWrites_done .., fun _ => by rw [runThread]; simp only [hp]⟩

theorem runThread_mstar (tid : Nat) : ∀ (fuel : Nat) (st : State) (th : Thread), th.done = false →
    MStar tid (st, th) ((runThread st tid th fuel).1, (runThread st tid th fuel).2.1) := by
  intro fuel
  induction fuel with
  | zero => intro st th _; exact .refl _
  | succ fuel ih =>
    intro st th hd
    rcases runThread_succ st tid th with ⟨l, h, _⟩ | ⟨hp, h⟩ | ⟨m, rest, st', th', _, hm, _, hd', h⟩
    · rw [h]; exact .refl _
    · rw [h]; exact .tail _ _ _ (.refl _) (by simp [mstep, hp, hd])
    · rw [h]; exact MStar.head (b := (st', th')) hm (ih st' th' (hd'.trans hd))

/-- the record `th` of a run in progress written back, as `Conc.step` does at its end; invariants during a run are
    stated on it -/
def install (st : State) (tid : Nat) (th : Thread) : State := { st with threads := st.threads.set tid th }

theorem install_length (st : State) (tid : Nat) (th : Thread) :
    (install st tid th).threads.length = st.threads.length := List.length_set

theorem install_get (st : State) (tid j : Nat) (th : Thread) (htid : tid < st.threads.length) :
    (install st tid th).threads[j]? = if j = tid then some th else st.threads[j]? :=
  LB.getElem?_set_lt htid j th

theorem install_own (st : State) (tid : Nat) (th : Thread) (htid : tid < st.threads.length) :
    (install st tid th).threads[tid]? = some th := by
  rw [install_get _ _ _ _ htid, if_pos rfl]

theorem install_other (st : State) (tid : Nat) (th : Thread) (htid : tid < st.threads.length) {j : Nat} (hj : j ≠ tid) :
    (install st tid th).threads[j]? = st.threads[j]? := by
  rw [install_get _ _ _ _ htid, if_neg hj]

theorem install_self (st : State) (tid : Nat) (th : Thread) (h : st.threads[tid]? = some th) :
    install st tid th = st := by
  cases st
  simp only [install] at h ⊢
  rw [LB.set_self h]

/-- what `Conc.step` does to a thread before running it: leave the park it rests at -/
def dropPark (th : Thread) : Thread :=
  match th.prog with
  | .park _ :: rest => { th with prog := rest }
  | _ => th

theorem dropPark_done (th : Thread) : (dropPark th).done = th.done := by
  unfold dropPark; split <;> rfl

theorem dropPark_mstar (st : State) (tid : Nat) (th : Thread) : MStar tid (st, th) (st, dropPark th) := by
  unfold dropPark
  split
  · rename_i hp; exact .tail _ _ _ (.refl _) (by simp only [mstep, hp])
  · exact .refl _

theorem step_eq (st : State) (tid : Nat) (th : Thread) (hth : st.threads[tid]? = some th)
    (hd : th.done = false) (he : th.enabled st = true) :
    (step st tid).1 = install (runThread st tid (dropPark th) ((dropPark th).prog.length + 2)).1 tid
      (runThread st tid (dropPark th) ((dropPark th).prog.length + 2)).2.1 := by
  unfold step
  simp only [hth]
  rw [if_neg (by rw [hd]; simp), if_neg (by rw [he]; simp)]
  rfl

theorem step_run (st : State) (tid : Nat) :
    (step st tid).1 = st ∨
    ∃ th, st.threads[tid]? = some th ∧ th.done = false ∧ th.enabled st = true ∧
      (step st tid).1 = install (runThread st tid (dropPark th) ((dropPark th).prog.length + 2)).1 tid
        (runThread st tid (dropPark th) ((dropPark th).prog.length + 2)).2.1 := by
  cases hth : st.threads[tid]? with
  | none => left; simp only [step, hth]
  | some th =>
    cases hd : th.done with
    | true => left; simp only [step, hth, hd, if_true]
    | false =>
      cases he : th.enabled st with
      | false => left; simp only [step, hth, hd, he, Bool.false_eq_true, if_false, Bool.not_false, if_true]
      | true => exact .inr ⟨th, rfl, hd, he, step_eq st tid th hth hd he⟩

theorem runThread_head (tid : Nat) : ∀ (fuel : Nat) (st : State) (th : Thread), th.prog.length < fuel →
    ∀ a, (runThread st tid th fuel).2.1.prog.head? ≠ some (.act a) := by
  intro fuel
  induction fuel with
  | zero => intro st th h; omega
  | succ n ih =>
    intro st th hn a
    rcases runThread_succ st tid th with ⟨l, h, hstop⟩ | ⟨hp, h⟩ | ⟨m, rest, st', th', hp, _, hp', _, h⟩
    · rw [h]
      rcases hstop with ⟨r, e⟩ | ⟨t, r, e, _⟩ | ⟨r, e, _⟩ <;> simp [e]
    · rw [h]; simp [hp]
    · rw [h]
      rw [hp, List.length_cons] at hn
      exact ih st' th' (by rw [hp']; omega) a

theorem step_cases (st : State) (tid : Nat) :
    (step st tid).1 = st ∨
    ∃ (th : Thread) (st' : State) (th' : Thread), st.threads[tid]? = some th ∧ th.done = false ∧
      MStar tid (st, th) (st', th') ∧ (step st tid).1 = install st' tid th' ∧
      ∀ a, th'.prog.head? ≠ some (.act a) := by
  rcases step_run st tid with h | ⟨th, hth, hd, _, h⟩
  · exact .inl h
  · exact .inr ⟨th, _, _, hth, hd,
      (dropPark_mstar st tid th).trans (runThread_mstar tid _ st _ ((dropPark_done th).trans hd)), h,
      runThread_head tid _ st _ (by omega)⟩

end Sdb.Conc
