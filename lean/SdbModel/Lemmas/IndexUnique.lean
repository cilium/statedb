import SdbModel.Lemmas.IndexBase
/-!
  C04, unique secondary index `uIdx` (key `Obj.ukey` = hex(id) ++ ":" ++ variant digit): the key determines
  the id (for ids made of bytes); `UInv`: the index is sorted and holds exactly the live objects, each under
  its own key.
-/
namespace Sdb.Tbl
open OMap

def hexNib (n : Nat) : Nat := if n < 10 then 48 + n else 87 + n

theorem hexDigits_nil : hexDigits [] = [] := rfl

theorem hexDigits_cons (b : Nat) (k : Key) :
    hexDigits (b :: k) = hexNib (b / 16 % 16) :: hexNib (b % 16) :: hexDigits k := by
  simp [hexDigits, hexNib]

theorem hexDigits_length (k : Key) : (hexDigits k).length = 2 * k.length := by
  induction k with
  | nil => rfl
  | cons b k ih => rw [hexDigits_cons]; simp [ih]; omega

theorem hexNib_inj (a b : Nat) (h : hexNib a = hexNib b) : a = b := by
  unfold hexNib at h
  split at h <;> split at h
  · exact Nat.add_left_cancel h
  · omega
  · omega
  · exact Nat.add_left_cancel h

theorem byte_ext (x y : Nat) (hx : x < 256) (hy : y < 256) (h1 : x / 16 % 16 = y / 16 % 16)
    (h2 : x % 16 = y % 16) : x = y := by
  rw [Nat.mod_eq_of_lt (Nat.div_lt_of_lt_mul hx), Nat.mod_eq_of_lt (Nat.div_lt_of_lt_mul hy)] at h1
  rw [← Nat.div_add_mod x 16, ← Nat.div_add_mod y 16, h1, h2]

theorem hexDigits_inj (a b : Key) (ha : ∀ x ∈ a, x < 256) (hb : ∀ x ∈ b, x < 256)
    (h : hexDigits a = hexDigits b) : a = b := by
  induction a generalizing b with
  | nil =>
    cases b with
    | nil => rfl
    | cons y ys => rw [hexDigits_cons] at h; cases h
  | cons x xs ih =>
    cases b with
    | nil => rw [hexDigits_cons] at h; cases h
    | cons y ys =>
      rw [hexDigits_cons, hexDigits_cons] at h
      injection h with h1 h
      injection h with h2 h3
      rw [List.forall_mem_cons] at ha hb
      rw [byte_ext x y ha.1 hb.1 (hexNib_inj _ _ h1) (hexNib_inj _ _ h2), ih ys ha.2 hb.2 h3]

theorem ukey_inj (o1 o2 : Obj) (h1 : ∀ b ∈ o1.id, b < 256) (h2 : ∀ b ∈ o2.id, b < 256)
    (h : o1.ukey = o2.ukey) : o1.id = o2.id ∧ o1.uvar = o2.uvar := by
  obtain ⟨e1, e2⟩ := List.append_inj' h rfl
  injection e2 with _ e2
  injection e2 with e2
  exact ⟨hexDigits_inj _ _ h1 h2 e1, Nat.add_left_cancel e2⟩

structure UInv (primary : OMap Obj) (u : OMap Obj) : Prop where
  sorted : Sorted u
  /-- ids are byte strings: `hexDigits` is injective only on those -/
  bytes : ∀ k o, primary.get k = some o → ∀ b ∈ k, b < 256
  char : ∀ k x, u.get k = some x ↔ primary.get x.id = some x ∧ k = x.ukey

theorem UInv.nil : UInv [] [] := ⟨sorted_nil, fun k o h => by simp at h, fun k x => by simp⟩

theorem UInv.write {primary u primary' : OMap Obj} (inv : UInv primary u) (hp : POk primary) (id : Key)
    (new : Option Obj) (hnew : ∀ n, new = some n → n.id = id ∧ ∀ b ∈ id, b < 256)
    (hP : Updated primary id new primary') :
    UInv primary' (reindexUnique u (primary.get id) new (fun o => [o.ukey])) := by
  refine ⟨sorted_reindexUnique _ inv.sorted _ _ _, ?_, ?_⟩
  · intro k o hk
    rw [hP] at hk
    split at hk
    · rename_i e; rw [e]; exact (hnew o hk).2
    · exact inv.bytes k o hk
  · intro k x
    have h := partIndex_write (K := fun _ o => [o.ukey]) (by simpa using inv.char) (fun n hn => (hnew n hn).1)
      ?_ hP (get_reindexUnique u inv.sorted _ _ _) k x
    · simpa using h
    · -- equal unique keys belong to objects with the same (byte-string) id
      intro x y c hx hy hcx hcy
      rw [List.mem_singleton] at hcx hcy
      obtain ⟨rfl, hyb⟩ : y.id = id ∧ ∀ b ∈ id, b < 256 :=
        hy.elim (fun h => ⟨hp.idOk _ _ h, inv.bytes _ _ h⟩) (hnew y)
      exact (ukey_inj x y (inv.bytes _ _ hx) hyb (hcx.symm.trans hcy)).1

theorem UInv.entry {primary u : OMap Obj} (inv : UInv primary u) {e : Key × Obj} (he : e ∈ u) :
    primary.get e.2.id = some e.2 ∧ e.1 = e.2.ukey :=
  (inv.char e.1 e.2).mp (mem_get_some _ inv.sorted e.1 e.2 he)

theorem UInv.mem_objs {primary u : OMap Obj} (inv : UInv primary u) (x : Obj) :
    x ∈ u.map (·.2) ↔ primary.get x.id = some x := by
  rw [mem_keys_map u Obj.ukey (fun _ _ he => (inv.entry he).2) inv.sorted, inv.char]
  exact and_iff_left rfl

theorem UInv.objs_sorted {primary u : OMap Obj} (inv : UInv primary u) :
    (u.map (·.2)).Pairwise (fun a b => cmpL a.ukey b.ukey = .lt) :=
  inv.sorted.values_ordered Obj.ukey fun _ _ he => (inv.entry he).2

theorem UInv.qGet_iff {t : TableS} (inv : UInv t.primary t.uIdx) (key : Key) (plen : Nat) (x : Obj) :
    qGet t .u key plen = some x ↔ t.primary.get x.id = some x ∧ x.ukey = key := by
  simp only [qGet]
  rw [inv.char]
  exact and_congr_right fun _ => eq_comm

end Sdb.Tbl
