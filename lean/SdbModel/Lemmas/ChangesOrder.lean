import SdbModel.Lemmas.ChangesWatch

/-! Global order of delivery: everything an open iterator in good standing delivers over its whole life, across all
    `Next` calls and snapshots, is strictly ascending in revision (`Inv3`).  Nothing is said of a closed iterator;
    one created in the open transaction after that transaction wrote to the table has delivered nothing. -/
namespace Sdb.Chg
open Sdb.Tbl Sdb.Chg.OMap

/-- whatever the entry `e` of the open write transaction holds at or below the committed revision was already in `t` -/
structure WExt (t e : TableS) : Prop where
  live : ∀ k o, (k, o) ∈ e.primary → o.rev ≤ t.rev → (k, o) ∈ t.primary
  grave : ∀ k g, (k, g) ∈ e.grave → g.rev ≤ t.rev → (k, g) ∈ t.grave

/-- what has been delivered so far against table `t` and the cursors: whatever `t` holds at or below a delivered
    revision has been passed by the cursors -/
structure Ordered (log : List Change) (it : ChangeIter) (t : TableS) : Prop where
  asc : AscRev log
  le : ∀ c ∈ log, c.rev ≤ t.rev
  live : ∀ c ∈ log, ∀ k o, (k, o) ∈ t.primary → o.rev ≤ c.rev → o.rev ≤ it.revision
  grave : ∀ c ∈ log, ∀ k g, (k, g) ∈ t.grave → g.rev ≤ c.rev → g.rev ≤ it.deleteRevision

structure Inv3 (s : St) : Prop where
  wext : ∀ es, s.db.wtxn = some es → ∀ i, WExt (tbl s.db.root i) (tbl es i)
  ord : ∀ (ci : Nat) (it : ChangeIter), s.db.iters[ci]? = some it → it.closed = false →
      Live s it → Ordered (s.log ci) it (tbl s.db.root it.table)

theorem Ordered.nil (it : ChangeIter) (t : TableS) : Ordered [] it t := by
  constructor
  · exact List.Pairwise.nil
  · intro c hc; cases hc
  · intro c hc; cases hc
  · intro c hc; cases hc

theorem Ordered.congr {log : List Change} {it it' : ChangeIter} {t t' : TableS} (h : Ordered log it t)
    (h1 : it'.revision = it.revision) (h2 : it'.deleteRevision = it.deleteRevision)
    (h3 : t.rev ≤ t'.rev) (h4 : ∀ k o, (k, o) ∈ t'.primary → o.rev ≤ t.rev → (k, o) ∈ t.primary)
    (h5 : ∀ k g, (k, g) ∈ t'.grave → g.rev ≤ t.rev → (k, g) ∈ t.grave) : Ordered log it' t' := by
  constructor
  · exact h.asc
  · intro c hc; exact Nat.le_trans (h.le c hc) h3
  · intro c hc k o ho hle
    rw [h1]
    exact h.live c hc k o (h4 k o ho (Nat.le_trans hle (h.le c hc))) hle
  · intro c hc k g hg hle
    rw [h2]
    exact h.grave c hc k g (h5 k g hg (Nat.le_trans hle (h.le c hc))) hle

theorem WStep.wext {t e e' : TableS} (w : WStep e e') (hT : TInv e) (hx : WExt t e) (hle : t.rev ≤ e.rev) : WExt t e' := by
  cases w with
  | modify g o m hb =>
    rcases modify_mem hT g o m with h | w
    · rw [h]; exact hx
    · constructor
      · intro k x hx' hr
        rcases (w.primary k x).mp hx' with ⟨_, e2⟩ | ⟨_, hm⟩
        · rw [e2, modNew_rev] at hr; omega
        · exact hx.live k x hm hr
      · intro k x hx' hr
        exact hx.grave k x ((w.grave k x).mp hx').1 hr
  | delete g id hb =>
    rcases delete_mem hT g id with h | ⟨old, _, w⟩
    · rw [h]; exact hx
    · constructor
      · intro k x hx' hr
        exact hx.live k x ((w.primary k x).mp hx').2 hr
      · intro k x hx' hr
        rcases (w.grave k x).mp hx' with ⟨_, _, e2⟩ | ⟨_, hm⟩
        · rw [e2] at hr; simp only at hr; omega
        · exact hx.grave k x hm hr
  | aux _ _ hp _ hg =>
    constructor
    · intro k x hx' hr; rw [hp] at hx'; exact hx.live k x hx' hr
    · intro k x hx' hr; rw [hg] at hx'; exact hx.grave k x hx' hr

theorem Ordered.consume {t : TableS} (hT : TInv t) {log : List Change} {it it' : ChangeIter}
    (h : Ordered log it t) (hr : it.revision + 1 < 2 ^ 64) (hd : it.deleteRevision + 1 < 2 ^ 64)
    (taken rest : List Change) (hp : pendingOf t it.revision it.deleteRevision = taken ++ rest)
    (h1 : it'.revision = (cursors it.revision it.deleteRevision taken).1)
    (h2 : it'.deleteRevision = (cursors it.revision it.deleteRevision taken).2) :
    Ordered (log ++ taken) it' t := by
  have hasc := pendingOf_asc hT it.revision it.deleteRevision
  rw [hp] at hasc
  obtain ⟨hascT, _, hcross⟩ := List.pairwise_append.mp hasc
  obtain ⟨hrest, hr', hd'⟩ := pendingOf_cursors hT taken rest hr hd hp
  rw [← h1, ← h2] at hrest
  rw [← h1] at hr'
  rw [← h2] at hd'
  -- whatever was pending lies above everything delivered before
  have hlog : ∀ x ∈ taken ++ rest, ∀ a ∈ log, a.rev < x.rev := by
    intro x hx a ha
    rw [← hp] at hx
    obtain ⟨hxr, hcase⟩ := (mem_pendingOf hT _ _ hr hd x).mp hx
    apply Nat.lt_of_not_le
    intro hle
    rcases hcase with ⟨_, hm, hgt⟩ | ⟨_, hm, hgt⟩
    · have := h.live a ha _ _ ((hT.pr x.obj).mpr hm) (by omega); omega
    · have := h.grave a ha _ _ ((hT.gg x.obj).mpr hm) (by omega); omega
  -- and what the new cursors have not passed is the rest, above everything delivered
  have hnew : ∀ x, x ∈ pendingOf t it'.revision it'.deleteRevision → ∀ c ∈ log ++ taken, c.rev < x.rev := by
    intro x hx c hc
    rw [hrest] at hx
    rcases List.mem_append.mp hc with hc | hc
    · exact hlog x (List.mem_append_right _ hx) c hc
    · exact hcross c hc x hx
  constructor
  · exact List.pairwise_append.mpr ⟨h.asc, hascT, fun a ha b hb => hlog b (List.mem_append_left _ hb) a ha⟩
  · intro c hc
    rcases List.mem_append.mp hc with hc | hc
    · exact h.le c hc
    · exact pendingOf_rev_le hT _ _ hr hd c (by rw [hp]; exact List.mem_append_left _ hc)
  · intro c hc k o ho hle
    exact Nat.le_of_not_lt fun hlt =>
      absurd (hnew _ (update_mem_pendingOf hT hr' hd' ho hlt) c hc) (Nat.not_lt.mpr hle)
  · intro c hc k g hg hle
    exact Nat.le_of_not_lt fun hlt =>
      absurd (hnew _ (delete_mem_pendingOf hT hr' hd' hg hlt) c hc) (Nat.not_lt.mpr hle)

theorem Inv3.of_none {s : St} (hw : s.db.wtxn = none)
    (h : ∀ (ci : Nat) (it : ChangeIter), s.db.iters[ci]? = some it → it.closed = false →
      it.tracker ∈ (tbl s.db.root it.table).trackers → Ordered (s.log ci) it (tbl s.db.root it.table)) : Inv3 s :=
  ⟨fun es he => (by rw [hw] at he; cases he), fun ci it hi hc hl => h ci it hi hc (hl.registered hw)⟩

theorem Inv3.init : Inv3 St.init :=
  .of_none rfl fun _ _ h => by simp [St.init, newDB] at h

theorem Inv3.beginW {s : St} (h3 : Inv3 s) (lm la : Bool) : Inv3 { s with db := s.db.beginW lm la } := by
  refine ⟨fun es he i => ?_, fun ci it hi hc hl => h3.ord ci it hi hc (hl.of_beginW lm la)⟩
  obtain ⟨l, e⟩ := (beginW_entries s.db lm la he).2 i
  rw [e]
  exact ⟨fun k o ho _ => ho, fun k g hg _ => hg⟩

theorem Inv3.abort {s : St} (h3 : Inv3 s) : Inv3 { s with db := s.db.abort } :=
  .of_none rfl fun ci it hi hc hr => h3.ord ci it hi hc (.of_registered hr)

theorem Inv3.commit {s : St} (h : Inv s) (h3 : Inv3 s) : Inv3 { s with db := s.db.commit } := by
  cases hw : s.db.wtxn with
  | none => rw [commit_none hw]; exact h3
  | some es =>
    obtain ⟨root', e, hroot⟩ := commit_some hw (h.wOld es hw).2
    rw [e]
    refine .of_none rfl fun ci it hi hc hr => ?_
    have hr : it.tracker ∈ (tbl root' it.table).trackers := hr
    show Ordered (s.log ci) it (tbl root' it.table)
    rw [hroot] at hr ⊢
    by_cases hlk : (tbl es it.table).locked
    · rw [if_pos hlk] at hr ⊢
      obtain ⟨hrev, hprimary, _, hgrave, _⟩ := commitEntry_fields (tbl es it.table)
      have hr' : it.tracker ∈ (tbl es it.table).trackers := hr
      have hx := h3.wext es hw it.table
      rcases h.live_or_pend hw hi hc hr' with hlive | ⟨_, p⟩
      · exact (h3.ord ci it hi hc hlive).congr rfl rfl (hrev ▸ (h.wRel es hw it.table).rev)
          (fun k o ho hle => hx.live k o (hprimary ▸ ho) hle) (fun k g hg hle => hx.grave k g (hgrave ▸ hg) hle)
      · -- created in this transaction after earlier writes: nothing delivered yet
        rw [p.log]
        exact Ordered.nil _ _
    · rw [if_neg hlk] at hr ⊢
      exact h3.ord ci it hi hc (.of_registered hr)

theorem Inv3.write {s : St} (h : Inv s) (h3 : Inv3 s) (es : List TableS) (i : Nat) (t' : TableS)
    (hw : s.db.wtxn = some es) (w : WStep (tbl es i) t') : Inv3 { s with db := setW s.db i t' } := by
  rw [setW_some hw]
  refine ⟨fun es' he j => ?_, fun ci it hi hc hl => h3.ord ci it hi hc (hl.of_write hw w rfl rfl)⟩
  cases he
  exact tbl_set_forall (P := fun j t => WExt (tbl s.db.root j) t) (h3.wext es hw)
    (w.wext (h.wT es hw i) (h3.wext es hw i) (h.wRel es hw i).rev) j

theorem Inv3.create {s : St} (h : Inv s) (h3 : Inv3 s) (ti : Nat) : Inv3 { s with db := iterCreate s.db ti } := by
  rcases iterCreate_spec s.db ti with e | ⟨es, hw, _, it0, _, _, _, _, _, _, _, _, e⟩
  · rw [e]; exact h3
  rw [e]
  refine ⟨fun es' he j => ?_, fun ci it hi hc hlv => ?_⟩
  · cases he
    refine tbl_set_forall (P := fun j t => WExt (tbl s.db.root j) t) (h3.wext es hw) ?_ j
    exact ⟨(h3.wext es hw ti).live, (h3.wext es hw ti).grave⟩
  · have hi' : (s.db.iters.push it0)[ci]? = some it := hi
    rcases getElem?_push_cases hi' with hi' | ⟨c1, _⟩
    · exact h3.ord ci it hi' hc (hlv.of_create hw rfl rfl (Nat.ne_of_lt (h.freshI ci it hi')))
    · show Ordered (s.log ci) it _
      rw [h.logFresh ci (Nat.le_of_eq c1.symm)]
      exact Ordered.nil _ _

theorem Inv3.next {s : St} (h : Inv s) (h3 : Inv3 s) (ci : Nat) (k : Int)
    (committed current : List TableS)
    (hc : committed = s.db.root ∨ (s.db.wtxn.isSome ∧ committed = s.db.oldRoot)) :
    Inv3 { db := (iterNext s.db ci committed current k).1,
           log := fun j => if j = ci then s.log ci ++ (iterNext s.db ci committed current k).2.1 else s.log j } := by
  rcases h.next_cases ci k committed current hc rfl with e | ⟨it, it', taken, rest, m⟩
  · rw [e]; exact h3
  · refine ⟨fun es he i => by rw [m.root]; exact h3.wext es (m.wtxn ▸ he) i, fun cj x hx hxc hl => ?_⟩
    rw [m.root]
    rcases m.cases hx with ⟨a, e⟩ | ⟨a, hx'⟩
    · subst a e
      have hli : Live s it := hl.congr m.root m.wtxn m.table m.tracker m.base
      have hrle := (h.reg cj it m.hi (m.closed ▸ hxc) hli).rle
      have hdle := (h.reg cj it m.hi (m.closed ▸ hxc) hli).dle
      have hT := h.rootT it.table
      have hb := hT.bound
      rw [m.logSelf, m.table]
      exact (h3.ord cj it m.hi (m.closed ▸ hxc) hli).consume hT (by omega) (by omega) taken rest m.isPrefix
        m.revision m.deleteRevision
    · rw [m.logOther cj a]
      exact h3.ord cj x hx' hxc (hl.congr m.root m.wtxn rfl rfl rfl)

theorem Inv3.close {s : St} (h3 : Inv3 s) (ci : Nat) (hw : s.db.wtxn = none) :
    Inv3 { s with db := iterClose s.db ci } := by
  rcases iterClose_spec s.db ci with e | ⟨it, h1, e⟩
  · rw [e]; exact h3
  · rw [e]
    refine .of_none hw fun cj x hx hxc hr => ?_
    rcases getElem?_set!_cases (lt_size_of_getElem? h1) hx with ⟨_, e⟩ | ⟨_, hx'⟩
    · subst e; cases hxc
    · have u := tbl_close_fields s.db.root it.table it.tracker x.table
      exact (h3.ord cj x hx' hxc (.of_registered (u.trackers _ hr))).congr rfl rfl (Nat.le_of_eq u.rev.symm)
        (fun k o ho _ => u.primary ▸ ho) (fun k g hg _ => u.grave ▸ hg)

theorem Inv3.gcWrite {s : St} (h : Inv s) (h3 : Inv3 s) (hw : s.db.wtxn = none) (dead dead' : List (Nat × List Key))
    (paused trig : Bool) :
    Inv3 { s with db := { (gcApply s.db dead) with gcDead := dead', gcPaused := paused, gcTrig := trig } } := by
  have hwt : (gcApply s.db dead).wtxn = none := hw
  refine .of_none hwt fun ci it hi hc hr => ?_
  obtain ⟨gr, g, e⟩ := gcTable_frame (tbl s.db.root it.table) (deadKeys dead it.table)
  have hm := gcTable_mem (h.rootT it.table) (deadKeys dead it.table)
  have hr : it.tracker ∈ (tbl (gcApply s.db dead).root it.table).trackers := hr
  show Ordered (s.log ci) it (tbl (gcApply s.db dead).root it.table)
  rw [tbl_gcApply] at hr ⊢
  have hr : it.tracker ∈ (tbl s.db.root it.table).trackers := by rw [e] at hr; exact hr
  refine (h3.ord ci it hi hc (.of_registered hr)).congr rfl rfl ?_ (fun k o ho _ => ?_) (fun k g hg _ => ((hm.2 k g).mp hg).1)
  · rw [e]; exact Nat.le_refl _
  · rw [e] at ho; exact ho

theorem Inv3.gcScanStep {s : St} (h3 : Inv3 s) :
    Inv3 { s with db := { s.db with gcDead := gcScan s.db, gcPaused := true, gcTrig := false } } :=
  ⟨h3.wext, h3.ord⟩

theorem Step.inv3 {s s' : St} (st : Step s s') (h : Inv s) (h3 : Inv3 s) : Inv3 s' := by
  cases st with
  | beginW lm la _ => exact h3.beginW lm la
  | commit => exact h3.commit h
  | abort => exact h3.abort
  | write es i t' hw w => exact h3.write h es i t' hw w
  | create ti => exact h3.create h ti
  | next ci k committed current hc => exact h3.next h ci k committed current hc
  | close ci hw => exact h3.close ci hw
  | gcScan => exact h3.gcScanStep
  | gcApplyPaused hw =>
    exact h3.gcWrite h hw s.db.gcDead [] (paused := false) (trig := (Tbl.gcApply s.db s.db.gcDead).gcTrig)
  | gcRun hw =>
    exact h3.gcWrite h hw (Tbl.gcScan s.db) s.db.gcDead
      (paused := (Tbl.gcApply s.db (Tbl.gcScan s.db)).gcPaused) (trig := false)

theorem Reach.inv3 {s : St} (r : Reach s) : Inv3 s := by
  induction r with
  | init => exact Inv3.init
  | step hr st ih => exact st.inv3 hr.inv ih
end Sdb.Chg
